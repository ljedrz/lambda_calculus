import LC.Model.Term
import LC.Model.Subst
import LC.Model.Reduce
import LC.Spec.Beta
import LC.Spec.Strategy
import LC.Spec.NormalForms
import LC.Spec.Position
import LC.Spec.FreeVars
import LC.Spec.Supercomb
import LC.Proofs.Subst
import LC.Proofs.SubstTop
import LC.Proofs.Beta
import LC.Proofs.Scheme
import LC.Proofs.Refine.All
import LC.Proofs.Confluence
import LC.Proofs.Standard
import LC.Proofs.Normalisation
import LC.Proofs.HeadSpine
import LC.Proofs.FreeVars
import LC.Proofs.PSubst
import LC.Proofs.Reflection
import LC.Proofs.NorRead
import LC.Props.C02
import LC.Props.C18
import LC.Props.C19
import LC.Model.Encode
import LC.Model.Parser
import LC.Model.Display
import LC.Drv.Ops2
import LC.Gen.All
import LC.Proofs.Complete.All
import LC.Proofs.HybridNormal
import LC.Proofs.Positions
import LC.Proofs.ReduceLemmas
import LC.Props.C01
import LC.Props.C03
import LC.Props.C04
import LC.Props.C05
import LC.Props.C06
import LC.Props.C07
import LC.Props.C08
import LC.Spec.Decode
import LC.Proofs.Num.Closed
import LC.Proofs.Num.Toolkit
import LC.Props.C12
import LC.Props.C17
import LC.Props.C09
import LC.Proofs.Syntax.Display
import LC.Props.C10
import LC.Props.C11
import LC.Props.C13
import LC.Props.C14
import LC.Proofs.Num.BinaryExact
import LC.Props.C14Exact
import LC.Props.C15
import LC.Proofs.Eager.BigStep
import LC.Proofs.Eager.Typed
import LC.Proofs.Eager.Church
import LC.Proofs.Eager.ChurchCbv
import LC.Proofs.Eager.ChurchHapA
import LC.Proofs.Eager.ChurchHapB
import LC.Proofs.Eager.ChurchAppA
import LC.Proofs.Eager.ChurchAppB
import LC.Proofs.Eager.Binary
import LC.Proofs.Eager.StumpFu
import LC.Proofs.Eager.ScottParigot
import LC.Proofs.Eager.ListA
import LC.Proofs.Eager.ListB
import LC.Props.C16Base
import LC.Props.C16Grid
import LC.Props.C16
import LC.Proofs.UDParam
import LC.Proofs.UDParamReduce
import LC.Proofs.UDParamInj
import LC.Props.C08Param
import LC.Proofs.Named
import LC.Proofs.NamedInv
import LC.Props.C02Named
import LC.Spec.ClassicAllSpec
import LC.Proofs.Syntax.ClassicShape
import LC.Proofs.Syntax.ClassicAll
import LC.Props.C09All
import LC.Proofs.PositionsMore
import LC.Proofs.PositionsHap
import LC.Proofs.PositionsRel
import LC.Props.C05More
import LC.Proofs.Syntax.Cursor
import LC.Props.C09Cursor
import LC.Proofs.DisplayArith
import LC.Props.C10Arith
import LC.Proofs.List.More
import LC.Proofs.List.Functionals
import LC.Proofs.List.MoreHap
import LC.Proofs.List.OpenLibA
import LC.Proofs.List.OpenLibB
import LC.Proofs.List.MoreHapLib
import LC.Props.C16More
import LC.Proofs.Syntax.CursorTrace
import LC.Props.C09CursorMore
import LC.Proofs.PositionsOrder
import LC.Props.C05Order
import LC.Proofs.Syntax.ClassicRename
import LC.Props.C09AllMore
import LC.Props.C16Init
import LC.Proofs.Syntax.Numeral
import LC.Proofs.Syntax.DebugLex
import LC.Proofs.Syntax.DebugFormat
import LC.Proofs.Syntax.DebugDigits
import LC.Props.C11Sharp
import LC.Props.C10Sharp
import LC.Proofs.List.HigherHap
import LC.Props.C16HigherHap
import LC.Proofs.Bounded
import LC.Proofs.BoundedStep
import LC.Proofs.BoundedRun
import LC.Proofs.BoundedTraversal
import LC.Props.C02Bounded
import LC.Props.C01BoundedTraversal
import LC.Proofs.BoundedTraversalExact
import LC.Proofs.BoundedTraversalExactAll
import LC.Proofs.BoundedTraversalRaise
import LC.Props.C01BoundedExact
import LC.Drv.Codec
import LC.Drv.Wire
import LC.Drv.Ops1
import LC.Proofs.DriverCodec
import LC.Proofs.DriverCodecMore
import LC.Proofs.DriverCodecExpr
import LC.Proofs.DriverExec
import LC.Props.TieCodec
import LC.Props.TieCodecExec
import LC.Proofs.FuelBounds
import LC.Proofs.FuelBoundsUpperAll
import LC.Proofs.FuelBoundsNormal
import LC.Props.C04Fuel
import LC.Proofs.Eager.KernelTerm
import LC.Proofs.Eager.Reflect
import LC.Proofs.Eager.Numerals
import LC.Proofs.GridEval
