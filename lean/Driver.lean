/-
Line-protocol executor for the model (DESIGN §3.2).  Reads one operation per line on stdin,
prints one canonical result line per operation — the same line `harness exec` prints from the
real crate.  Imports only `LC.Model.*` and `LC.Drv.*` (import-free of Mathlib/Std), so it links natively.
The pure codec (`tokenize`, `decTerm`, `showTerm`, `orderOf`, `resTerm`, ...) lives in `LC/Drv/Codec.lean` (namespace `Drv`),
where it is total and proved faithful (`LC/Proofs/DriverCodec*.lean`, `LC/Props/TieCodec.lean`); the line executor
`Drv.exec` lives in `LC/Drv/Ops1.lean` (and `LC/Drv/Ops2.lean`).  This file is only the read-print loop.
-/
import LC.Model.Term
import LC.Model.Subst
import LC.Model.Reduce
import LC.Model.Encode
import LC.Model.Parser
import LC.Model.Display
import LC.Drv.Codec
import LC.Drv.Ops1

open LC LC.Term

namespace Drv

partial def loop (h : IO.FS.Stream) (out : IO.FS.Stream) : IO Unit := do
  let line ← h.getLine
  if line.isEmpty then return ()
  let l := (line.dropRightWhile (fun c => c == '\n' || c == '\r'))
  out.putStrLn (exec l)
  loop h out

end Drv

def main : IO Unit := do
  let out ← IO.getStdout
  Drv.loop (← IO.getStdin) out
