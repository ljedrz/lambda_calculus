/-
Independent specification of "supercombinator" (the definition the documentation of
`is_supercombinator` links to), used by property C18.  Definitions only.

Everything lives in `LC.Spec.SC` so that the auxiliary names (`hasUD`, `closedAt`, …) cannot
clash with similarly named definitions elsewhere in `LC.Spec`.
-/
import LC.Model.Term

namespace LC
namespace Spec
namespace SC
open Term

/-- no index exceeds the number of enclosing binders (counting `d` binders of context);
    UD (index 0) is not a free variable here -/
def closedAt (d : Nat) : Term → Bool
  | var i => decide (i ≤ d)
  | abs b => closedAt (d + 1) b
  | app l r => closedAt d l && closedAt d r

/-- `var 0` (the `UD` placeholder) occurs -/
def hasUD : Term → Bool
  | var i => i == 0
  | abs b => hasUD b
  | app l r => hasUD l || hasUD r

/-- strip the leading abstractions: `t = absN n E` (n-fold abs) with `E` not an abstraction -/
def stripAbs : Term → Nat × Term
  | abs b => let (n, e) := stripAbs b; (n + 1, e)
  | t => (0, t)

/-- the maximal abstraction subterms of `E` (those not inside another abstraction of `E`) -/
def topAbs : Term → List Term
  | var _ => []
  | abs b => [abs b]
  | app l r => topAbs l ++ topAbs r

/-- Supercombinator (Wikipedia / Peyton Jones): a closed term `λx₁…xₙ.E` (n ≥ 0, `E` not an
    abstraction) such that every abstraction occurring in `E`, read again with all its leading
    binders as one `λy₁…yₘ.E'`, is itself a supercombinator.
    It suffices to ask it of the maximal ones, those inside their bodies `E'` are reached recursively. -/
inductive Supercombinator : Term → Prop
  | mk (t : Term) : closedAt 0 t = true →
      (∀ s ∈ topAbs (stripAbs t).2, Supercombinator s) → Supercombinator t

end SC
end Spec
end LC
