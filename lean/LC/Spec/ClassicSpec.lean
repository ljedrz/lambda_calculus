/-
Specification of the CLASSIC notation (`λx.λy.x y`) — property C09, Classic half.

* `closesOk`, `scopedPrefix`: parenthesis scoping of named tokens.
* `resolve` / `resolveAll`: reference name resolution on named tokens (scopes + free-name list),
  independent of the deque / counters used by the code.
* `cshape`, `shape`: tokens with names / indices forgotten.
* `WfName`, `NameEnd`, `Renders`, `ClsOk`, `EndsTop`: what it means for a string to be a rendering
  of a list of named tokens (glyph choice and whitespace are free; identifiers are a letter followed
  by alphanumeric characters).
* `tokenStage`: the token-level stage of `parse`, shared by the two notations.
* `NTerm`, `toDB`, `toDeBruijn`: named terms and the standard named → De Bruijn translation.
* `printN`, `printD`: token printers with the crate's parenthesisation discipline;
  `PrintsN`, `PrintsD`: all admissible printings (any redundant parentheses).
-/
import LC.Model.Parser

namespace LC.Spec.Cl
open LC LC.Parser LC.Parser.CToken LC.Parser.Token

abbrev Name := List Nat

/-! ## Scoping of named tokens -/

/-- Named tokens are well-scoped w.r.t. parentheses iff every `)` has a matching `(`
(`depth` = number of currently open parentheses).  Binders opened inside a parenthesis group are
closed by its `)`; binders at top level stay open to the end. -/
def closesOk : List CToken → (depth : Nat) → Bool
  | [], _ => true
  | CLparen :: ts, d => closesOk ts (d + 1)
  | CRparen :: _, 0 => false
  | CRparen :: ts, d + 1 => closesOk ts d
  | _ :: ts, d => closesOk ts d

/-- Number of tokens up to and including the first unmatched `)` (all of them if there is none):
the part of the input that the conversion looks at. -/
def scopedPrefix : List CToken → (depth : Nat) → Nat
  | [], _ => 0
  | CLparen :: ts, d => scopedPrefix ts (d + 1) + 1
  | CRparen :: _, 0 => 1
  | CRparen :: ts, d + 1 => scopedPrefix ts d + 1
  | _ :: ts, d => scopedPrefix ts d + 1

/-! ## Reference name resolution -/

/-- Reference name resolution, independent of the deque/counters of the code: process the tokens
left to right with
* `scopes : List (List Name)` — one list of binder names per open parenthesis level, innermost
  level first; within a level the innermost (most recent) binder first; so `scopes.flatten` lists
  all binders in scope, innermost first;
* `free : List Name` — the free names met so far, in order of first appearance.

A name occurrence bound at position `p` of `scopes.flatten` becomes the index `p + 1`; a free name
becomes `(number of binders in scope) + (its rank in free) + 1`. -/
def resolve : List CToken → (scopes : List (List Name)) → (free : List Name) → Option (List Token)
  | [], _, _ => some []
  | _ :: _, [], _ => some []            -- no scope at all (not reachable from `resolveAll`)
  | CLambda n :: ts, sc :: scs, free =>
    (Lambda :: ·) <$> resolve ts ((n :: sc) :: scs) free
  | CLparen :: ts, sc :: scs, free =>
    (Lparen :: ·) <$> resolve ts ([] :: sc :: scs) free
  | CRparen :: _, [_], _ =>
    some [Rparen]                       -- unmatched `)`: the Rust code stops converting here
  | CRparen :: ts, _ :: sc :: scs, free =>
    (Rparen :: ·) <$> resolve ts (sc :: scs) free
  | CName n :: ts, sc :: scs, free =>
    let bound := (sc :: scs).flatten
    match bound.idxOf? n with
    | some p => (Number (p + 1) :: ·) <$> resolve ts (sc :: scs) free
    | none =>
      match free.idxOf? n with
      | some r => (Number (bound.length + r + 1) :: ·) <$> resolve ts (sc :: scs) free
      | none => (Number (bound.length + free.length + 1) :: ·) <$> resolve ts (sc :: scs) (free ++ [n])

/-- resolution of a complete token list: one (top-level) scope, no binder, no free name yet -/
def resolveAll (ts : List CToken) : Option (List Token) := resolve ts [[]] []

/-! ## Shapes (tokens up to names / indices) -/

/-- a named token with its name forgotten -/
def cshape : CToken → Token
  | CLambda _ => Lambda
  | CLparen => Lparen
  | CRparen => Rparen
  | CName _ => Number 0

/-- an index token with its index forgotten -/
def shape : Token → Token
  | Number _ => Number 0
  | t => t

/-! ## Renderings of named tokens as strings -/

/-- A name (an identifier, usable both as a binder and as a variable): a first code point that is
alphabetic and not a lambda glyph, followed by alphanumeric code points; no code point is the dot
(a binder name ends at the dot) and no code point is the glyph `λ` (a letter for Unicode, but it
ends a variable name and opens a binder: `xλy.y` is `x`, `λy.`, `y`).

Nothing else has to be said per character: inside a name the lexer only asks "alphanumeric and not
`λ`?", and that an alphanumeric character (in particular a letter) is not whitespace, a parenthesis
or a backslash is a fact about the classification (`ClsOk`).  (For Rust's classification the dot is
not alphanumeric either, so there the dot clause is redundant: `wfName_of_unicode`.)

(The code accepts a little more for BINDER names — after its first character a binder name may
contain `λ`, pinned by a test of the crate — but such a binder cannot be referred to by any
variable; the well-formed renderings are the natural ones, with one notion of name.) -/
def WfName (cls : CharCls) (n : Name) : Prop :=
  (∃ c cs, n = c :: cs ∧ cls.isAlpha c = true ∧ isLam c = false ∧ ∀ d ∈ cs, cls.isAlnum d = true) ∧
  (∀ d ∈ n, d ≠ cDot) ∧
  ∀ d ∈ n, d ≠ cLambda

/-- what may follow a variable name: the end of the input, or a character that is NOT alphanumeric,
or the glyph `λ` (which is alphanumeric for Unicode but ends a name all the same).  That character
is not part of the name; it is lexed at top level like any other character (so it must be
whitespace, a parenthesis, a glyph — `x\y.y` and `xλy.y` are `x`, `\y.`, `y` — …: this is what
`Renders` requires of the remaining string). -/
def NameEnd (cls : CharCls) : List Nat → Prop
  | [] => True
  | c :: _ => cls.isAlnum c = false ∨ c = cLambda

/-- `Renders cls cts s`: the string `s` is a rendering of the named tokens `cts`.
Arbitrary whitespace may surround tokens; a binder is `glyph ++ name ++ "."` with either glyph;
a variable name is followed by the end of the input or by a character that is not alphanumeric
or is the glyph `λ` (`NameEnd`), with which the rendering of the remaining tokens starts: whitespace,
a parenthesis or the glyph of a binder — either glyph: the backslash is not alphanumeric (`ClsOk`)
and `λ`, although a letter for Rust, ends a name too; no separator is needed (a letter other than
`λ`, which would start another name, is alphanumeric and continues the name). -/
inductive Renders (cls : CharCls) : List CToken → List Nat → Prop
  | nil : Renders cls [] []
  | ws {c cts s} : cls.isWs c = true → Renders cls cts s → Renders cls cts (c :: s)
  | lparen {cts s} : Renders cls cts s → Renders cls (CLparen :: cts) (cLparen :: s)
  | rparen {cts s} : Renders cls cts s → Renders cls (CRparen :: cts) (cRparen :: s)
  | lam {g n cts s} : isLam g = true → WfName cls n → Renders cls cts s →
      Renders cls (CLambda n :: cts) (g :: (n ++ cDot :: s))
  | name {n cts s} : WfName cls n → NameEnd cls s → Renders cls cts s →
      Renders cls (CName n :: cts) (n ++ s)

/-- the facts about the character classification that the lexer theorems about renderings need; those about ALL
strings add that the dot is not alphanumeric, the one about an empty binder name that it is not a letter (`hdot`)
(all of them checked against Rust's `char` methods for every code point by the harness):
* whitespace is neither a lambda glyph nor a parenthesis;
* a letter is alphanumeric;
* the delimiters — whitespace, the parentheses, the backslash — are not alphanumeric, i.e. they end
  an identifier.  (`λ` IS alphanumeric for Rust; the lexer ends an identifier at it by an explicit
  test, so nothing is assumed about it.  The dot matters only inside binders, see `WfName`.) -/
def ClsOk (cls : CharCls) : Prop :=
  (∀ c, cls.isWs c = true → isLam c = false ∧ c ≠ cLparen ∧ c ≠ cRparen) ∧
  (∀ c, cls.isAlpha c = true → cls.isAlnum c = true) ∧
  (∀ c, cls.isAlnum c = true →
    cls.isWs c = false ∧ c ≠ cLparen ∧ c ≠ cRparen ∧ c ≠ cBackslash)

/-- the last character of `s` (if any) is whitespace, a parenthesis or a dot: after a rendering
with this property the lexer is back at top level (not inside a name: under `ClsOk` a well-formed
name ends with an alphanumeric character other than the dot, which is none of these).  (The
glyphs, although they end a name, are no alternative here: after a glyph the lexer is inside a
binder, and no rendering ends with a glyph since a binder ends with its dot.) -/
def EndsTop (cls : CharCls) (s : List Nat) : Prop :=
  ∀ c, s.getLast? = some c → cls.isWs c = true ∨ c = cLparen ∨ c = cRparen ∨ c = cDot

/-! ## The token-level stage shared by the two notations -/

/-- what `parse` does with a list of De Bruijn tokens, whichever notation they came from:
`get_ast`, then `fold_exprs` (verbatim from the model of `parse`) -/
def tokenStage (toks : List Token) : Outcome :=
  match getAst toks with
  | .error e => .err e
  | .ok (.Sequence es) =>
    match foldExprs es with
    | .ok t => .ok t
    | .error e => .err e
  | .ok _ => .err .InvalidExpression

/-! ## Named terms and the standard translation to De Bruijn terms -/

/-- λ-terms with names -/
inductive NTerm where
  | nvar (n : Name)
  | nlam (n : Name) (body : NTerm)
  | napp (f a : NTerm)
deriving Repr, DecidableEq

open NTerm Term

/-- The standard named → De Bruijn translation.  `binders` = the binders in scope, innermost
first; `free` = the free names met so far in order of first appearance (threaded left to right).
A bound name becomes the position of its innermost binder + 1; a free name becomes
`binders.length + (its rank in free) + 1`. -/
def toDB (binders : List Name) (free : List Name) : NTerm → Term × List Name
  | nvar n =>
    match binders.idxOf? n with
    | some p => (var (p + 1), free)
    | none =>
      match free.idxOf? n with
      | some r => (var (binders.length + r + 1), free)
      | none => (var (binders.length + free.length + 1), free ++ [n])
  | nlam n b =>
    let (t, free') := toDB (n :: binders) free b
    (abs t, free')
  | napp f a =>
    let (t₁, free₁) := toDB binders free f
    let (t₂, free₂) := toDB binders free₁ a
    (app t₁ t₂, free₂)

/-- translation of a whole (possibly open) term -/
def toDeBruijn (t : NTerm) : Term := (toDB [] [] t).1

/-- `parenthesize_if` on token lists -/
def parenC (ts : List CToken) (c : Bool) : List CToken := if c then CLparen :: (ts ++ [CRparen]) else ts
def parenD (ts : List Token) (c : Bool) : List Token := if c then Lparen :: (ts ++ [Rparen]) else ts

/-- Printer of named terms to named tokens, with the parenthesisation discipline of the crate's
printers (`ctx` = context precedence: 0 top level / abstraction body, 2 function position,
3 argument position): an abstraction is parenthesised unless it is a body or the whole term,
an application is parenthesised in argument position. -/
def printN : NTerm → (ctx : Nat) → List CToken
  | nvar n, _ => [CName n]
  | nlam n b, ctx => parenC (CLambda n :: printN b 0) (decide (ctx > 1))
  | napp f a, ctx => parenC (printN f 2 ++ printN a 3) (ctx == 3)

/-- the same printer for De Bruijn terms, to De Bruijn tokens -/
def printD : Term → (ctx : Nat) → List Token
  | var i, _ => [Number i]
  | abs b, ctx => parenD (Lambda :: printD b 0) (decide (ctx > 1))
  | app f a, ctx => parenD (printD f 2 ++ printD a 3) (ctx == 3)

/-! ## All admissible printings (redundant parentheses allowed) -/

/-- `PrintsN t arg fin cts`: the named tokens `cts` are a printing of `t` with at least the
necessary parentheses and any number of redundant ones.
`arg` = the position is an argument position (an application must be parenthesised there);
`fin` = the position is the last one of its enclosing expression (only there may an abstraction
stay bare, because it extends as far to the right as possible).
A whole expression is printed at `arg = false`, `fin = true`. -/
inductive PrintsN : NTerm → (arg fin : Bool) → List CToken → Prop
  | var {n arg fin} : PrintsN (nvar n) arg fin [CName n]
  | lam {n b arg cts} : PrintsN b false true cts → PrintsN (nlam n b) arg true (CLambda n :: cts)
  | app {f a fin c₁ c₂} : PrintsN f false false c₁ → PrintsN a true fin c₂ →
      PrintsN (napp f a) false fin (c₁ ++ c₂)
  | paren {t arg fin cts} : PrintsN t false true cts →
      PrintsN t arg fin (CLparen :: (cts ++ [CRparen]))

/-- the same for De Bruijn terms and De Bruijn tokens -/
inductive PrintsD : Term → (arg fin : Bool) → List Token → Prop
  | var {i arg fin} : PrintsD (var i) arg fin [Number i]
  | lam {b arg ts} : PrintsD b false true ts → PrintsD (abs b) arg true (Lambda :: ts)
  | app {f a fin t₁ t₂} : PrintsD f false false t₁ → PrintsD a true fin t₂ →
      PrintsD (app f a) false fin (t₁ ++ t₂)
  | paren {t arg fin ts} : PrintsD t false true ts →
      PrintsD t arg fin (Lparen :: (ts ++ [Rparen]))

end LC.Spec.Cl
