/-
Positional descriptions of the redex selected by the remaining three orders — head spine (HSP), hybrid normal (HNO),
hybrid applicative (HAP) — in the style of `LC/Spec/Selection.lean`: relations that quantify over positions, do not
recurse over the term and mention neither `stepX` nor `betaX`.  `Sel o`, the selection relation of every order, is put
together from these and the four of `Selection.lean` at the head of `Proofs/PositionsMore.lean`.
`Props/C05More` relates the small-step functions to these.
-/
import LC.Spec.Selection
import LC.Model.Reduce

namespace LC
namespace Spec
open Term

/-- innermost on its own head spine: `p` is a redex and no redex lies strictly below `p` on the
path that only takes operator sides (`L`) and abstraction bodies (`B`), i.e. never enters an
argument -/
def spineInnermost (t : Term) (p : Pos) : Prop :=
  redexAt t p ∧ ∀ s, s ≠ [] → noArg s → ¬ redexAt t (p ++ s)

/-- HSP, head spine ("abstractions reduced only in head position", to head normal form): only
redexes on the head spine of the term — positions reached from the root through abstraction bodies
and operator sides, never entering an argument — are contracted, and of those the INNERMOST
(deepest) one: `beta_hsp` reduces the operator of an application by `beta_hsp` (which descends
under the operator's abstractions) before it contracts the application itself. -/
def isHSP (t : Term) (p : Pos) : Prop := noArg p ∧ spineInnermost t p

/-- HNO, hybrid normal ("a mix between HSP (head spine) and NOR (normal)"): take the
leftmost-outermost redex (the one NOR contracts, at `q`); HNO contracts the innermost redex on the
head spine of THAT redex (`p = q ++ s`, `s` never enters an argument, nothing deeper on that spine).
So the outermost-leftmost choice is NOR's, the choice within the chosen redex is HSP's. -/
def isHNO (t : Term) (p : Pos) : Prop :=
  spineInnermost t p ∧ ∃ q s, isLMO t q ∧ p = q ++ s ∧ noArg s

/-- the order in which CBV visits redexes outside abstractions: inner before outer, and left before
right -/
def cbvBefore (p q : Pos) : Prop := leftOf p q ∨ ∃ s, s ≠ [] ∧ p = q ++ s

/-- HAP, hybrid applicative ("a mix between CBV (call-by-value) and APP (applicative)"): the order
in which HAP prefers redex positions.  In an application `l r`:
1. first the *eager* redexes of the operator `l` — those not under a binder of `l` — in CBV order
   (`beta_cbv` on the operator);
2. then the redexes of the operand `r`, all of them, by the same rules (`beta_hap` on the operand);
3. then the application itself if `l` is an abstraction;
4. last the remaining redexes of the operator (those under binders of `l`), by the same rules.
Under an abstraction: the same rules in the body. -/
inductive hapBefore : Pos → Pos → Prop
  /-- same rules under a binder -/
  | underB {p q : Pos} : hapBefore p q → hapBefore (Dir.B :: p) (Dir.B :: q)
  /-- same rules inside the operand -/
  | inR {p q : Pos} : hapBefore p q → hapBefore (Dir.R :: p) (Dir.R :: q)
  /-- eager redexes of the operator before anything in the operand -/
  | eagerL_R {p q : Pos} : weak p → hapBefore (Dir.L :: p) (Dir.R :: q)
  /-- eager redexes of the operator before the application itself -/
  | eagerL_root {p : Pos} : weak p → hapBefore (Dir.L :: p) []
  /-- the operand before the application itself -/
  | R_root {p : Pos} : hapBefore (Dir.R :: p) []
  /-- the operand before the redexes under binders of the operator -/
  | R_lateL {p q : Pos} : ¬ weak q → hapBefore (Dir.R :: p) (Dir.L :: q)
  /-- the application itself before the redexes under binders of its operator -/
  | root_lateL {q : Pos} : ¬ weak q → hapBefore [] (Dir.L :: q)
  /-- within the operator: eager redexes before those under binders -/
  | eager_late {p q : Pos} : weak p → ¬ weak q → hapBefore (Dir.L :: p) (Dir.L :: q)
  /-- within the operator: eager redexes among themselves in CBV order -/
  | eager_eager {p q : Pos} : weak p → weak q → cbvBefore p q → hapBefore (Dir.L :: p) (Dir.L :: q)
  /-- within the operator: redexes under binders among themselves by the same rules -/
  | late_late {p q : Pos} : ¬ weak p → ¬ weak q → hapBefore p q → hapBefore (Dir.L :: p) (Dir.L :: q)

/-- HAP contracts the redex that comes first in the order `hapBefore` -/
def isHAP (t : Term) (p : Pos) : Prop := redexAt t p ∧ ∀ q, redexAt t q → q = p ∨ hapBefore p q

end Spec
end LC
