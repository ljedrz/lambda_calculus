/-
UD (`var 0`) is an inert constant: it behaves exactly like a free variable that nobody else uses.

`udToFree k d t` replaces every occurrence of UD in `t` (a term standing under `d` binders) by the outer reference
number `k + 1`, i.e. by `var (k + d + 1)` at that place.  This file shows that the substitution machinery of the
model (`shiftFV`, `applyAux`, `contract`, `isAbs`) and the specification's substitution (`lift`, `substTop`, `Beta`)
commute with `udToFree k d`, for every `k` and `d` (no freshness hypothesis).  The strategies and the fuel-indexed
reducers are treated in `LC/Proofs/UDParamReduce.lean`.
-/
import LC.Spec.Beta
import LC.Proofs.SubstTop

namespace LC
namespace Term

def udToFree (k : Nat) (d : Nat) : Term → Term
  | var 0 => var (k + d + 1)
  | var (i+1) => var (i+1)
  | abs b => abs (udToFree k (d+1) b)
  | app l r => app (udToFree k d l) (udToFree k d r)

@[simp] theorem udToFree_zero (k d : Nat) : udToFree k d (var 0) = var (k + d + 1) := rfl

@[simp] theorem udToFree_succ (k d i : Nat) : udToFree k d (var (i + 1)) = var (i + 1) := rfl

theorem udToFree_var (k d i : Nat) : udToFree k d (var i) = var (if i = 0 then k + d + 1 else i) := by
  cases i <;> simp [udToFree]

theorem udToFree_pos (k d : Nat) {i : Nat} (h : 0 < i) : udToFree k d (var i) = var i := by
  cases i with
  | zero => omega
  | succ i => rfl

@[simp] theorem udToFree_abs (k d : Nat) (b : Term) : udToFree k d (abs b) = abs (udToFree k (d+1) b) := rfl

@[simp] theorem udToFree_app (k d : Nat) (l r : Term) :
    udToFree k d (app l r) = app (udToFree k d l) (udToFree k d r) := rfl

/-- `udToFree` commutes with `update_free_variables`: the replaced UD is an outer reference, so it is shifted with the
other free variables of the argument -/
theorem udToFree_shiftFV (k d added own : Nat) (t : Term) :
    udToFree k (d + added + own) (shiftFV added own t) = shiftFV added own (udToFree k (d + own) t) := by
  induction t generalizing own with
  | var i =>
    cases i with
    | zero =>
      have h1 : ¬ (0 > own) := by omega
      have h2 : k + (d + own) + 1 > own := by omega
      simp only [shiftFV, udToFree_zero, h1, h2, if_false, if_true]
      congr 1; omega
    | succ i =>
      simp only [shiftFV, udToFree_succ]
      split
      · exact udToFree_pos _ _ (by omega)
      · rfl
  | abs b ih =>
    simp only [shiftFV, udToFree]
    rw [show d + added + own + 1 = d + added + (own + 1) by omega, ih (own + 1)]
    rfl
  | app l r ihl ihr => simp [shiftFV, udToFree, ihl, ihr]

/-- `udToFree` commutes with `_apply` at every depth `e + 1 ≥ 1`: the body stands under `d + e + 1` binders, the
argument under `d`, the result under `d + e` -/
theorem udToFree_applyAux (k d e : Nat) (rhs t : Term) :
    udToFree k (d + e) (applyAux rhs (e + 1) t)
      = applyAux (udToFree k d rhs) (e + 1) (udToFree k (d + e + 1) t) := by
  induction t generalizing e with
  | var i =>
    cases i with
    | zero =>
      have h1 : ¬ (0 = e + 1) := by omega
      have h2 : ¬ (0 > e + 1) := by omega
      have h3 : ¬ (k + (d + e + 1) + 1 = e + 1) := by omega
      have h4 : k + (d + e + 1) + 1 > e + 1 := by omega
      simp only [applyAux, udToFree, h1, h2, h3, h4, if_false, if_true]
      congr 1
    | succ i =>
      simp only [udToFree, applyAux]
      by_cases h : i + 1 = e + 1
      · simp only [h, if_true]
        have := udToFree_shiftFV k d e 0 rhs
        simpa using this
      · simp only [h, if_false]
        split
        · have : i + 1 - 1 = (i - 1) + 1 := by omega
          rw [this]; rfl
        · rfl
  | abs b ih =>
    simp only [applyAux, udToFree]
    rw [show d + e + 1 = d + (e + 1) by omega, ih (e + 1)]
  | app l r ihl ihr => simp [applyAux, udToFree, ihl, ihr]

theorem udToFree_contract (k d : Nat) (b a : Term) :
    udToFree k d (contract b a) = contract (udToFree k (d + 1) b) (udToFree k d a) := by
  have := udToFree_applyAux k d 0 a b
  simpa [contract] using this

@[simp] theorem isAbs_udToFree (k d : Nat) (t : Term) : isAbs (udToFree k d t) = isAbs t := by
  cases t with
  | var i => cases i <;> rfl
  | abs b => rfl
  | app l r => rfl

end Term

namespace Spec
open Term

theorem udToFree_lift (k d c : Nat) (t : Term) :
    udToFree k (d + c + 1) (lift c t) = lift c (udToFree k (d + c) t) := by
  rw [lift_eq_shiftFV, lift_eq_shiftFV]
  have := udToFree_shiftFV k d 1 c t
  simpa [Nat.add_assoc, Nat.add_comm 1 c] using this

theorem udToFree_substTop (k d : Nat) (b a : Term) :
    udToFree k d (substTop b a) = substTop (udToFree k (d + 1) b) (udToFree k d a) := by
  rw [substTop_eq, substTop_eq, udToFree_contract]

theorem udToFree_beta {t u : Term} (h : Beta t u) (k d : Nat) : Beta (udToFree k d t) (udToFree k d u) := by
  induction h generalizing d with
  | red b a => rw [udToFree_substTop]; exact Beta.red _ _
  | congAbs _ ih => exact Beta.congAbs (ih (d + 1))
  | congAppL _ ih => exact Beta.congAppL (ih d)
  | congAppR _ ih => exact Beta.congAppR (ih d)

end Spec
end LC
