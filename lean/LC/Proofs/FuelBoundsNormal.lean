/-
The fuel `height t + 1` is NECESSARY on strategy-normal forms for the four orders that traverse the
whole term (`Order.full`: NOR, HNO, APP, HAP): a call that returns had at least that much fuel.
-/
import LC.Proofs.Complete.All

namespace LC
namespace Term

/-- a call of such an order on a strategy-normal term descends to every leaf -/
theorem betaOrd_nf_needs {o : Order} (ho : o.full = true) {L c : Nat} (hg : gate L c = false)
    (hc : L = 0 ∨ c ≤ L) {t : Term} (hn : stepOrd o t = none) {fuel : Nat} {p : Term × Nat}
    (h : betaOrd o L fuel t c = some p) : height t + 1 ≤ fuel := by
  obtain ⟨hu, hde⟩ := Order.full_iff.1 ho
  induction t generalizing fuel p with
  | var i =>
    cases fuel with
    | zero => rw [betaOrd_zero] at h; cases h
    | succ f => exact Nat.succ_le_succ (Nat.zero_le _)
  | abs b ihb =>
    cases fuel with
    | zero => rw [betaOrd_zero] at h; cases h
    | succ f =>
      rw [betaOrd_succ] at h
      obtain ⟨b', c', hb, _⟩ := visit_abs_eq_some hg hu h
      rw [stepOrd_abs, hu, if_pos rfl, Option.map_eq_none_iff] at hn
      have := ihb hn hb
      simp only [height]; omega
  | app l r ihl ihr =>
    cases fuel with
    | zero => rw [betaOrd_zero] at h; cases h
    | succ f =>
      rw [betaOrd_succ] at h
      obtain ⟨hl, hr, hna, hdeep⟩ := stepOrd_app_eq_none.1 hn
      obtain ⟨l', c1, r', c2, h1, h2, h3⟩ := visit_app_eq_some hg h
      obtain ⟨e1, e2⟩ := betaOrd_nf_eq_some h1 hc hl
      subst l' c1
      obtain ⟨e1, e2⟩ := callIf_nf_eq_some h2 hc hr
      subst r' c2
      have key : height l + 1 ≤ f ∧ height r + 1 ≤ f := by
        rcases finish_eq_some h3 with ⟨b, rfl, _⟩ | ⟨_, ⟨hd, _⟩ | ⟨hd, l2, c3, r2, c4, h4, h5, _⟩⟩
        · cases hna
        · have he : o.eager = true := by
            rcases hde with h' | h'
            · rw [hd] at h'; cases h'
            · exact h'
          rw [Order.head_of_not_deep hd] at h1 hl
          rw [he] at h2
          exact ⟨ihl hl h1, ihr (hr he) h2⟩
        · obtain ⟨e1, e2⟩ := betaOrd_nf_eq_some h4 hc (hdeep hd).1
          subst l2 c3
          refine ⟨ihl (hdeep hd).1 h4, ?_⟩
          cases he : o.eager with
          | true => rw [he] at h2; exact ihr (hr he) h2
          | false => rw [he] at h5; exact ihr ((hdeep hd).2 he) h5
      simp only [height]; omega

theorem reduce_nf_needs {o : Order} (ho : o.full = true) {L fuel : Nat} {t : Term} {r : Term × Nat}
    (hn : stepOrd o t = none) (h : reduce o L fuel t = some r) : height t + 1 ≤ fuel :=
  betaOrd_nf_needs ho (gate_eq_false.2 (by omega)) (by omega) hn h

end Term
end LC
