/-
The representation boundary of De Bruijn indices: what the answer of a checked traversal says about the
representability of the iterates of its strategy (all limits, all fuels).

`betaOrdChk_sim` (`Proofs/BoundedTraversal.lean`) says that a checked call that does not panic answers as the unbounded
call.  Here the other half is threaded through the scheme of the traversals:

* `Ex M L f x t c` for the answer `x` of a checked call on `t` started at count `c`:
  - `x = ret t' c'` → `c' = c + k` and ALL iterates `0 … k` of the strategy `f` from `t` are representable
    (`RunLe M f k t`);
  - `x = panic` → some iterate of `f` from `t`, reached within the limit, is NOT representable (`Bad M L f c t`);
  - `x = fuel` → nothing.
* `betaOrdChk_ex`: `Ex M L (stepOrd o) (betaOrdChk M o L fuel t c) t c` for every order, limit, fuel, count and
  representable input.

As in the unbounded refinement (`Proofs/Refine/All.lean`) every sub-call is a run of some strategy in a one-hole context
`C`; `Ex.bind` turns what is known of the sub-call (`Ex`, and the run it made) into progress of the whole call
(`Prog`) or into a non-representable iterate of the whole term (`Bad`), by determinism of `Iter`.
-/
import LC.Proofs.BoundedTraversal
import LC.Proofs.BoundedRun

namespace LC
namespace Term

/-- some iterate of `f` from `t`, reached within the limit when counting from `c`, is not representable -/
def Bad (M L : Nat) (f : Term → Option Term) (c : Nat) (t : Term) : Prop :=
  ∃ k u, Iter f k t u ∧ M < maxIndex u ∧ (L = 0 ∨ c + k ≤ L)

theorem Iter.ne_zero_of_maxIndex_lt {M k : Nat} {f : Term → Option Term} {t u : Term} (it : Iter f k t u)
    (ht : maxIndex t ≤ M) (hu : M < maxIndex u) : k ≠ 0 := by
  rintro rfl
  cases it
  omega

/-- what the answer `x` of a checked call on `t` started at count `c` says about the iterates of `f` from `t` -/
def Ex (M L : Nat) (f : Term → Option Term) (x : ChkRes) (t : Term) (c : Nat) : Prop :=
  match x with
  | .fuel => True
  | .ret _ c' => ∃ k, c' = c + k ∧ RunLe M f k t
  | .panic => Bad M L f c t

def Prog (M : Nat) (g : Term → Option Term) (T : Term) (c : Nat) (U : Term) (c1 : Nat) : Prop :=
  ∃ k, c1 = c + k ∧ Iter g k T U ∧ RunLe M g k T

theorem Prog.step {M : Nat} {g : Term → Option Term} {T U : Term} {c : Nat}
    (hT : maxIndex T ≤ M) (hs : g T = some U) (hU : maxIndex U ≤ M) : Prog M g T c U (c + 1) :=
  ⟨1, rfl, Iter.one hs, Iter.All.succ hT hs (Iter.All.zero hU)⟩

theorem Prog.iter {M : Nat} {g : Term → Option Term} {T U : Term} {c c1 : Nat}
    (h : Prog M g T c U c1) : Iter g (c1 - c) T U := by
  obtain ⟨k, e, it, _⟩ := h
  exact it.cast (by omega)

/-- a run of a sub-call seen inside the context `C`, given the lifting of the sub-strategy's runs into the context
(needed only if the sub-call contracts at all, hence only if budget is left) -/
theorem Prog.lift {M L : Nat} {f g : Term → Option Term} {C : Term → Term} {l l' : Term} {c k : Nat}
    (it : Iter f k l l') (hle : L ≠ 0 → c + k ≤ L) (r : RunLe M f k l)
    (hC : ∀ x, maxIndex x ≤ M → maxIndex (C x) ≤ M)
    (hl : (L = 0 ∨ c + 1 ≤ L) → ∀ j a, Iter f j l a → Iter g j (C l) (C a)) :
    Prog M g (C l) c (C l') (c + k) := by
  by_cases hk : k = 0
  · subst hk
    cases it
    exact ⟨0, rfl, Iter.zero _, Iter.All.zero (hC _ (Iter.All.start r))⟩
  · have lf := hl (by omega)
    refine ⟨k, rfl, lf _ _ it, ?_⟩
    intro j w hj itw
    obtain ⟨a, i1, _⟩ := Iter.split j hj it
    have := Iter.det itw (lf _ _ i1)
    subst this
    exact hC _ (r j a hj i1)

theorem Bad.lift {M L : Nat} {f g : Term → Option Term} {C : Term → Term} {l : Term} {c : Nat}
    (hm : maxIndex l ≤ M) (hC : ∀ x, maxIndex x ≤ maxIndex (C x))
    (hl : (L = 0 ∨ c + 1 ≤ L) → ∀ j a, Iter f j l a → Iter g j (C l) (C a))
    (h : Bad M L f c l) : Bad M L g c (C l) := by
  obtain ⟨k, u, it, hu, hb⟩ := h
  have hk := it.ne_zero_of_maxIndex_lt hm hu
  exact ⟨k, C u, hl (by omega) _ _ it, by have := hC u; omega, hb⟩

/-- a non-representable iterate within the limit lies within the run that the unbounded call performs -/
theorem Post.bad_within {M L c : Nat} {f : Term → Option Term} {t t' : Term} {c' : Nat}
    (P : Post f L c t t' c') (h : Bad M L f c t) :
    ∃ j u, c + j ≤ c' ∧ Iter f j t u ∧ M < maxIndex u := by
  obtain ⟨k', e, it, hle, hnf⟩ := P
  obtain ⟨k, u, itu, hu, hb⟩ := h
  refine ⟨k, u, ?_, itu, hu⟩
  by_cases hk : k ≤ k'
  · omega
  · have hn : f t' = none := hnf (by omega)
    have := RL.iter_le_of_none it hn itu
    omega

/-- conversely, the run of the unbounded call stays within the limit -/
theorem Post.bad_of_within {M L c : Nat} {f : Term → Option Term} {t t' : Term} {c' : Nat}
    (P : Post f L c t t' c') (h : ∃ j u, c + j ≤ c' ∧ Iter f j t u ∧ M < maxIndex u) : Bad M L f c t := by
  obtain ⟨k', e, it, hle, hnf⟩ := P
  obtain ⟨j, u, hj, itu, hu⟩ := h
  refine ⟨j, u, itu, hu, ?_⟩
  by_cases hL : L = 0
  · exact Or.inl hL
  · have := hle hL; right; omega

theorem Ex.of_prog {M L : Nat} {g : Term → Option Term} {T U : Term} {c c1 : Nat} {x : ChkRes}
    (p : Prog M g T c U c1) (h : Ex M L g x U c1) : Ex M L g x T c := by
  obtain ⟨k, e, it, r⟩ := p
  cases x with
  | fuel => trivial
  | ret t' c' =>
    obtain ⟨k2, e2, r2⟩ := h
    exact ⟨k + k2, by omega, Iter.All.trans it r r2⟩
  | panic =>
    obtain ⟨k2, u, it2, hu, hb⟩ := h
    exact ⟨k + k2, u, it.trans it2, hu, by omega⟩

theorem Ex.ret_refl {M L : Nat} {g : Term → Option Term} {T : Term} (c : Nat) (h : maxIndex T ≤ M) (t' : Term) :
    Ex M L g (.ret t' c) T c :=
  ⟨0, rfl, Iter.All.zero h⟩

theorem Ex.panic_step {M L : Nat} {g : Term → Option Term} {U V : Term} {c1 : Nat}
    (hs : g U = some V) (hV : M < maxIndex V) (hb : L = 0 ∨ c1 + 1 ≤ L) : Ex M L g .panic U c1 :=
  ⟨1, V, Iter.one hs, hV, hb⟩

/-- a sub-call on `s` in the context `C`, followed by `kx`: a panic of the sub-call is a panic of the call, and
after a returning sub-call the call goes on from `C s'` -/
theorem Ex.bind {M L : Nat} {f g : Term → Option Term} {C : Term → Term} {s : Term} {c : Nat} {x : ChkRes}
    {kx : Term → Nat → ChkRes} (hs : maxIndex s ≤ M) (hC : ∀ y, maxIndex y ≤ maxIndex (C y))
    (hC' : ∀ y, maxIndex y ≤ M → maxIndex (C y) ≤ M)
    (hl : (L = 0 ∨ c + 1 ≤ L) → ∀ j a, Iter f j s a → Iter g j (C s) (C a))
    (E : Ex M L f x s c) (P : ∀ s' c1, x = .ret s' c1 → Post f L c s s' c1)
    (K : ∀ s' c1, x = .ret s' c1 → maxIndex s' ≤ M → Ex M L g (kx s' c1) (C s') c1) :
    Ex M L g (x.bind kx) (C s) c := by
  cases x with
  | fuel => trivial
  | panic => exact Bad.lift hs hC hl E
  | ret s' c1 =>
    obtain ⟨k, rfl, it, hle, _⟩ := P s' _ rfl
    obtain ⟨k', e', r⟩ := E
    obtain rfl : k' = k := by omega
    exact Ex.of_prog (Prog.lift it hle r hC' hl) (K s' _ rfl (r k' s' (Nat.le_refl _) it))

section
variable {M L : Nat} {selfC : Order → Term → Nat → ChkRes}

theorem maxIndex_app_le {l r : Term} {M : Nat} (hl : maxIndex l ≤ M) (hr : maxIndex r ≤ M) :
    maxIndex (app l r) ≤ M := by
  simp only [maxIndex]; omega

theorem finishChk_ex
    (ih : ∀ o t c, maxIndex t ≤ M → (L = 0 ∨ c ≤ L) → Ex M L (stepOrd o) (selfC o t c) t c)
    (hpost : ∀ o t c t' c', (L = 0 ∨ c ≤ L) → selfC o t c = .ret t' c' → Post (stepOrd o) L c t t' c')
    {o : Order} {l r : Term} {c : Nat} (hl : maxIndex l ≤ M) (hr : maxIndex r ≤ M) (hc : L = 0 ∨ c ≤ L)
    (hn1 : (L = 0 ∨ c + 1 ≤ L) → stepOrd o.head l = none)
    (hn2 : (L = 0 ∨ c + 1 ≤ L) → o.eager = true → stepOrd o r = none) :
    Ex M L (stepOrd o) (finishChk M L selfC o l r c) (app l r) c := by
  rcases redex_cases l L c with ⟨b, rfl, hbud⟩ | hred
  · rw [finishChk_red hbud]
    have hb : L = 0 ∨ c + 1 ≤ L := by rw [budget_eq_true] at hbud; omega
    simp only [maxIndex] at hl
    have hstep : stepOrd o (app (abs b) r) = some (contract b r) := stepOrd_app_red (hn1 hb) (hn2 hb)
    cases hk : contractChk M b r with
    | none => exact Ex.panic_step hstep (contractChk_none_lt hl hr hk) hb
    | some u =>
      obtain ⟨rfl, hu⟩ := contractChk_some_le hl hr hk
      exact Ex.of_prog (Prog.step (maxIndex_app_le hl hr) hstep hu) (ih o _ (c + 1) hu hb)
  · have hna : (L = 0 ∨ c + 1 ≤ L) → isAbs l = false := fun hb => isAbs_eq_false_of_budget hred (by omega)
    cases hd : o.deep with
    | false => rw [finishChk_shallow hred hd]; exact Ex.ret_refl c (maxIndex_app_le hl hr) _
    | true =>
      rw [finishChk_deep hred hd]
      refine Ex.bind (C := (app · r)) hl (fun y => by simp only [maxIndex]; omega)
        (fun y hy => maxIndex_app_le hy hr)
        (fun hb j a it => (it.ord_app_left hd (hn1 hb) (hna hb) (hn2 hb)).1)
        (ih o l c hl hc) (fun l' c1 hx => hpost o l c l' c1 hc hx) ?_
      intro l' c1 hx hl'
      have P := hpost o l c l' c1 hc hx
      cases he : o.eager with
      | true => exact Ex.ret_refl c1 (maxIndex_app_le hl' hr) _
      | false =>
        have hc1 := P.le_limit
        have hle := P.le
        refine Ex.bind (C := (app l' ·)) hr (fun y => by simp only [maxIndex]; omega)
          (fun y hy => maxIndex_app_le hl' hy) (fun hb j a it => ?_)
          (ih o r c1 hr hc1) (fun r' c2 hx2 => hpost o r c1 r' c2 hc1 hx2)
          (fun r' c2 _ hr' => Ex.ret_refl c2 (maxIndex_app_le hl' hr') _)
        have hb0 : L = 0 ∨ c + 1 ≤ L := by omega
        obtain ⟨_, _, h2⟩ := P.iter.ord_app_left (r := r) hd (hn1 hb0) (hna hb0) (hn2 hb0)
        exact it.ord_app_right hd he h2 ((hpost o l c l' _ hc hx).nf hb)

theorem visitChk_ex
    (ih : ∀ o t c, maxIndex t ≤ M → (L = 0 ∨ c ≤ L) → Ex M L (stepOrd o) (selfC o t c) t c)
    (hpost : ∀ o t c t' c', (L = 0 ∨ c ≤ L) → selfC o t c = .ret t' c' → Post (stepOrd o) L c t t' c')
    (o : Order) (t : Term) (c : Nat) (ht : maxIndex t ≤ M) (hc : L = 0 ∨ c ≤ L) :
    Ex M L (stepOrd o) (visitChk M L selfC o t c) t c := by
  cases hg : gate L c with
  | true => rw [visitChk_gate hg]; exact Ex.ret_refl c ht _
  | false =>
  cases t with
  | var i => rw [visitChk_var]; exact Ex.ret_refl c ht _
  | abs b =>
    cases hu : o.under with
    | false => rw [visitChk_abs_stop hu]; exact Ex.ret_refl c ht _
    | true =>
      rw [visitChk_abs hg hu]
      exact Ex.bind (C := abs) ht (fun y => Nat.le_refl _) (fun y hy => hy)
        (fun _ j a it => it.ord_abs hu) (ih o b c ht hc) (fun b' c1 hx => hpost o b c b' c1 hc hx)
        (fun b' c1 _ hb' => Ex.ret_refl c1 (show maxIndex (abs b') ≤ M from hb') _)
  | app l r =>
    rw [visitChk_app hg]
    simp only [maxIndex] at ht
    have hl : maxIndex l ≤ M := by omega
    have hr : maxIndex r ≤ M := by omega
    refine Ex.bind (C := (app · r)) hl (fun y => by simp only [maxIndex]; omega)
      (fun y hy => maxIndex_app_le hy hr) (fun _ j a it => it.ord_app_head r)
      (ih _ l c hl hc) (fun l' c1 hx => hpost _ l c l' c1 hc hx) ?_
    intro l' c1 hx hl'
    have P1 := hpost _ l c l' c1 hc hx
    have hc1 := P1.le_limit
    cases he : o.eager with
    | false =>
      exact finishChk_ex ih hpost hl' hr hc1 P1.nf (fun _ he' => by rw [he] at he'; cases he')
    | true =>
      refine Ex.bind (C := (app l' ·)) hr (fun y => by simp only [maxIndex]; omega)
        (fun y hy => maxIndex_app_le hl' hy) (fun hb j a it => it.ord_app_arg he (P1.nf hb))
        (ih o r c1 hr hc1) (fun r' c2 hx2 => hpost o r c1 r' c2 hc1 hx2) ?_
      intro r' c2 hx2 hr'
      have P2 := hpost o r c1 r' c2 hc1 hx2
      have hle := P2.le
      exact finishChk_ex ih hpost hl' hr' P2.le_limit (fun hb => P1.nf (by omega)) (fun hb _ => P2.nf hb)

end

theorem betaOrdChk_ex (M : Nat) (o : Order) (L fuel : Nat) (t : Term) (c : Nat) (ht : maxIndex t ≤ M)
    (hc : L = 0 ∨ c ≤ L) : Ex M L (stepOrd o) (betaOrdChk M o L fuel t c) t c := by
  induction fuel generalizing o t c with
  | zero => rw [betaOrdChk_zero]; trivial
  | succ fuel ih =>
    rw [betaOrdChk_succ]
    exact visitChk_ex (fun o t c => ih o t c) (fun o t c t' c' hc h => betaOrdChk_post hc h) o t c ht hc

theorem reduceChk_ex (M : Nat) (o : Order) (L fuel : Nat) (t : Term) (ht : maxIndex t ≤ M) :
    Ex M L (stepOrd o) (reduceChk M o L fuel t) t 0 :=
  betaOrdChk_ex M o L fuel t 0 ht (by omega)

end Term
end LC
