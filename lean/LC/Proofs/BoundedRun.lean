/-
The representation boundary of De Bruijn indices: runs of checked steps.

`runChk M o n t c` performs at most `n` checked steps of order `o` from `t`, counting from `c`: what a call
`reduce(o, n)` (`n ≠ 0`) of the crate does on `usize` indices, seen at the level of strategy steps (the traversals of
`Model/Reduce.lean` are the iteration of `stepOrd o`, `reduce_sound` / `reduce_complete`).  `none` = some contraction
panicked.

From `runChk_cases`:
* `runChk_eq_some_iff`: the checked run returns `(t', c)` iff the unbounded run of at most `n` steps ends in `t'`
  after `c` steps AND every term of that run is representable;
* `runChk_eq_none_iff`: it refuses iff some term reached by the unbounded run within `n` steps is not representable;
* `runChk_count`: the starting count is only added to the result.

`RunLe M f k t` ("all iterates up to the `k`-th are representable", an `Iter.All` of `Proofs/Beta.lean`) is also what
the checked traversals are measured against (`Proofs/BoundedTraversalExact.lean`).
-/
import LC.Proofs.BoundedStep
import LC.Proofs.ReduceLemmas

namespace LC
namespace Term

/-- at most `n` checked steps; `none` = panic.  `n = 0` is no step at all, as in `RL.BRun`; the limit 0 of `reduce` is
"unlimited" -/
def runChk (M : Nat) (o : Order) : Nat → Term → Nat → Option (Term × Nat)
  | 0, t, c => some (t, c)
  | n + 1, t, c =>
    match stepOrdChk M o t with
    | none => none
    | some none => some (t, c)
    | some (some t') => runChk M o n t' (c + 1)

/-- every term reached from `t` by at most `k` steps of `f` has all indices `≤ M`: `Iter.All (maxIndex · ≤ M) f k t`
written out, so that the lemmas `Iter.All.*` apply to it as they stand -/
def RunLe (M : Nat) (f : Term → Option Term) (k : Nat) (t : Term) : Prop :=
  ∀ j u, j ≤ k → Iter f j t u → maxIndex u ≤ M

theorem RunLe.mono {M k k' : Nat} {f : Term → Option Term} {t : Term} (h : RunLe M f k t) (hk : k' ≤ k) :
    RunLe M f k' t :=
  Iter.All.mono h hk

/-- what a checked run answers: either the unbounded run of at most `n` steps, all of whose terms are then
representable, or the refusal, and then some term reached within `n` steps is not representable -/
theorem runChk_cases (M : Nat) (o : Order) (n : Nat) (t : Term) (c0 : Nat) (ht : maxIndex t ≤ M) :
    (∃ t' k, RL.BRun (stepOrd o) n t t' k ∧ RunLe M (stepOrd o) k t ∧ runChk M o n t c0 = some (t', c0 + k)) ∨
    (∃ j u, j ≤ n ∧ Iter (stepOrd o) j t u ∧ M < maxIndex u ∧ runChk M o n t c0 = none) := by
  induction n generalizing t c0 with
  | zero => exact Or.inl ⟨t, 0, RL.BRun.zero t, Iter.All.zero ht, rfl⟩
  | succ n ih =>
    simp only [runChk]
    rw [stepOrdChk_eq M o t ht]
    cases hs : stepOrd o t with
    | none => exact Or.inl ⟨t, 0, ⟨Iter.zero _, Nat.zero_le _, fun _ => hs⟩, Iter.All.zero ht, rfl⟩
    | some u =>
      by_cases hu : maxIndex u ≤ M
      · rw [guardStep_some_le hu]
        rcases ih u (c0 + 1) hu with ⟨t', k, ⟨it, hle, hn⟩, r, e⟩ | ⟨j, w, hj, it, hw, e⟩
        · exact Or.inl ⟨t', k + 1, ⟨Iter.succ hs it, by omega, fun h => hn (by omega)⟩, Iter.All.succ ht hs r,
            e.trans (by rw [Nat.add_assoc, Nat.add_comm 1 k])⟩
        · exact Or.inr ⟨j + 1, w, by omega, Iter.succ hs it, hw, e⟩
      · rw [guardStep_some_gt (by omega)]
        exact Or.inr ⟨1, u, by omega, Iter.one hs, by omega, rfl⟩

theorem runChk_eq_some_iff (M : Nat) (o : Order) (n : Nat) (t : Term) (c0 : Nat) (ht : maxIndex t ≤ M)
    (t' : Term) (c' : Nat) :
    runChk M o n t c0 = some (t', c') ↔
      ∃ k, c' = c0 + k ∧ RL.BRun (stepOrd o) n t t' k ∧ RunLe M (stepOrd o) k t := by
  rcases runChk_cases M o n t c0 ht with ⟨t2, k2, B2, r2, e⟩ | ⟨j, u, hj, it, hu, e⟩
  · rw [e]
    constructor
    · intro h
      cases h
      exact ⟨k2, rfl, B2, r2⟩
    · rintro ⟨k, rfl, B, _⟩
      obtain ⟨rfl, rfl⟩ := B.unique B2
      rfl
  · rw [e]
    refine ⟨nofun, fun ⟨k, _, B, r⟩ => ?_⟩
    have := r j u (B.le_of_iter it hj) it
    omega

theorem runChk_eq_none_iff (M : Nat) (o : Order) (n : Nat) (t : Term) (c0 : Nat) (ht : maxIndex t ≤ M) :
    runChk M o n t c0 = none ↔ ∃ j u, j ≤ n ∧ Iter (stepOrd o) j t u ∧ M < maxIndex u := by
  rcases runChk_cases M o n t c0 ht with ⟨t2, k2, B2, r2, e⟩ | ⟨j, u, hj, it, hu, e⟩
  · rw [e]
    refine ⟨nofun, fun ⟨j, u, hj, it, hu⟩ => ?_⟩
    have := r2 j u (B2.le_of_iter it hj) it
    omega
  · exact ⟨fun _ => ⟨j, u, hj, it, hu⟩, fun _ => e⟩

theorem runChk_count (M : Nat) (o : Order) (n : Nat) (t : Term) (c0 : Nat) :
    runChk M o n t c0 = (runChk M o n t 0).map (fun p => (p.1, p.2 + c0)) := by
  induction n generalizing t c0 with
  | zero => simp [runChk]
  | succ n ih =>
    simp only [runChk]
    cases stepOrdChk M o t with
    | none => rfl
    | some x =>
      cases x with
      | none => simp
      | some u =>
        simp only []
        rw [ih u (c0 + 1), ih u (0 + 1)]
        cases runChk M o n u 0 with
        | none => rfl
        | some p => simp only [Option.map_some, Option.some.injEq, Prod.mk.injEq, true_and]; omega

end Term
end LC
