/-
The representation boundary of De Bruijn indices (DESIGN §9; repair F7 of DESIGN §8): the checked substitution.

In the crate indices are `usize`.  `update_free_variables` performs the only index addition of the substitution
machinery, `*i = i.checked_add(added_depth).expect("De Bruijn index overflow")`, and it is performed only for `*i > own_depth`.
The model (`Model/Subst.lean`) works on unbounded naturals.  Here, for a bound `M` (think `M = usize::MAX = 2^64 - 1`),
the CHECKED operations are defined by mirroring the Rust text, `none` standing for the panic, and shown to return
`guardIdx M (unbounded result)`: they refuse exactly when the unbounded result contains an index above `M`, and
return the unbounded result otherwise.

The other two arithmetic operations of `_apply` / `update_free_variables`:
* `*i - 1` is only evaluated for `*i > depth` (`Ordering::Greater`), so it cannot underflow, and `depth - 1` (at an
  occurrence `*i == depth`) cannot underflow because `apply` enters `_apply` with depth 0 ON THE ABSTRACTION, whose arm
  goes to depth 1 before any variable is met (the model starts at depth 1 on the body): `depth ≥ 1` at every variable.
* `depth + 1` and `own_depth + 1` are plain `usize` additions (debug: panic "attempt to add with overflow", release:
  wrap).  They count the binders passed on the way down, so they are bounded by the number of nested `Abs` nodes of the
  receiver / of the argument plus one; a `Term` with `usize::MAX` nested `Abs` nodes needs `usize::MAX` heap boxes of
  16 bytes each, more than the address space: for `M = usize::MAX` these additions cannot overflow on any term that
  exists.  The main functions below therefore keep `depth` and `own` in `Nat`.  For an arbitrary (small) `M` the remark
  is not available, so the STRICT variants `shiftFVStrict`, `applyAuxStrict` also check these two additions, and
  `shiftFVStrict_eq` / `applyAuxStrict_eq` show that they coincide with the main ones as soon as the binder nesting
  (`maxDepth`) of the terms stays within `M` — the formal content of "cannot overflow".
-/
import LC.Model.Subst

namespace LC
namespace Term

/-- `update_free_variables(added_depth, own_depth)` with its `checked_add`: `none` is the panic
"De Bruijn index overflow".  The addition is only made for `i > own`; the traversal is lhs first, then rhs, and stops
at the first failure. -/
def shiftFVChk (M added own : Nat) : Term → Option Term
  | var i => if i > own then (if i + added ≤ M then some (var (i + added)) else none) else some (var i)
  | abs b => (shiftFVChk M added (own + 1) b).map abs
  | app l r =>
    match shiftFVChk M added own l with
    | none => none
    | some l' => (shiftFVChk M added own r).map (app l')

/-- `_apply(rhs, depth)` with the checked `update_free_variables` on every substituted copy -/
def applyAuxChk (M : Nat) (rhs : Term) (depth : Nat) : Term → Option Term
  | var i =>
    if i = depth then shiftFVChk M (depth - 1) 0 rhs
    else if i > depth then some (var (i - 1))
    else some (var i)
  | abs b => (applyAuxChk M rhs (depth + 1) b).map abs
  | app l r =>
    match applyAuxChk M rhs depth l with
    | none => none
    | some l' => (applyAuxChk M rhs depth r).map (app l')

/-- what `eval` leaves in place of `(λb) a`, or the panic -/
def contractChk (M : Nat) (b a : Term) : Option Term := applyAuxChk M a 1 b

/-- `apply` on `usize`-like indices: `none` = panic, `some (.error NotAbs)` = refused without touching anything
(`unabs_ref()?` comes first), `some (.ok r)` = the receiver after the call -/
def applyChk (M : Nat) (t rhs : Term) : Option (Except TermError Term) :=
  match t with
  | abs b => (applyAuxChk M rhs 1 b).map .ok
  | _ => some (.error .NotAbs)

/-- decidable equality of the answers of `apply` (core has no instance for `Except`); used by the `decide` examples
of `Props/C02Bounded.lean`, which is why it is a global instance -/
instance instDecEqExceptBounded : DecidableEq (Except TermError Term)
  | .ok a, .ok b => if h : a = b then isTrue (by rw [h]) else isFalse (by intro e; cases e; exact h rfl)
  | .error a, .error b => if h : a = b then isTrue (by rw [h]) else isFalse (by intro e; cases e; exact h rfl)
  | .ok _, .error _ => isFalse (by intro e; cases e)
  | .error _, .ok _ => isFalse (by intro e; cases e)

/-- the unbounded result, refused if it is not representable: what the checked functions are shown to return -/
def guardIdx (M : Nat) (t : Term) : Option Term := if maxIndex t ≤ M then some t else none

theorem guardIdx_eq_some {M : Nat} {t r : Term} : guardIdx M t = some r ↔ (r = t ∧ maxIndex t ≤ M) := by
  unfold guardIdx
  by_cases h : maxIndex t ≤ M
  · simp only [h, if_true, Option.some.injEq, and_true]; exact eq_comm
  · simp [h]

theorem guardIdx_eq_none {M : Nat} {t : Term} : guardIdx M t = none ↔ M < maxIndex t := by
  unfold guardIdx
  by_cases h : maxIndex t ≤ M
  · simp only [h, if_true]; constructor
    · intro h'; cases h'
    · intro h'; omega
  · simp only [h, if_false, true_iff]; omega

/-- `guardIdx_eq_some` and `guardIdx_eq_none` in the shape of the statements of `Props/C02Bounded.lean` -/
theorem guardIdx_spec (M : Nat) (t : Term) :
    (∀ r, guardIdx M t = some r ↔ (r = t ∧ maxIndex r ≤ M)) ∧ (guardIdx M t = none ↔ M < maxIndex t) := by
  refine ⟨fun r => guardIdx_eq_some.trans ⟨?_, ?_⟩, guardIdx_eq_none⟩
  · rintro ⟨rfl, h⟩; exact ⟨rfl, h⟩
  · rintro ⟨rfl, h⟩; exact ⟨rfl, h⟩

theorem guardIdx_of_le {M : Nat} {t : Term} (h : maxIndex t ≤ M) : guardIdx M t = some t := by
  simp [guardIdx, h]

theorem guardIdx_abs (M : Nat) (b : Term) : guardIdx M (abs b) = (guardIdx M b).map abs := by
  unfold guardIdx
  simp only [maxIndex]
  by_cases h : maxIndex b ≤ M <;> simp [h]

theorem guardIdx_app (M : Nat) (l r : Term) :
    guardIdx M (app l r) =
      match guardIdx M l with
      | none => none
      | some l' => (guardIdx M r).map (app l') := by
  unfold guardIdx
  simp only [maxIndex]
  by_cases h1 : maxIndex l ≤ M
  · by_cases h2 : maxIndex r ≤ M
    · have : max (maxIndex l) (maxIndex r) ≤ M := by omega
      simp [h1, h2, this]
    · have : ¬ max (maxIndex l) (maxIndex r) ≤ M := by omega
      simp [h1, h2, this]
  · have : ¬ max (maxIndex l) (maxIndex r) ≤ M := by omega
    simp [h1, this]

/-- checked `update_free_variables` = unbounded one, guarded: every leaf the Rust code adds to is a leaf of the
result, so the first failing addition exists exactly when the result has an index above `M` -/
theorem shiftFVChk_eq (M k : Nat) (t : Term) (own : Nat) (ht : maxIndex t ≤ M) :
    shiftFVChk M k own t = guardIdx M (shiftFV k own t) := by
  induction t generalizing own with
  | var i =>
    simp only [maxIndex] at ht
    by_cases h : i > own
    · simp [shiftFVChk, shiftFV, guardIdx, maxIndex, h]
    · simp [shiftFVChk, shiftFV, guardIdx, maxIndex, h, ht]
  | abs b ih =>
    simp only [maxIndex] at ht
    simp only [shiftFVChk, shiftFV, guardIdx_abs, ih (own + 1) ht]
  | app l r ihl ihr =>
    simp only [maxIndex] at ht
    simp only [shiftFVChk, shiftFV, guardIdx_app, ihl own (by omega), ihr own (by omega)]

theorem applyAuxChk_eq (M : Nat) (a : Term) (ha : maxIndex a ≤ M) (b : Term) (d : Nat) (hb : maxIndex b ≤ M) :
    applyAuxChk M a d b = guardIdx M (applyAux a d b) := by
  induction b generalizing d with
  | var i =>
    simp only [maxIndex] at hb
    by_cases h1 : i = d
    · simp only [applyAuxChk, applyAux, h1, if_true]
      exact shiftFVChk_eq M (d - 1) a 0 ha
    · by_cases h2 : i > d
      · have : i - 1 ≤ M := by omega
        simp [applyAuxChk, applyAux, h1, h2, guardIdx, maxIndex, this]
      · simp [applyAuxChk, applyAux, h1, h2, guardIdx, maxIndex, hb]
  | abs b ih =>
    simp only [maxIndex] at hb
    simp only [applyAuxChk, applyAux, guardIdx_abs, ih (d + 1) hb]
  | app l r ihl ihr =>
    simp only [maxIndex] at hb
    simp only [applyAuxChk, applyAux, guardIdx_app, ihl d (by omega), ihr d (by omega)]

theorem contractChk_eq (M : Nat) (b a : Term) (hb : maxIndex b ≤ M) (ha : maxIndex a ≤ M) :
    contractChk M b a = guardIdx M (contract b a) :=
  applyAuxChk_eq M a ha b 1 hb

theorem contractChk_none_lt {M : Nat} {b a : Term} (hb : maxIndex b ≤ M) (ha : maxIndex a ≤ M)
    (h : contractChk M b a = none) : M < maxIndex (contract b a) := by
  rw [contractChk_eq M b a hb ha] at h
  exact guardIdx_eq_none.1 h

theorem contractChk_some_le {M : Nat} {b a u : Term} (hb : maxIndex b ≤ M) (ha : maxIndex a ≤ M)
    (h : contractChk M b a = some u) : u = contract b a ∧ maxIndex u ≤ M := by
  rw [contractChk_eq M b a hb ha] at h
  obtain ⟨rfl, hu⟩ := guardIdx_eq_some.1 h
  exact ⟨rfl, hu⟩

/-! ### which occurrence panics first

`shiftFVChk` / `applyAuxChk` stop at the FIRST failing addition of the Rust traversal: pre-order, operator before
operand.  `shiftFVPanic M added own t` is the index `i` read at that occurrence (the leftmost leaf `i > own` of `t` with
`M < i + added`); `applyAuxPanic` is the pair (depth of the occurrence of the bound variable in the body whose copy
fails, index read in the argument): leftmost occurrence in the body, then leftmost leaf in the copy.  The checked
functions return `none` exactly when there is such an occurrence; which one it is has no influence on whether the
call refuses. -/

def shiftFVPanic (M added own : Nat) : Term → Option Nat
  | var i => if i > own ∧ M < i + added then some i else none
  | abs b => shiftFVPanic M added (own + 1) b
  | app l r =>
    match shiftFVPanic M added own l with
    | some i => some i
    | none => shiftFVPanic M added own r

def applyAuxPanic (M : Nat) (rhs : Term) (depth : Nat) : Term → Option (Nat × Nat)
  | var i => if i = depth then (shiftFVPanic M (depth - 1) 0 rhs).map (fun j => (depth, j)) else none
  | abs b => applyAuxPanic M rhs (depth + 1) b
  | app l r =>
    match applyAuxPanic M rhs depth l with
    | some p => some p
    | none => applyAuxPanic M rhs depth r

/-- the index reported is one that `update_free_variables` adds to, and the addition overflows -/
theorem shiftFVPanic_eq_some {M k : Nat} {t : Term} {own i : Nat} (h : shiftFVPanic M k own t = some i) :
    own < i ∧ M < i + k := by
  induction t generalizing own with
  | var i0 =>
    simp only [shiftFVPanic] at h
    split at h
    · cases h; assumption
    · cases h
  | abs b ih =>
    have := ih (own := own + 1) h
    exact ⟨by omega, this.2⟩
  | app l r ihl ihr =>
    simp only [shiftFVPanic] at h
    cases hl : shiftFVPanic M k own l with
    | some x => rw [hl] at h; cases h; exact ihl hl
    | none => rw [hl] at h; exact ihr h

/-- the site reported is an occurrence of the bound variable at binder depth `e ≥ d` and a free index
`j` of the argument with `j + (e - 1) > M` -/
theorem applyAuxPanic_eq_some {M : Nat} {a b : Term} {d e j : Nat}
    (h : applyAuxPanic M a d b = some (e, j)) : d ≤ e ∧ 0 < j ∧ M < j + (e - 1) := by
  induction b generalizing d with
  | var i =>
    simp only [applyAuxPanic] at h
    split at h
    · rw [Option.map_eq_some_iff] at h
      obtain ⟨x, hx, e'⟩ := h
      cases e'
      exact ⟨Nat.le_refl _, shiftFVPanic_eq_some hx⟩
    · cases h
  | abs b ih =>
    have := ih (d := d + 1) h
    exact ⟨by omega, this.2⟩
  | app l r ihl ihr =>
    simp only [applyAuxPanic] at h
    cases hl : applyAuxPanic M a d l with
    | some x => rw [hl] at h; cases h; exact ihl hl
    | none => rw [hl] at h; exact ihr h

/-- unconditionally (no assumption on the indices of the inputs): the checked function refuses exactly when there is a
panicking occurrence and returns the unbounded result otherwise -/
theorem shiftFVChk_eq_ite (M k : Nat) (t : Term) (own : Nat) :
    shiftFVChk M k own t = if (shiftFVPanic M k own t).isSome then none else some (shiftFV k own t) := by
  induction t generalizing own with
  | var i =>
    simp only [shiftFVChk, shiftFVPanic, shiftFV]
    by_cases h : i > own <;> by_cases h2 : i + k ≤ M <;> simp [h, h2] <;> omega
  | abs b ih =>
    simp only [shiftFVChk, shiftFVPanic, shiftFV, ih (own + 1)]
    split <;> simp_all
  | app l r ihl ihr =>
    simp only [shiftFVChk, shiftFVPanic, shiftFV, ihl own, ihr own]
    rcases Option.eq_none_or_eq_some (shiftFVPanic M k own l) with h | ⟨i, h⟩ <;> simp [h] <;> split <;> rfl

theorem applyAuxChk_eq_ite (M : Nat) (a b : Term) (d : Nat) :
    applyAuxChk M a d b = if (applyAuxPanic M a d b).isSome then none else some (applyAux a d b) := by
  induction b generalizing d with
  | var i =>
    simp only [applyAuxChk, applyAuxPanic, applyAux]
    by_cases h1 : i = d
    · simp only [h1, if_true, Option.isSome_map]; exact shiftFVChk_eq_ite M (d - 1) a 0
    · by_cases h2 : i > d <;> simp [h1, h2]
  | abs b ih =>
    simp only [applyAuxChk, applyAuxPanic, applyAux, ih (d + 1)]
    split <;> simp_all
  | app l r ihl ihr =>
    simp only [applyAuxChk, applyAuxPanic, applyAux, ihl d, ihr d]
    rcases Option.eq_none_or_eq_some (applyAuxPanic M a d l) with h | ⟨i, h⟩ <;> simp [h] <;> split <;> rfl

theorem applyAuxChk_none_iff_panic (M : Nat) (a b : Term) (d : Nat) :
    applyAuxChk M a d b = none ↔ (applyAuxPanic M a d b).isSome = true := by
  rw [applyAuxChk_eq_ite]; split <;> simp_all

theorem contractChk_some (M : Nat) (b a r : Term) (h : contractChk M b a = some r) : r = contract b a := by
  rw [contractChk, applyAuxChk_eq_ite] at h; split at h <;> simp_all [contract]

def shiftFVStrict (M added own : Nat) : Term → Option Term
  | var i => if i > own then (if i + added ≤ M then some (var (i + added)) else none) else some (var i)
  | abs b => if own + 1 ≤ M then (shiftFVStrict M added (own + 1) b).map abs else none
  | app l r =>
    match shiftFVStrict M added own l with
    | none => none
    | some l' => (shiftFVStrict M added own r).map (app l')

def applyAuxStrict (M : Nat) (rhs : Term) (depth : Nat) : Term → Option Term
  | var i =>
    if i = depth then shiftFVStrict M (depth - 1) 0 rhs
    else if i > depth then some (var (i - 1))
    else some (var i)
  | abs b => if depth + 1 ≤ M then (applyAuxStrict M rhs (depth + 1) b).map abs else none
  | app l r =>
    match applyAuxStrict M rhs depth l with
    | none => none
    | some l' => (applyAuxStrict M rhs depth r).map (app l')

/-- the binder counter cannot overflow on a term whose binder nesting stays within `M` -/
theorem shiftFVStrict_eq (M k : Nat) (t : Term) (own : Nat) (h : own + maxDepth t ≤ M) :
    shiftFVStrict M k own t = shiftFVChk M k own t := by
  induction t generalizing own with
  | var i => rfl
  | abs b ih =>
    simp only [maxDepth] at h
    have h1 : own + 1 ≤ M := by omega
    simp only [shiftFVStrict, shiftFVChk, h1, if_true, ih (own + 1) (by omega)]
  | app l r ihl ihr =>
    simp only [maxDepth] at h
    simp only [shiftFVStrict, shiftFVChk, ihl own (by omega), ihr own (by omega)]

theorem applyAuxStrict_eq (M : Nat) (a : Term) (ha : maxDepth a ≤ M) (b : Term) (d : Nat)
    (h : d + maxDepth b ≤ M) : applyAuxStrict M a d b = applyAuxChk M a d b := by
  induction b generalizing d with
  | var i =>
    simp only [applyAuxStrict, applyAuxChk]
    rw [shiftFVStrict_eq M (d - 1) a 0 (by omega)]
  | abs b ih =>
    simp only [maxDepth] at h
    have h1 : d + 1 ≤ M := by omega
    simp only [applyAuxStrict, applyAuxChk, h1, if_true, ih (d + 1) (by omega)]
  | app l r ihl ihr =>
    simp only [maxDepth] at h
    simp only [applyAuxStrict, applyAuxChk, ihl d (by omega), ihr d (by omega)]

end Term
end LC
