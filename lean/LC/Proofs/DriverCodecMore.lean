/-
The line protocol of the driver carries values faithfully, part 2: orders, encodings, error names, call lists,
number lists, characters, tokens, names, classic tokens, code-point strings and the result printers: round trips, `Words`,
and for every printer that it prints the line of its words (`…_eq`).  The injectivity of a result printer is then one
use of `exceptLine_inj` / `optionLine_inj` / `inj_of_words` (in `LC/Props/TieCodec.lean`).
(Expression trees: `DriverCodecExpr.lean`.)
-/
import LC.Proofs.DriverCodec
import Std.Data.String.ToInt

open LC LC.Term LC.Parser

namespace Drv

/-- `w.drop k` is a slice of `w`, not a string.  The decoders read what follows a prefix (`N`, `V`, `S`, `CL:`, `CN:`) as
`(w.drop k).toString`, the copy of that slice: this is what the copy is when `w` is the prefix followed by `s`.  Where a
number is read, `simp` has turned `toNat?` of the copy into `toNat?` of the slice; `← String.Slice.toNat?_copy` turns it
back, so that this lemma applies. -/
theorem copy_drop_append (p s : String) (k : Nat) (hk : p.length = k) : ((p ++ s).drop k).copy = s := by
  apply String.toList_inj.1
  rw [String.toList_copy_drop]
  simp [← hk, ← String.length_toList]

theorem append_left_cancel {p a b : String} (h : p ++ a = p ++ b) : a = b := by
  have := congrArg String.toList h
  simp only [String.toList_append] at this
  exact String.toList_inj.1 (List.append_cancel_left this)

theorem ne_of_toNat? {w b : String} {k : Nat} {d : Char} {ds : List Char} (h : w.toNat? = some k)
    (hb : b.toList = d :: ds) (hd : d.isDigit = false) (hu : d ≠ '_') : w ≠ b := by
  rintro rfl
  rw [toNat?_eq_none_of_head hb hd hu] at h
  exact absurd h (by simp)

theorem orderOf_orderWord (o : Order) : orderOf (orderWord o) = some o := by
  cases o <;> rfl

theorem orderWord_inj {o o' : Order} (h : orderWord o = orderWord o') : o = o' :=
  inj_of_dec orderOf_orderWord h

theorem orderWord_words (o : Order) : Words [orderWord o] := by
  cases o <;> exact lit_words

theorem encOf_encWord (e : Enc.Encoding) : encOf (encWord e) = some e := by
  cases e <;> rfl

theorem encWord_words (e : Enc.Encoding) : Words [encWord e] := by
  cases e <;> exact lit_words

theorem errName_inj {e e' : TermError} (h : errName e = errName e') : e = e' := by
  cases e <;> cases e' <;> first | rfl | (revert h; decide)

theorem errName_words (e : TermError) : Words [errName e] := by
  cases e <;> exact lit_words

theorem b01_words (b : Bool) : Words [b01 b] := by
  cases b <;> exact lit_words

theorem parseCalls_zero (ws : List String) : parseCalls 0 ws = some ([], ws) := by
  simp [parseCalls]

theorem parseCalls_succ (n : Nat) (o l : String) (ws : List String) : parseCalls (n+1) (o :: l :: ws) =
    (do let o' ← orderOf o
        let l' ← l.toNat?
        let (cs, rest) ← parseCalls n ws
        pure ((o', l') :: cs, rest)) := by
  simp [parseCalls]

theorem parseCalls_callWords (cs : List (Order × Nat)) (rest : List String) :
    parseCalls cs.length ((cs.map callWords).flatten ++ rest) = some (cs, rest) := by
  induction cs with
  | nil => simp [parseCalls_zero]
  | cons c cs ih =>
    obtain ⟨o, l⟩ := c
    simp only [List.length_cons, List.map_cons, List.flatten_cons, callWords, List.cons_append,
      List.nil_append, parseCalls_succ, orderOf_orderWord, toNat?_toString, ih]
    rfl

theorem callsWords_words (cs : List (Order × Nat)) : Words (cs.map callWords).flatten :=
  Words.flatten_map (f := callWords) (fun c => (orderWord_words c.1).append (nat_words c.2)) cs

theorem decNats_toString (ns : List Nat) (rest : List String) :
    decNats ns.length (ns.map toString ++ rest) = some ns :=
  mapM_take_dec_enc toNat?_toString ns rest

theorem natWords_words (s : List Nat) : Words (s.map toString) :=
  Words.map nat_words s

theorem singleton_colon : String.singleton ':' = ":" := by decide
theorem singleton_dot : String.singleton '.' = "." := by decide

theorem decChar_charWord (x : Nat × Nat × Nat) : decChar (charWord x) = some x := by
  obtain ⟨a, b, c⟩ := x
  have : splitChar ':' (charWord (a, b, c)) = [toString a, toString b, toString c] := by
    rw [charWord, ← singleton_colon]
    apply splitChar_intercalate _ (by simp)
    intro s hs
    simp only [List.mem_cons, List.not_mem_nil, or_false] at hs
    rcases hs with rfl | rfl | rfl <;> exact not_mem_toString (by decide)
  simp only [decChar, this, toNat?_toString]
  rfl

theorem charWord_inj {x y : Nat × Nat × Nat} (h : charWord x = charWord y) : x = y :=
  inj_of_dec decChar_charWord h

theorem decChars_charWord (xs : List (Nat × Nat × Nat)) (rest : List String) :
    decChars xs.length (xs.map charWord ++ rest) = some xs :=
  mapM_take_dec_enc decChar_charWord xs rest

theorem charWord_words (x : Nat × Nat × Nat) : Words [charWord x] := by
  obtain ⟨a, b, c⟩ := x
  have : charWord (a, b, c) = toString a ++ (":" ++ toString b ++ ":" ++ toString c) := by
    simp [charWord, String.intercalate_cons_cons, String.append_assoc]
  rw [this]
  refine Words.append_right (nat_words a) ?_
  simp only [String.toList_append, List.mem_append, not_or]
  exact ⟨⟨⟨by decide, not_mem_toString (by decide)⟩, by decide⟩, not_mem_toString (by decide)⟩

theorem charWords_words (xs : List (Nat × Nat × Nat)) : Words (xs.map charWord) :=
  Words.map charWord_words xs

theorem decTok_N (s : String) : decTok ("N" ++ s) = s.toNat?.map Token.Number := by
  have h1 : "N" ++ s ≠ "L" := fun h => by simpa using congrArg String.toList h
  have h2 : "N" ++ s ≠ "(" := fun h => by simpa using congrArg String.toList h
  have h3 : "N" ++ s ≠ ")" := fun h => by simpa using congrArg String.toList h
  simp [decTok, h1, h2, h3]
  rw [← String.Slice.toNat?_copy, copy_drop_append _ _ _ (by decide)]

theorem decTok_showTok (t : Token) : decTok (showTok t) = some t := by
  cases t with
  | Number n => rw [showTok, decTok_N, toNat?_toString]; rfl
  | _ => simp [decTok, showTok]

theorem showTok_words (t : Token) : Words [showTok t] := by
  cases t with
  | Number n => exact Words.append_right lit_words (not_mem_toString (by decide))
  | _ => exact lit_words

theorem tokWords_words (ts : List Token) : Words (ts.map showTok) :=
  Words.map showTok_words ts

theorem showName_nil : showName [] = "" := by simp [showName]

theorem splitChar_showName {n : List Nat} (h : n ≠ []) : splitChar '.' (showName n) = n.map toString := by
  rw [showName, ← singleton_dot]
  apply splitChar_intercalate _ (by simpa using h)
  intro s hs
  obtain ⟨k, -, rfl⟩ := List.mem_map.1 hs
  exact not_mem_toString (by decide)

theorem showName_ne_empty {n : List Nat} (h : n ≠ []) : showName n ≠ "" := by
  intro he
  have h1 := splitChar_showName h
  rw [he] at h1
  have h2 : splitChar '.' "" = [""] := by simp [splitChar_eq]
  rw [h2] at h1
  match n, h with
  | k :: ks, _ =>
    simp only [List.map_cons, List.cons.injEq] at h1
    exact toString_nat_ne_empty k h1.1.symm

theorem decName_showName (n : List Nat) : decName (showName n) = some n := by
  by_cases h : n = []
  · subst h; simp [showName_nil, decName]
  · have := showName_ne_empty h
    simp only [decName, String.isEmpty_iff, this, if_false]
    rw [splitChar_showName h, mapM_dec_enc toNat?_toString]

theorem mem_toList_intercalate {sep : String} {l : List String} {c : Char}
    (h : c ∈ (sep.intercalate l).toList) : c ∈ sep.toList ∨ ∃ s ∈ l, c ∈ s.toList := by
  induction l with
  | nil => simp at h
  | cons t l ih =>
    cases l with
    | nil => exact Or.inr ⟨t, by simp, by simpa using h⟩
    | cons u l =>
      rw [String.intercalate_cons_cons] at h
      simp only [String.toList_append, List.mem_append] at h
      rcases h with (h | h) | h
      · exact Or.inr ⟨t, by simp, h⟩
      · exact Or.inl h
      · rcases ih h with h | ⟨s, hs, hc⟩
        · exact Or.inl h
        · exact Or.inr ⟨s, List.mem_cons_of_mem _ hs, hc⟩

theorem not_mem_showName {n : List Nat} {c : Char} (hc : c.isDigit = false) (hd : c ≠ '.') :
    c ∉ (showName n).toList := by
  intro h
  rcases mem_toList_intercalate h with h | ⟨s, hs, h⟩
  · simp at h; exact hd h
  · obtain ⟨k, -, rfl⟩ := List.mem_map.1 hs
    exact not_mem_toString hc h

theorem decCTok_CL (s : String) : decCTok ("CL:" ++ s) = (decName s).map CToken.CLambda := by
  have h1 : "CL:" ++ s ≠ "(" := fun h => by simpa using congrArg String.toList h
  have h2 : "CL:" ++ s ≠ ")" := fun h => by simpa using congrArg String.toList h
  simp [decCTok, h1, h2]
  rw [copy_drop_append _ _ _ (by decide)]

theorem decCTok_CN (s : String) : decCTok ("CN:" ++ s) = (decName s).map CToken.CName := by
  have h1 : "CN:" ++ s ≠ "(" := fun h => by simpa using congrArg String.toList h
  have h2 : "CN:" ++ s ≠ ")" := fun h => by simpa using congrArg String.toList h
  simp [decCTok, h1, h2]
  rw [copy_drop_append _ _ _ (by decide)]

theorem decCTok_showCTok (t : CToken) : decCTok (showCTok t) = some t := by
  cases t with
  | CLambda n => rw [showCTok, decCTok_CL, decName_showName]; rfl
  | CName n => rw [showCTok, decCTok_CN, decName_showName]; rfl
  | _ => simp [decCTok, showCTok]

theorem showCTok_words (t : CToken) : Words [showCTok t] := by
  cases t with
  | CLambda n => exact Words.append_right lit_words (not_mem_showName (by decide) (by decide))
  | CName n => exact Words.append_right lit_words (not_mem_showName (by decide) (by decide))
  | _ => exact lit_words

theorem ctokWords_words (ts : List CToken) : Words (ts.map showCTok) :=
  Words.map showCTok_words ts

theorem cps_foldl (s : List Nat) (acc : String) :
    s.foldl (fun acc c => acc ++ " " ++ toString c) acc = " ".intercalate (acc :: s.map toString) := by
  induction s generalizing acc with
  | nil => simp
  | cons c s ih =>
    rw [List.foldl_cons, ih, List.map_cons, String.intercalate_cons_cons]
    cases s with
    | nil => simp
    | cons d s => simp [String.intercalate_cons_cons, String.append_assoc]

theorem cps_foldl_acc (s : List Nat) (acc : String) :
    s.foldl (fun acc c => acc ++ " " ++ toString c) acc
      = acc ++ s.foldl (fun acc c => acc ++ " " ++ toString c) "" := by
  rw [cps_foldl, cps_foldl]
  cases s with
  | nil => simp
  | cons d s => simp [String.intercalate_cons_cons, String.append_assoc]

theorem showCps_eq (s : List Nat) : showCps s = " ".intercalate (cpsWords s) := by
  rw [showCps, ← cps_foldl_acc, cps_foldl, cpsWords]

theorem cpsWords_words (s : List Nat) : Words (cpsWords s) :=
  natWords_words (s.length :: s)

theorem showErr_eq (e : ParseError) : showErr e = " ".intercalate (errWords e) := by
  cases e with
  | InvalidCharacter i c =>
    simp only [showErr, errWords, String.intercalate_cons_cons, String.intercalate_singleton, String.append_assoc]
    have : ("err IC " : String) = "err" ++ (" " ++ ("IC" ++ " ")) := by decide
    rw [this]
    simp only [String.append_assoc]
  | _ => simp [showErr, errWords, String.intercalate_cons_cons]

theorem errWords_eq (e : ParseError) : errWords e = "err" :: (errWords e).tail := by
  cases e <;> rfl

theorem errTail_words (e : ParseError) : Words (errWords e).tail := by
  cases e with
  | InvalidCharacter i c => exact Words.cons lit_words (natWords_words [i, c])
  | _ => exact lit_words

theorem errTail_inj (e e' : ParseError) (h : (errWords e).tail = (errWords e').tail) : e = e' := by
  cases e <;> cases e' <;> simp [errWords] at h ⊢
  exact h

theorem ok_line {ws : List String} (h : ws ≠ []) : "ok " ++ " ".intercalate ws = " ".intercalate ("ok" :: ws) := by
  rw [String.intercalate_cons_of_ne_nil h]
  rfl

theorem err_line (w : String) : "err " ++ w = " ".intercalate ["err", w] := by
  simp [String.intercalate_cons_cons]

/-- the result lines of the fallible operations: `ok` and the words of the value, or `err` and the words of the error -/
theorem exceptLine_inj {ε α : Type} {res : Except ε α → String} {W : Except ε α → List String}
    {w : α → List String} {we : ε → List String} (heq : ∀ r, res r = " ".intercalate (W r))
    (hok : ∀ a, W (.ok a) = "ok" :: w a) (herr : ∀ e, W (.error e) = "err" :: we e)
    (hw : ∀ a, Words (w a)) (hwe : ∀ e, Words (we e))
    (hinj : ∀ a b, w a = w b → a = b) (hinje : ∀ a b, we a = we b → a = b)
    {r r' : Except ε α} (h : res r = res r') : r = r' := by
  refine inj_of_words heq (fun r => ?_) (fun r r' h => ?_) h
  · cases r
    · rw [herr]; exact Words.cons lit_words (hwe _)
    · rw [hok]; exact Words.cons lit_words (hw _)
  · cases r <;> cases r' <;> simp only [hok, herr, List.cons.injEq, String.reduceEq, false_and, true_and] at h
    · rw [hinje _ _ h]
    · rw [hinj _ _ h]

/-- the result lines of the operations that may give up: the words of the value, or the single word `k` -/
theorem optionLine_inj {α : Type} {res : Option α → String} {W : Option α → List String} {w : α → List String}
    {k : String} (heq : ∀ r, res r = " ".intercalate (W r)) (hsome : ∀ a, W (some a) = w a) (hnone : W none = [k])
    (hw : ∀ a, Words (w a)) (hk : Words [k]) (hinj : ∀ a b, w a = w b → a = b) (hne : ∀ a, w a ≠ [k])
    {r r' : Option α} (h : res r = res r') : r = r' := by
  refine inj_of_words heq (fun r => ?_) (fun r r' h => ?_) h
  · cases r
    · rw [hnone]; exact hk
    · rw [hsome]; exact hw _
  · cases r <;> cases r' <;> simp only [hsome, hnone] at h
    · rfl
    · exact absurd h.symm (hne _)
    · exact absurd h (hne _)
    · rw [hinj _ _ h]

/-- no term is spelled by the single word `w` unless `w` is a number -/
theorem termWords_ne_singleton {t : Term} {w : String} (hw : w.toNat? = none) : termWords t ≠ [w] := by
  intro h
  have h1 := decTerm_termWords t []
  rw [List.append_nil, h] at h1
  by_cases hL : w = "L"
  · subst hL; simp [decTerm_L, decTerm_nil] at h1
  · by_cases hA : w = "A"
    · subst hA; simp [decTerm_A, decTerm_nil] at h1
    · simp [decTerm_num _ _ hL hA, hw] at h1

theorem errName_singleton_inj (e e' : TermError) (h : [errName e] = [errName e']) : e = e' :=
  errName_inj (List.cons.inj h).1

theorem resTerm_eq (r : Except TermError Term) : resTerm r = " ".intercalate (resTermWords r) := by
  cases r with
  | ok t => exact (showTerm_eq t ▸ ok_line (termWords_ne_nil t) :)
  | error e => exact err_line _

theorem resNat_eq (r : Except TermError Nat) : resNat r = " ".intercalate (resNatWords r) := by
  cases r with
  | ok n => exact ok_line (ws := [toString n]) (by simp)
  | error e => exact err_line _

theorem resPair_eq (r : Except TermError (Term × Term)) : resPair r = " ".intercalate (resPairWords r) := by
  cases r with
  | ok p =>
    obtain ⟨l, r⟩ := p
    simp only [resPair, resPairWords]
    rw [String.intercalate_cons_of_ne_nil (by simp), String.intercalate_append_of_ne_nil (termWords_ne_nil l) (by simp),
      String.intercalate_cons_of_ne_nil (termWords_ne_nil r), showTerm_eq, showTerm_eq]
    have : (" , " : String) = " " ++ ("," ++ " ") := by decide
    rw [this]
    simp only [String.append_assoc]
    rfl
  | error e => simp [resPair, resPairWords, String.intercalate_cons_cons]

theorem resToks_eq (r : Except ParseError (List Token)) : resToks r = " ".intercalate (resToksWords r) := by
  cases r with
  | ok ts => rfl
  | error e => exact showErr_eq e

theorem resCToks_eq (r : Except ParseError (List CToken)) : resCToks r = " ".intercalate (resCToksWords r) := by
  cases r with
  | ok ts => rfl
  | error e => exact showErr_eq e

theorem resFold_eq (r : Except ParseError Term) : resFold r = " ".intercalate (resFoldWords r) := by
  cases r with
  | ok t => exact (showTerm_eq t ▸ ok_line (termWords_ne_nil t) :)
  | error e => exact showErr_eq e

theorem resConv_eq (r : Option (List Token)) : resConv r = " ".intercalate (resConvWords r) := by
  cases r <;> simp [resConv, resConvWords]

theorem resParse_eq (r : Outcome) : resParse r = " ".intercalate (resParseWords r) := by
  cases r with
  | ok t => exact (showTerm_eq t ▸ ok_line (termWords_ne_nil t) :)
  | err e => exact showErr_eq e
  | panic => simp [resParse, resParseWords]

theorem resParseWords_words (r : Outcome) : Words (resParseWords r) := by
  cases r with
  | ok t => exact Words.cons lit_words (termWords_words t)
  | err e => rw [resParseWords, errWords_eq]; exact Words.cons lit_words (errTail_words e)
  | panic => exact lit_words

/-- the printed words of a `parse` result determine it: equal constructors by injectivity of the payload's
printing, different constructors by their different first words (`Outcome` derives no `DecidableEq`, so the
nine combinations are matched on) -/
theorem resParseWords_inj (r r' : Outcome) (h : resParseWords r = resParseWords r') : r = r' := by
  match r, r', h with
  | .ok t, .ok u, h => rw [termWords_inj (List.cons.inj h).2]
  | .err e, .err e', h => rw [errTail_inj e e' (congrArg List.tail h)]
  | .panic, .panic, _ => rfl
  | .ok t, .panic, h | .panic, .ok t, h => simp [resParseWords] at h
  | .ok t, .err e, h | .err e, .ok t, h | .panic, .err e, h | .err e, .panic, h =>
    simp only [resParseWords] at h
    rw [errWords_eq] at h
    simp at h

theorem toNat?_fuel : "fuel".toNat? = none := by toNat_none

theorem resReduce_eq (r : Option (Term × Nat)) : resReduce r = " ".intercalate (resReduceWords r) := by
  match r with
  | some (t, c) =>
    simp only [resReduce, resReduceWords]
    rw [String.intercalate_cons_of_ne_nil (termWords_ne_nil t), showTerm_eq]
  | none => simp [resReduce, resReduceWords]

theorem resBeta_eq (r : Option Term) : resBeta r = " ".intercalate (resBetaWords r) := by
  cases r with
  | some t => exact showTerm_eq t
  | none => simp [resBeta, resBetaWords]

theorem int_words (i : Int) : Words [toString i] := by
  cases i with
  | ofNat n => exact nat_words n
  | negSucc n => exact Words.append_right (s := toString (n + 1)) lit_words (not_mem_toString (by decide))

theorem exists_of_startsWith {w p : String} (h : w.startsWith p = true) : ∃ s, w = p ++ s := by
  rw [String.startsWith_string_iff] at h
  obtain ⟨l, hl⟩ := h
  exact ⟨String.ofList l, String.toList_inj.1 (by simp [← hl])⟩

/-- what `decName` accepts: the empty word, or numbers separated by dots -/
theorem decName_eq_some_iff {s : String} {n : List Nat} :
    decName s = some n ↔ (s = "" ∧ n = []) ∨ (s ≠ "" ∧ (splitChar '.' s).mapM (·.toNat?) = some n) := by
  by_cases h : s = ""
  · subst h; simp [decName]
  · simp [decName, h]

end Drv
