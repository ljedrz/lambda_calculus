/-
Refinement, soundness direction (DESIGN §6.3), for all seven orders at once: whenever a traversal
returns, it has performed exactly `c' - c` steps of its small-step strategy, stayed within the
limit, and (if budget is left) stopped in a normal form of the strategy.  The proof follows the
scheme of `Proofs/Scheme.lean`: each sub-call is a run of some strategy inside a one-hole context
of the term, and such a run lifts to a run of the whole term as long as the strategy looks into
that hole (`Post.bind`); one level of a traversal is a chain of such sub-calls (`visit_sound`,
`finish_sound`).  For the orders that are not `eager` the operator of an application that is not contracted
has a head variable (`neutral_iff_head_nf`, `Iter.ord_app_left_neutral`): the form the normalisation
proofs use.
-/
import LC.Proofs.Beta
import LC.Proofs.Scheme
import LC.Spec.NormalForms

namespace LC
namespace Term

/-- a run of `f` lifts through the context `F` to a run of `g`, provided `g` steps in `F x` as `f`
does in `x` for all `x` with the invariant `P` -/
theorem Iter.lift {f g : Term → Option Term} (F : Term → Term) (P : Term → Prop)
    (hs : ∀ x y, P x → f x = some y → g (F x) = some (F y) ∧ P y) {k : Nat} {x x' : Term}
    (h : Iter f k x x') (hP : P x) : Iter g k (F x) (F x') ∧ P x' := by
  induction h with
  | zero t => exact ⟨Iter.zero _, hP⟩
  | succ hst _ ih =>
    obtain ⟨h1, h2⟩ := hs _ _ hP hst
    exact ⟨Iter.succ h1 (ih h2).1, (ih h2).2⟩

theorem Iter.map {f g : Term → Option Term} (F : Term → Term)
    (hs : ∀ x y, f x = some y → g (F x) = some (F y)) {k : Nat} {x x' : Term}
    (h : Iter f k x x') : Iter g k (F x) (F x') :=
  (h.lift F (fun _ => True) (fun x y _ hxy => ⟨hs x y hxy, trivial⟩) trivial).1

section
variable {o : Order} {k : Nat}

theorem Iter.ord_abs (hu : o.under = true) {b b' : Term} (h : Iter (stepOrd o) k b b') :
    Iter (stepOrd o) k (abs b) (abs b') :=
  h.map abs fun x y hxy => by rw [stepOrd_abs, hu, if_pos rfl, hxy]; rfl

theorem Iter.ord_app_head {l l' : Term} (r : Term) (h : Iter (stepOrd o.head) k l l') :
    Iter (stepOrd o) k (app l r) (app l' r) :=
  h.map (app · r) fun _ _ hxy => stepOrd_app_head r hxy

theorem Iter.ord_app_arg (he : o.eager = true) {l : Term} (hl : stepOrd o.head l = none)
    {r r' : Term} (h : Iter (stepOrd o) k r r') : Iter (stepOrd o) k (app l r) (app l r') :=
  h.map (app l ·) fun _ _ hxy => stepOrd_app_arg he hl hxy

/-- the operator of an application that is not contracted, reduced by the order itself: it stays
`head`-normal and no abstraction -/
theorem Iter.ord_app_left (hd : o.deep = true) {l l' r : Term} (hl : stepOrd o.head l = none)
    (hna : isAbs l = false) (hr : o.eager = true → stepOrd o r = none)
    (h : Iter (stepOrd o) k l l') :
    Iter (stepOrd o) k (app l r) (app l' r) ∧ stepOrd o.head l' = none ∧ isAbs l' = false :=
  h.lift (app · r) (fun x => stepOrd o.head x = none ∧ isAbs x = false)
    (fun x y hP hxy => by
      have hk := stepOrd_keeps_head_nf hP.1 hxy
      refine ⟨?_, hk.1, hk.2.trans hP.2⟩
      rw [stepOrd_app_neutral hP.1 hr hP.2, hd, if_pos rfl, hxy])
    ⟨hl, hna⟩

theorem Iter.ord_app_right (hd : o.deep = true) (he : o.eager = false) {l : Term}
    (hna : isAbs l = false) (hn : stepOrd o l = none)
    {r r' : Term} (h : Iter (stepOrd o) k r r') : Iter (stepOrd o) k (app l r) (app l r') :=
  h.map (app l ·) fun x y hxy => by
    rw [stepOrd_app_neutral (stepOrd_head_none hn) (fun h' => by rw [he] at h'; cases h') hna, hd, if_pos rfl, hn,
      he, hxy]
    rfl

end

section
open Spec

/-- for an order that is not `eager`, the terms that are `head`-normal and no abstraction are those
with a head variable -/
theorem neutral_iff_head_nf {o : Order} (he : o.eager = false) {t : Term} :
    neutral t = true ↔ stepOrd o.head t = none ∧ isAbs t = false := by
  induction t with
  | var i => exact ⟨fun _ => ⟨stepOrd_var _ i, rfl⟩, fun _ => rfl⟩
  | abs b => exact ⟨nofun, fun h => nomatch h.2⟩
  | app l r ih _ =>
    rw [stepOrd_app_eq_none, Order.head_head, Order.head_eager, Order.head_deep, he]
    exact ⟨fun h => ⟨⟨(ih.1 h).1, nofun, (ih.1 h).2, nofun⟩, rfl⟩, fun h => ih.2 ⟨h.1.1, h.1.2.2.1⟩⟩

/-- `Iter.ord_app_left` with the operator described by `neutral`, the form the normalisation proofs use -/
theorem Iter.ord_app_left_neutral {o : Order} {k : Nat} (hd : o.deep = true) (he : o.eager = false)
    {l l' : Term} (r : Term) (hn : neutral l = true) (h : Iter (stepOrd o) k l l') :
    Iter (stepOrd o) k (app l r) (app l' r) ∧ neutral l' = true := by
  obtain ⟨hl, hna⟩ := (neutral_iff_head_nf he).1 hn
  obtain ⟨it, hl', hna'⟩ := h.ord_app_left hd hl hna (fun h' => by rw [he] at h'; cases h')
  exact ⟨it, (neutral_iff_head_nf he).2 ⟨hl', hna'⟩⟩

theorem Iter.nor_app_left {k l l'} (r) (hn : neutral l = true) (h : Iter stepNor k l l') :
    Iter stepNor k (app l r) (app l' r) ∧ neutral l' = true :=
  h.ord_app_left_neutral (o := .NOR) rfl rfl r hn

end

theorem stepHsp_abs_of_step {b b'} (h : stepHsp b = some b') : stepHsp (abs b) = some (abs b') := by
  simp [stepHsp, h]

theorem Post.le_limit {step L c t t' c'} (h : Post step L c t t' c') : L = 0 ∨ c' ≤ L := by
  obtain ⟨_, _, _, hle, _⟩ := h
  omega

theorem Post.le {step : Term → Option Term} {L c : Nat} {t t' : Term} {c' : Nat}
    (h : Post step L c t t' c') : c ≤ c' := by
  obtain ⟨k, rfl, _⟩ := h
  exact Nat.le_add_right _ _

/-- the run a call made -/
theorem Post.iter {step : Term → Option Term} {L c : Nat} {t t' : Term} {c' : Nat}
    (h : Post step L c t t' c') : Iter step (c' - c) t t' := by
  obtain ⟨k, rfl, it, _⟩ := h
  rwa [Nat.add_sub_cancel_left]

theorem Post.nf {step : Term → Option Term} {L c : Nat} {t t' : Term} {c' : Nat}
    (h : Post step L c t t' c') (hb : L = 0 ∨ c' < L) : step t' = none := by
  obtain ⟨_, _, _, _, hnf⟩ := h
  exact hnf (by omega)

theorem Post.refl {f : Term → Option Term} {L c : Nat} {t : Term} (hc : L = 0 ∨ c ≤ L)
    (hn : (L = 0 ∨ c < L) → f t = none) : Post f L c t t c :=
  ⟨0, rfl, Iter.zero _, fun _ => by omega, fun hb => hn (by omega)⟩

theorem Post.step {f : Term → Option Term} {L c : Nat} {t u t' : Term} {c' : Nat} (hs : f t = some u)
    (P : Post f L (c + 1) u t' c') : Post f L c t t' c' := by
  obtain ⟨k, rfl, it, hle, hnf⟩ := P
  exact ⟨k + 1, by omega, Iter.succ hs it, hle, hnf⟩

/-- a sub-call on `s` in the one-hole context `C`, after which the call goes on from `C s'`: the run of the sub-call
lifts into the context (needed only if it made a step, and then there was budget) -/
theorem Post.bind {f g : Term → Option Term} {C : Term → Term} {L c c1 c' : Nat} {s s' T' : Term}
    (P : Post f L c s s' c1) (hl : (L = 0 ∨ c < L) → ∀ j a, Iter f j s a → Iter g j (C s) (C a))
    (K : Post g L c1 (C s') T' c') : Post g L c (C s) T' c' := by
  obtain ⟨k, rfl, it, hle, _⟩ := P
  obtain ⟨k', rfl, it', hle', hnf'⟩ := K
  refine ⟨k + k', by omega, ?_, hle', hnf'⟩
  by_cases hk : k = 0
  · subst hk; cases it; simpa using it'
  · exact (hl (by omega) _ _ it).trans it'

section
variable {L : Nat} {self : Order → Term → Nat → Option (Term × Nat)}

/-- after operator and operand: `l` is `head`-normal and `r`, if visited, normal, as far as budget is left -/
theorem finish_sound
    (ih : ∀ o t c t' c', self o t c = some (t', c') → (L = 0 ∨ c ≤ L) → Post (stepOrd o) L c t t' c')
    {o : Order} {l r : Term} {c : Nat} {t' : Term} {c' : Nat} (hc : L = 0 ∨ c ≤ L)
    (hn1 : (L = 0 ∨ c < L) → stepOrd o.head l = none)
    (hn2 : (L = 0 ∨ c < L) → o.eager = true → stepOrd o r = none)
    (h : finish L self o l r c = some (t', c')) : Post (stepOrd o) L c (app l r) t' c' := by
  rcases finish_eq_some h with ⟨b, rfl, hbud, hs⟩ |
    ⟨hred, ⟨hd, e⟩ | ⟨hd, l2, c3, r2, c4, hl2, hr2, e⟩⟩
  · have hb : L = 0 ∨ c < L := by rw [budget_eq_true] at hbud; omega
    exact Post.step (stepOrd_app_red (hn1 hb) (hn2 hb)) (ih _ _ _ _ _ hs hb)
  all_goals
    cases e
    have hna : (L = 0 ∨ c < L) → isAbs l = false := fun hb => isAbs_eq_false_of_budget hred (by omega)
  · exact Post.refl hc fun hb =>
      stepOrd_app_eq_none.2 ⟨hn1 hb, hn2 hb, hna hb, fun h' => by rw [hd] at h'; cases h'⟩
  · -- the operator is visited again, `head`-normal and not an abstraction, and then the operand, unless it has been
    -- visited already
    have P3 := ih _ _ _ _ _ hl2 hc
    have hle3 := P3.le
    have key : (L = 0 ∨ c < L) → stepOrd o.head l2 = none ∧ isAbs l2 = false := fun hb =>
      (P3.iter.ord_app_left (r := r) hd (hn1 hb) (hna hb) (hn2 hb)).2
    refine P3.bind (C := (app · r)) (fun hb j a it => (it.ord_app_left hd (hn1 hb) (hna hb) (hn2 hb)).1) ?_
    cases he : o.eager with
    | true =>
      rw [he] at hr2; cases hr2
      exact Post.refl P3.le_limit fun hb => stepOrd_app_eq_none.2 ⟨(key (by omega)).1,
        fun _ => hn2 (by omega) he, (key (by omega)).2, fun _ => ⟨P3.nf hb, fun h' => by rw [he] at h'; cases h'⟩⟩
    | false =>
      rw [he] at hr2
      have P4 := ih _ _ _ _ _ hr2 P3.le_limit
      have hle4 := P4.le
      refine P4.bind (C := (app l2 ·))
        (fun hb j a it => it.ord_app_right hd he (key (by omega)).2 (P3.nf hb)) ?_
      exact Post.refl P4.le_limit fun hb => stepOrd_app_eq_none.2 ⟨(key (by omega)).1,
        (fun h' => by rw [he] at h'; cases h'), (key (by omega)).2, fun _ => ⟨P3.nf (by omega), fun _ => P4.nf hb⟩⟩

theorem visit_sound
    (ih : ∀ o t c t' c', self o t c = some (t', c') → (L = 0 ∨ c ≤ L) → Post (stepOrd o) L c t t' c')
    {o : Order} {t : Term} {c : Nat} {t' : Term} {c' : Nat}
    (h : visit L self o t c = some (t', c')) (hc : L = 0 ∨ c ≤ L) :
    Post (stepOrd o) L c t t' c' := by
  cases hg : gate L c with
  | true =>
    rw [visit_gate hg] at h; cases h
    rw [gate_eq_true] at hg
    exact Post.refl hc fun hb => by omega
  | false =>
  cases t with
  | var i => rw [visit_var] at h; cases h; exact Post.refl hc fun _ => stepOrd_var o i
  | abs b =>
    cases hu : o.under with
    | false =>
      rw [visit_abs_stop hu] at h; cases h
      exact Post.refl hc fun _ => by rw [stepOrd_abs, hu]; rfl
    | true =>
      obtain ⟨b', c1, hb', e⟩ := visit_abs_eq_some hg hu h
      cases e
      have P := ih _ _ _ _ _ hb' hc
      exact P.bind (C := abs) (fun _ j a it => it.ord_abs hu)
        (Post.refl P.le_limit fun hb => by rw [stepOrd_abs, hu, if_pos rfl, P.nf hb]; rfl)
  | app l r =>
    obtain ⟨l', c1, r', c2, hl, hr, hf⟩ := visit_app_eq_some hg h
    have P1 := ih _ _ _ _ _ hl hc
    refine P1.bind (C := (app · r)) (fun _ j a it => it.ord_app_head r) ?_
    cases he : o.eager with
    | false =>
      rw [he] at hr; cases hr
      exact finish_sound ih P1.le_limit P1.nf (fun _ h' => by rw [he] at h'; cases h') hf
    | true =>
      rw [he] at hr
      have P2 := ih _ _ _ _ _ hr P1.le_limit
      have hle := P2.le
      refine P2.bind (C := (app l' ·)) (fun hb j a it => it.ord_app_arg he (P1.nf hb)) ?_
      exact finish_sound ih P2.le_limit (fun hb => P1.nf (by omega)) (fun hb _ => P2.nf hb) hf

end

theorem betaOrd_sound (o : Order) (L fuel : Nat) (t : Term) (c : Nat) (t' : Term) (c' : Nat)
    (h : betaOrd o L fuel t c = some (t', c')) (hc : L = 0 ∨ c ≤ L) :
    Post (stepOrd o) L c t t' c' := by
  induction fuel generalizing o t c t' c' with
  | zero => rw [betaOrd_zero] at h; cases h
  | succ fuel ih =>
    rw [betaOrd_succ] at h
    exact visit_sound (fun o t c t' c' => ih o t c t' c') h hc

theorem reduce_sound (o : Order) (L fuel : Nat) (t t' : Term) (c : Nat)
    (h : reduce o L fuel t = some (t', c)) :
    Iter (stepOrd o) c t t' ∧ (L ≠ 0 → c ≤ L) ∧ ((L = 0 ∨ c < L) → stepOrd o t' = none) := by
  have := betaOrd_sound o L fuel t 0 t' c h (by omega)
  obtain ⟨k, hk, it, hle, hnf⟩ := this
  have : c = k := by omega
  subst this
  exact ⟨it, hle, hnf⟩

theorem betaNor_sound (L : Nat) : ∀ fuel t c t' c', betaNor L fuel t c = some (t', c') → (L = 0 ∨ c ≤ L) →
    Post stepNor L c t t' c' :=
  fun fuel t c t' c' => betaOrd_sound .NOR L fuel t c t' c'

theorem betaHno_sound (L : Nat) : ∀ fuel t c t' c', betaHno L fuel t c = some (t', c') → (L = 0 ∨ c ≤ L) →
    Post stepHno L c t t' c' :=
  fun fuel t c t' c' => betaOrd_sound .HNO L fuel t c t' c'

end Term
end LC
