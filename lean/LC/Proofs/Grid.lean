/-
Cross-check grids (DESIGN §7 C13): the statements about the encoded programs are stated for a finite grid of small
arguments about the model reducer itself (`Grid.runsTo`, which calls `reduce`), and decided by the kernel
(`decide +kernel`, no `native_decide`).  What the kernel evaluates for the eager orders is `Grid.runsToB` of
`Proofs/GridEval.lean`, an evaluator on terms with boxes that is proved to return only what `reduce` returns
(`Grid.runsTo_eq_box`); `reduce` itself runs only where that evaluator answers `false` (it declines an order that is not
eager).
-/
import LC.Model.Reduce

namespace LC
namespace Grid
open Term

/-- the model reducer, started with limit 0 and the given fuel, returns exactly `n` -/
def runsTo (o : Order) (fuel : Nat) (t n : Term) : Bool :=
  match reduce o 0 fuel t with
  | some (r, _) => decide (r = n)
  | none => false

theorem runsTo_spec {o : Order} {fuel : Nat} {t n : Term} (h : runsTo o fuel t n = true) :
    ∃ c, reduce o 0 fuel t = some (n, c) := by
  unfold runsTo at h
  split at h
  · rename_i r c hr
    have : r = n := by simpa using h
    exact ⟨c, by rw [hr, this]⟩
  · cases h

def range2 (m n : Nat) : List (Nat × Nat) :=
  (List.range (m + 1)).flatMap (fun a => (List.range (n + 1)).map (fun b => (a, b)))

def app2 (f a b : Term) : Term := app (app f a) b

end Grid
end LC
