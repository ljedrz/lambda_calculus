/-
The representation boundary of De Bruijn indices: raising the limit of a checked traversal to "unlimited".

`Raise j x y` relates the answer `x` of a checked traversal under the limit `j ≠ 0` to the answer `y` of the same call
(same fuel, same count) under limit 0: a panic under the limit `j` is a panic of the unlimited call, and an answer that
did not exhaust the limit is the answer of the unlimited call.  (Until the count reaches `j` the two calls perform the
same tests: `gate` is false and `budget` is true in both.)  `betaOrdChk_raise`, for any term.

Used for the unlimited call on a term whose strategy run does not end: if the run reaches a non-representable term at
its `j`-th step, the call under limit `j` panics for all large fuels, hence so does the unlimited one
(`C01_checked_reduce_exact_panics` of `Props/C01BoundedExact.lean`).
-/
import LC.Proofs.BoundedTraversal

namespace LC
namespace Term

/-- the answer `x` of a checked call under the limit `j` against the answer `y` of the same call under limit 0:
a panic is a panic of both, and an answer below the limit is the answer of both -/
def Raise (j : Nat) (x y : ChkRes) : Prop :=
  (x = .panic → y = .panic) ∧ (∀ t' c', x = .ret t' c' → c' < j → y = .ret t' c')

theorem Raise.refl (j : Nat) (x : ChkRes) : Raise j x x := by
  exact ⟨id, fun _ _ h _ => h⟩

theorem Raise.fuel (j : Nat) (y : ChkRes) : Raise j .fuel y := by
  refine ⟨fun h => ?_, fun _ _ h => ?_⟩ <;> cases h

theorem Raise.ret_ge {j c' : Nat} {t' : Term} {y : ChkRes} (h : j ≤ c') : Raise j (.ret t' c') y := by
  refine ⟨fun h => ?_, fun _ _ h hlt => ?_⟩
  · cases h
  · cases h; omega

/-- at the limit a call returns at once, if it has fuel at all -/
def AtLimit (j : Nat) (x : ChkRes) : Prop := x = .fuel ∨ ∃ t', x = .ret t' j

theorem AtLimit.raise {j : Nat} {x : ChkRes} (h : AtLimit j x) (y : ChkRes) : Raise j x y := by
  rcases h with rfl | ⟨t', rfl⟩
  · exact Raise.fuel _ _
  · exact Raise.ret_ge (Nat.le_refl _)

theorem AtLimit.bind {j : Nat} {x : ChkRes} {k : Term → Nat → ChkRes} (h : AtLimit j x)
    (hk : ∀ t, AtLimit j (k t j)) : AtLimit j (x.bind k) := by
  rcases h with rfl | ⟨t', rfl⟩
  · exact Or.inl rfl
  · exact hk t'

theorem Raise.bind {j : Nat} {x y : ChkRes} {kx ky : Term → Nat → ChkRes} (h : Raise j x y)
    (hle : ∀ t c, x = .ret t c → c ≤ j)
    (hk : ∀ t c, x = .ret t c → c < j → Raise j (kx t c) (ky t c))
    (hlim : ∀ t, AtLimit j (kx t j)) : Raise j (x.bind kx) (y.bind ky) := by
  cases x with
  | fuel => exact Raise.fuel _ _
  | panic => rw [h.1 rfl]; exact Raise.refl _ _
  | ret t c =>
    by_cases hlt : c < j
    · rw [h.2 t c rfl hlt]; exact hk t c rfl hlt
    · obtain rfl : c = j := by have := hle t c rfl; omega
      exact (hlim t).raise _

theorem betaOrdChk_at_limit (M : Nat) {j : Nat} (hj : j ≠ 0) (o : Order) (fuel : Nat) (t : Term) :
    betaOrdChk M o j fuel t j = .fuel ∨ betaOrdChk M o j fuel t j = .ret t j := by
  cases fuel with
  | zero => exact Or.inl (betaOrdChk_zero M o j t j)
  | succ fuel =>
    rw [betaOrdChk_succ, visitChk_gate (gate_eq_true.2 ⟨hj, rfl⟩)]
    exact Or.inr rfl

theorem betaCbnChk_at_limit (M : Nat) {j : Nat} (hj : j ≠ 0) (fuel : Nat) (t : Term) (c : Nat) (h : c = j) :
    betaCbnChk M j fuel t c = .fuel ∨ betaCbnChk M j fuel t c = .ret t c := by
  subst h; exact betaOrdChk_at_limit M hj .CBN fuel t

theorem betaHspChk_at_limit (M : Nat) {j : Nat} (hj : j ≠ 0) (fuel : Nat) (t : Term) (c : Nat) (h : c = j) :
    betaHspChk M j fuel t c = .fuel ∨ betaHspChk M j fuel t c = .ret t c := by
  subst h; exact betaOrdChk_at_limit M hj .HSP fuel t

section
variable {M j : Nat} {selfJ self0 : Order → Term → Nat → ChkRes}

theorem callIfChk_at_limit (hlim : ∀ o t, selfJ o t j = .fuel ∨ selfJ o t j = .ret t j) (b : Bool)
    (o : Order) (t : Term) : AtLimit j (callIfChk b (selfJ o) t j) := by
  cases b with
  | false => exact Or.inr ⟨t, rfl⟩
  | true => exact (hlim o t).imp id fun h => ⟨t, h⟩

theorem finishChk_at_limit (hj : j ≠ 0)
    (hlim : ∀ o t, selfJ o t j = .fuel ∨ selfJ o t j = .ret t j) (o : Order) (l r : Term) :
    AtLimit j (finishChk M j selfJ o l r j) := by
  have hb : (isAbs l && budget j j) = false := by
    rw [Bool.and_eq_false_iff, budget_eq_false]; exact Or.inr ⟨hj, Nat.le_refl _⟩
  cases hd : o.deep with
  | false => rw [finishChk_shallow hb hd]; exact Or.inr ⟨_, rfl⟩
  | true =>
    rw [finishChk_deep hb hd]
    exact AtLimit.bind (callIfChk_at_limit hlim true o l)
      fun l' => AtLimit.bind (callIfChk_at_limit hlim _ o r) fun r' => Or.inr ⟨_, rfl⟩

/-- one level of a traversal, given the comparison for the recursive calls (`ih`), that they keep the count
within the limit (`hle`), and that they return at once at the limit (`hlim`) -/
theorem visitChk_raise (hj : j ≠ 0)
    (ih : ∀ o t c, c ≤ j → Raise j (selfJ o t c) (self0 o t c))
    (hle : ∀ o t c t' c', c ≤ j → selfJ o t c = .ret t' c' → c' ≤ j)
    (hlim : ∀ o t, selfJ o t j = .fuel ∨ selfJ o t j = .ret t j)
    (o : Order) (t : Term) (c : Nat) (hc : c ≤ j) :
    Raise j (visitChk M j selfJ o t c) (visitChk M 0 self0 o t c) := by
  cases hg : gate j c with
  | true => rw [visitChk_gate hg]; exact Raise.ret_ge (Nat.le_of_eq (gate_eq_true.1 hg).2.symm)
  | false =>
  have hcj : c < j := by rw [gate_eq_false] at hg; omega
  have hg0 : gate 0 c = false := gate_zero c
  have callIf_raise : ∀ (b : Bool) (t : Term) (c : Nat), c ≤ j →
      Raise j (callIfChk b (selfJ o) t c) (callIfChk b (self0 o) t c) := by
    intro b t c hc
    cases b with
    | false => exact Raise.refl _ _
    | true => exact ih o t c hc
  have callIf_le : ∀ (b : Bool) (t : Term) (c : Nat) (t' : Term) (c' : Nat), c ≤ j →
      callIfChk b (selfJ o) t c = .ret t' c' → c' ≤ j := by
    intro b t c t' c' hc h
    cases b with
    | false => cases h; exact hc
    | true => exact hle o t c t' c' hc h
  cases t with
  | var i => rw [visitChk_var, visitChk_var]; exact Raise.refl _ _
  | abs b =>
    cases hu : o.under with
    | false => rw [visitChk_abs_stop hu, visitChk_abs_stop hu]; exact Raise.refl _ _
    | true =>
      rw [visitChk_abs hg hu, visitChk_abs hg0 hu]
      exact Raise.bind (ih o b c hc) (fun t' c' h => hle o b c t' c' hc h)
        (fun _ _ _ _ => Raise.refl _ _) (fun _ => Or.inr ⟨_, rfl⟩)
  | app l r =>
    rw [visitChk_app hg, visitChk_app hg0]
    refine Raise.bind (ih o.head l c hc) (fun t' c' h => hle _ l c t' c' hc h) ?_
      (fun l' => AtLimit.bind (callIfChk_at_limit hlim _ o r) fun r' => finishChk_at_limit hj hlim o l' r')
    intro l' c1 h1 hc1
    refine Raise.bind (callIf_raise _ r c1 (by omega))
      (fun t' c' h => callIf_le _ r c1 t' c' (by omega) h) ?_
      (fun r' => finishChk_at_limit hj hlim o l' r')
    intro r' c2 h2 hc2
    -- below the limit both calls may contract
    have hbj : budget j c2 = true := budget_eq_true.2 (Or.inr hc2)
    rcases redex_cases l' j c2 with ⟨b, rfl, _⟩ | hred
    · rw [finishChk_red hbj, finishChk_red (budget_zero c2)]
      cases contractChk M b r' with
      | none => exact Raise.refl _ _
      | some u => exact ih o u (c2 + 1) (by omega)
    · have hred0 : (isAbs l' && budget 0 c2) = false := by rw [budget_zero, ← hbj]; exact hred
      cases hd : o.deep with
      | false => rw [finishChk_shallow hred hd, finishChk_shallow hred0 hd]; exact Raise.refl _ _
      | true =>
        rw [finishChk_deep hred hd, finishChk_deep hred0 hd]
        refine Raise.bind (ih o l' c2 (by omega)) (fun t' c' h => hle o l' c2 t' c' (by omega) h) ?_
          (fun l2 => AtLimit.bind (callIfChk_at_limit hlim _ o r') fun r2 => Or.inr ⟨_, rfl⟩)
        intro l2 c3 _ hc3
        exact Raise.bind (callIf_raise _ r' c3 (by omega))
          (fun t' c' h => callIf_le _ r' c3 t' c' (by omega) h)
          (fun _ _ _ _ => Raise.refl _ _) (fun _ => Or.inr ⟨_, rfl⟩)

end

/-- representability of the term plays no part: the two calls make the same checks -/
theorem betaOrdChk_raise (M : Nat) (o : Order) (j : Nat) (hj : j ≠ 0) (fuel : Nat) (t : Term) (c : Nat)
    (hc : c ≤ j) : Raise j (betaOrdChk M o j fuel t c) (betaOrdChk M o 0 fuel t c) := by
  induction fuel generalizing o t c with
  | zero => rw [betaOrdChk_zero]; exact Raise.fuel _ _
  | succ fuel ih =>
    rw [betaOrdChk_succ, betaOrdChk_succ]
    refine visitChk_raise hj (fun o t c => ih o t c) ?_ (fun o t => betaOrdChk_at_limit M hj o fuel t)
      o t c hc
    intro o t c t' c' hc h
    have := (betaOrdChk_post (Or.inr hc) h).le_limit
    omega

end Term
end LC
