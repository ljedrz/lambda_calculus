/-
The compact format of the Debug output for terms with indices in 1..=15 (`smallIdx`): the output as an
independently written printer (`printDbr`): its characters, its length, its digits.
-/
import LC.Proofs.Syntax.DebugLex

namespace LC
open Term Parser Display

def smallIdx : Term → Bool
  | var i => decide (1 ≤ i) && decide (i ≤ 15)
  | abs b => smallIdx b
  | app l r => smallIdx l && smallIdx r

namespace C11

theorem hexUpper_small (i : Nat) (h1 : 1 ≤ i) (h2 : i ≤ 15) : hexUpper i = [hexDigit i] := by
  rw [C11S.hexUpper_eq, C11S.hexDigits_small i (by omega)]; rfl

end C11

/-- the documented compact format, as an independent grammar-directed printer.
`pos`: 0 = top level / body of an abstraction, 1 = operator, 2 = operand.  One (upper-case) hex
digit per index, the lambda glyph, no whitespace; parentheses iff
(abstraction ∧ pos ≠ 0) ∨ (application ∧ pos = 2). -/
def printDbr (lam : Nat) : (pos : Nat) → Term → List Nat
  | _, var i => [hexDigit i]
  | pos, abs b =>
    if pos ≠ 0 then [40] ++ (lam :: printDbr lam 0 b) ++ [41] else lam :: printDbr lam 0 b
  | pos, app l r =>
    if pos = 2 then [40] ++ (printDbr lam 1 l ++ printDbr lam 2 r) ++ [41]
    else printDbr lam 1 l ++ printDbr lam 2 r

namespace C11

theorem showDbr_eq_printDbr (lam : Nat) (t : Term) (h : smallIdx t = true) :
    showDbr lam t 0 = printDbr lam 0 t ∧ showDbr lam t 2 = printDbr lam 1 t ∧
    showDbr lam t 3 = printDbr lam 2 t := by
  induction t with
  | var n =>
    simp only [smallIdx, Bool.and_eq_true, decide_eq_true_eq] at h
    obtain ⟨n, rfl⟩ : ∃ m, n = m + 1 := ⟨n - 1, by omega⟩
    simp [showDbr, printDbr, hexUpper_small _ h.1 h.2]
  | abs b ih =>
    simp only [smallIdx] at h
    simp [showDbr, printDbr, parenIf, (ih h).1]
  | app l r ihl ihr =>
    simp only [smallIdx, Bool.and_eq_true] at h
    simp [showDbr, printDbr, parenIf, (ihl h.1).2.1, (ihr h.2).2.2]

def numVars : Term → Nat
  | var _ => 1
  | abs b => numVars b
  | app l r => numVars l + numVars r

def numAbs : Term → Nat
  | var _ => 0
  | abs b => numAbs b + 1
  | app l r => numAbs l + numAbs r

/-- number of parenthesised subterms of `t` printed in position `pos`: abstractions that are an
operator or operand, applications that are an operand -/
def numParens : Nat → Term → Nat
  | _, var _ => 0
  | pos, abs b => (if pos ≠ 0 then 1 else 0) + numParens 0 b
  | pos, app l r => (if pos = 2 then 1 else 0) + numParens 1 l + numParens 2 r

def indices : Term → List Nat
  | var i => [i]
  | abs b => indices b
  | app l r => indices l ++ indices r

def FormatChar (lam c : Nat) : Prop :=
  c = lam ∨ c = 40 ∨ c = 41 ∨ ∃ d, 1 ≤ d ∧ d ≤ 15 ∧ c = hexDigit d

theorem formatChar_paren {lam : Nat} {xs : List Nat} (h : ∀ c ∈ xs, FormatChar lam c) :
    ∀ c ∈ [40] ++ xs ++ [41], FormatChar lam c :=
  List.forall_mem_append.2 ⟨List.forall_mem_append.2 ⟨List.forall_mem_singleton.2 (.inr (.inl rfl)), h⟩,
    List.forall_mem_singleton.2 (.inr (.inr (.inl rfl)))⟩

theorem printDbr_chars (lam : Nat) (t : Term) (h : smallIdx t = true) :
    ∀ pos c, c ∈ printDbr lam pos t → FormatChar lam c := by
  induction t with
  | var n =>
    intro pos c hc
    simp only [smallIdx, Bool.and_eq_true, decide_eq_true_eq] at h
    simp only [printDbr, List.mem_singleton] at hc
    exact .inr (.inr (.inr ⟨n, h.1, h.2, hc⟩))
  | abs b ih =>
    intro pos
    simp only [smallIdx] at h
    have hin : ∀ c ∈ lam :: printDbr lam 0 b, FormatChar lam c :=
      List.forall_mem_cons.2 ⟨.inl rfl, ih h 0⟩
    rw [printDbr]
    split
    · exact formatChar_paren hin
    · exact hin
  | app l r ihl ihr =>
    intro pos
    simp only [smallIdx, Bool.and_eq_true] at h
    have hin : ∀ c ∈ printDbr lam 1 l ++ printDbr lam 2 r, FormatChar lam c :=
      List.forall_mem_append.2 ⟨ihl h.1 1, ihr h.2 2⟩
    rw [printDbr]
    split
    · exact formatChar_paren hin
    · exact hin

theorem length_paren (xs : List Nat) : ([40] ++ xs ++ [41]).length = xs.length + 2 := by
  simp

theorem printDbr_length (lam : Nat) (t : Term) :
    ∀ pos, (printDbr lam pos t).length = numVars t + numAbs t + 2 * numParens pos t := by
  induction t with
  | var n => intro pos; simp [printDbr, numVars, numAbs, numParens]
  | abs b ih =>
    -- one character for the glyph, two more when parenthesised
    intro pos
    have hin : (lam :: printDbr lam 0 b).length = numVars b + (numAbs b + 1) + 2 * numParens 0 b := by
      rw [List.length_cons, ih 0]; omega
    rw [printDbr, numVars, numAbs, numParens]
    split
    · rw [length_paren, hin]; omega
    · rw [hin]; omega
  | app l r ihl ihr =>
    intro pos
    have hin : (printDbr lam 1 l ++ printDbr lam 2 r).length =
        numVars l + numVars r + (numAbs l + numAbs r) + 2 * (numParens 1 l + numParens 2 r) := by
      rw [List.length_append, ihl 1, ihr 2]; omega
    rw [printDbr, numVars, numAbs, numParens]
    split
    · rw [length_paren, hin]; omega
    · rw [hin]; omega

def isPunct (lam c : Nat) : Bool := c == lam || c == 40 || c == 41

theorem isPunct_hexDigit (lam : Nat) (hl : lam = 955 ∨ lam = 92) (d : Nat) (hd : d < 16) :
    isPunct lam (hexDigit d) = false := by
  have hr := hexDigit_range d hd
  simp [isPunct]
  omega

theorem printDbr_digits (lam : Nat) (hl : lam = 955 ∨ lam = 92) (t : Term)
    (h : smallIdx t = true) :
    ∀ pos, (printDbr lam pos t).filter (fun c => !isPunct lam c) = (indices t).map hexDigit := by
  have hlam : isPunct lam lam = true := by simp [isPunct]
  have h40 : isPunct lam 40 = true := by simp [isPunct]
  have h41 : isPunct lam 41 = true := by simp [isPunct]
  induction t with
  | var n =>
    intro pos
    simp only [smallIdx, Bool.and_eq_true, decide_eq_true_eq] at h
    simp [printDbr, indices, isPunct_hexDigit lam hl n (by omega)]
  | abs b ih =>
    intro pos
    simp only [smallIdx] at h
    simp only [printDbr, indices]
    split <;> simp [hlam, h40, h41, ih h 0]
  | app l r ihl ihr =>
    intro pos
    simp only [smallIdx, Bool.and_eq_true] at h
    simp only [printDbr, indices]
    split <;> simp [h40, h41, ihl h.1 1, ihr h.2 2]

end C11

end LC
