/-
The De Bruijn lexer on the Debug output (`showDbr`) of an arbitrary term.

* `hexDigits n`: the hexadecimal digits (values) of `n`, most significant first; `hexUpper n` is their rendering.
* `toksH t ctx`: the token printing of `t` with one `Number` per hexadecimal digit of an index; for a `UD`-free
  term these are the token characters of the Debug output (`tokensOf_showDbr`), all of whose characters are
  valid, so the lexer returns them (`lex_debugH`).
* the Debug output of a term with `UD` up to and including the first `u` (`show_split`): valid characters
  (`goodChar_valid`) followed by a character that is not (`u_not_valid`); `udOffset`: the index of that `u`.

The glyph is given as `lam = 955 ∨ lam = 92` throughout, the form in which the statements about `debug` have
it; the lexer's test `isLam lam` follows by `C09C.isLam_glyph`.
-/
import LC.Proofs.Syntax.Classic
import LC.Proofs.Syntax.Numeral
import LC.Spec.FreeVars

namespace LC
open Term Parser Display
open Spec (hasUD)

namespace C11

/-- what the classification must satisfy (a fact about Rust's `char::to_digit(16)` that is checked
for ALL code points by the harness at start-up): `to_digit(16)` of the sixteen upper-case
hex-digit characters is their value.  Nothing else is needed: the lexer tests the lambda glyphs
and the parentheses BEFORE it asks for the digit value, and never asks for whitespace on a
character that is a digit. -/
structure HexOk (cls : CharCls) : Prop where
  digit : ∀ d, d < 16 → cls.digit16 (hexDigit d) = some d

theorem hexDigit_range (d : Nat) (h : d < 16) :
    (48 ≤ hexDigit d ∧ hexDigit d ≤ 57) ∨ (65 ≤ hexDigit d ∧ hexDigit d ≤ 70) := by
  unfold hexDigit; split <;> omega

end C11

namespace C11S


def hexDigitsLoop (n : Nat) (acc : List Nat) : List Nat :=
  if _h : n = 0 then acc else hexDigitsLoop (n / 16) (n % 16 :: acc)
termination_by n
decreasing_by omega

def hexDigits (n : Nat) : List Nat := if n = 0 then [0] else hexDigitsLoop n []

def hexValue (ds : List Nat) : Nat := ds.foldl (fun acc d => 16 * acc + d) 0

theorem hexDigitsLoop_zero (acc : List Nat) : hexDigitsLoop 0 acc = acc := by
  rw [hexDigitsLoop]; simp

theorem hexDigitsLoop_isDigitLoop : IsDigitLoop hexDigitsLoop (· / 16) (· % 16) where
  zero := hexDigitsLoop_zero
  pos n h acc := by rw [hexDigitsLoop, dif_neg h]
  lt n h := by omega

theorem hexDigitsLoop_snoc (n : Nat) (h : n ≠ 0) :
    hexDigitsLoop n [] = hexDigitsLoop (n / 16) [] ++ [n % 16] :=
  hexDigitsLoop_isDigitLoop.snoc h

/-- the `{:X}` rendering of an index is the rendering of its hexadecimal digits -/
theorem hexUpper_eq (n : Nat) : hexUpper n = (hexDigits n).map hexDigit := by
  unfold hexUpper hexDigits
  by_cases h : n = 0
  · subst h; rfl
  · rw [if_neg h, if_neg h]
    exact hexDigitsLoop_isDigitLoop.map hexDigit hexLoop_isDigitLoop n []

theorem hexDigitsLoop_lt (n : Nat) : ∀ d ∈ hexDigitsLoop n [], d < 16 :=
  hexDigitsLoop_isDigitLoop.forall_mem (fun m _ => Nat.mod_lt m (by decide)) n

theorem hexValue_loop (n : Nat) : hexValue (hexDigitsLoop n []) = n :=
  hexDigitsLoop_isDigitLoop.value 16 (fun d => d) (fun m _ => Nat.div_add_mod m 16) n

theorem hexDigitsLoop_ne_nil (n : Nat) (h : n ≠ 0) : hexDigitsLoop n [] ≠ [] := by
  rw [hexDigitsLoop_snoc n h]; simp

theorem hexDigitsLoop_head (n : Nat) (h : n ≠ 0) : (hexDigitsLoop n []).head? ≠ some 0 := by
  induction n using Nat.strongRecOn with
  | _ n ih =>
    rw [hexDigitsLoop_snoc n h]
    by_cases h16 : n / 16 = 0
    · rw [h16, hexDigitsLoop_zero]
      simp; omega
    · have hlt : n / 16 < n := by omega
      have := ih _ hlt h16
      have hne := hexDigitsLoop_ne_nil _ h16
      cases hl : hexDigitsLoop (n / 16) [] with
      | nil => exact absurd hl hne
      | cons a as => rw [hl] at this; simpa using this

theorem hexDigits_of_ne_zero {n : Nat} (h : n ≠ 0) : hexDigits n = hexDigitsLoop n [] := by
  rw [hexDigits, if_neg h]

theorem hexDigits_ind {P : Nat → List Nat → Prop} (h0 : P 0 [0])
    (h : ∀ n, n ≠ 0 → P n (hexDigitsLoop n [])) (n : Nat) : P n (hexDigits n) := by
  by_cases hn : n = 0
  · subst hn; exact h0
  · rw [hexDigits_of_ne_zero hn]; exact h n hn

theorem hexDigits_lt (n : Nat) : ∀ d ∈ hexDigits n, d < 16 :=
  hexDigits_ind (P := fun _ ds => ∀ d ∈ ds, d < 16) (by simp) (fun n _ => hexDigitsLoop_lt n) n

theorem hexValue_hexDigits (n : Nat) : hexValue (hexDigits n) = n :=
  hexDigits_ind (P := fun n ds => hexValue ds = n) rfl (fun n _ => hexValue_loop n) n

theorem hexDigits_ne_nil (n : Nat) : hexDigits n ≠ [] :=
  hexDigits_ind (P := fun _ ds => ds ≠ []) (by simp) hexDigitsLoop_ne_nil n

theorem hexDigits_head (n : Nat) (h : n ≠ 0) : (hexDigits n).head? ≠ some 0 := by
  rw [hexDigits_of_ne_zero h]; exact hexDigitsLoop_head n h

theorem hexDigits_small (n : Nat) (h : n < 16) : hexDigits n = [n] :=
  hexDigits_ind (P := fun n ds => n < 16 → ds = [n]) (fun _ => rfl)
    (fun n h0 h => by
      rw [hexDigitsLoop_snoc n h0, show n / 16 = 0 by omega, hexDigitsLoop_zero,
        show n % 16 = n by omega]; rfl) n h

theorem hexDigits_large (n : Nat) (h : 16 ≤ n) : 2 ≤ (hexDigits n).length := by
  rw [hexDigits_of_ne_zero (by omega), hexDigitsLoop_snoc n (by omega),
    hexDigitsLoop_snoc (n / 16) (by omega)]
  simp

theorem hexDigits_length_pos (n : Nat) : 1 ≤ (hexDigits n).length :=
  List.length_pos_iff.2 (hexDigits_ne_nil n)


/-- the tokens that the lexer produces from the Debug output: one `Number` per hexadecimal digit -/
def toksH : Term → Nat → List Token
  | var i, _ => (hexDigits i).map Token.Number
  | abs b, ctx => Spec.Cl.parenD (Token.Lambda :: toksH b 0) (decide (ctx > 1))
  | app l r, ctx => Spec.Cl.parenD (toksH l 2 ++ toksH r 3) (ctx == 3)

/-- number of characters that the Debug printer emits before the word `undefined` of the first `UD` (in
printing order) of a term that has one: an opening parenthesis where the context demands one, the glyph of
an abstraction, the whole output of a `UD`-free operator -/
def udOffset (lam : Nat) : Term → Nat → Nat
  | var _, _ => 0
  | abs b, ctx => (if ctx > 1 then 1 else 0) + (1 + udOffset lam b 0)
  | app l r, ctx => (if ctx == 3 then 1 else 0) +
      (if hasUD l then udOffset lam l 2 else (showDbr lam l 2).length + udOffset lam r 3)

variable {cls : CharCls}

theorem tokenOf_hexDigit (hx : C11.HexOk cls) {d : Nat} (hd : d < 16) :
    Spec.Gr.tokenOf cls (hexDigit d) = some (Token.Number d) := by
  have := C11.hexDigit_range d hd
  have h1 : ¬ (hexDigit d = 955 ∨ hexDigit d = 92) := by omega
  have h2 : hexDigit d ≠ 40 := by omega
  have h3 : hexDigit d ≠ 41 := by omega
  simp [Spec.Gr.tokenOf, h1, h2, h3, hx.digit d hd]

theorem tokensOf_hexDigits (hx : C11.HexOk cls) (ds : List Nat) (hds : ∀ d ∈ ds, d < 16) :
    Spec.Gr.tokensOf cls (ds.map hexDigit) = ds.map Token.Number := by
  induction ds with
  | nil => rfl
  | cons d ds ih =>
    rw [List.map_cons, C09D.tokensOf_cons_some (tokenOf_hexDigit hx (hds d List.mem_cons_self)),
      ih (fun x hx => hds x (List.mem_cons_of_mem _ hx)), List.map_cons]

theorem tokensOf_parenIf (s : List Nat) (c : Bool) :
    Spec.Gr.tokensOf cls (parenIf s c) = Spec.Cl.parenD (Spec.Gr.tokensOf cls s) c := by
  cases c
  · rfl
  · simp [parenIf, Spec.Cl.parenD, Spec.Gr.tokensOf, Spec.Gr.tokenOf, List.filterMap_append]

theorem tokensOf_showDbr (hx : C11.HexOk cls) {lam : Nat} (hl : lam = 955 ∨ lam = 92) (t : Term) :
    ∀ ctx, hasUD t = false → Spec.Gr.tokensOf cls (showDbr lam t ctx) = toksH t ctx := by
  induction t with
  | var n =>
    intro ctx hs
    simp only [hasUD, beq_eq_false_iff_ne, ne_eq] at hs
    obtain ⟨n, rfl⟩ : ∃ m, n = m + 1 := ⟨n - 1, by omega⟩
    rw [showDbr, toksH, hexUpper_eq, tokensOf_hexDigits hx _ (hexDigits_lt _)]
  | abs b ih =>
    intro ctx hs
    simp only [hasUD] at hs
    rw [showDbr, toksH, tokensOf_parenIf,
      C09D.tokensOf_cons_some (C09D.tokenOf_isLam (C09C.isLam_glyph hl)), ih 0 hs]
  | app l r ihl ihr =>
    intro ctx hs
    simp only [hasUD, Bool.or_eq_false_iff] at hs
    rw [showDbr, toksH, tokensOf_parenIf, C09D.tokensOf_append, ihl 2 hs.1, ihr 3 hs.2]


open C10S (undefinedName str_undefined)

/-- a character that the Debug printer emits outside the word `undefined` -/
def GoodChar (lam c : Nat) : Prop := c = lam ∨ c = 40 ∨ c = 41 ∨ ∃ d, d < 16 ∧ c = hexDigit d

def GoodL (lam : Nat) (s : List Nat) : Prop := ∀ c ∈ s, GoodChar lam c

theorem goodL_parenIf {lam : Nat} {s : List Nat} (h : GoodL lam s) (c : Bool) :
    GoodL lam (parenIf s c) := by
  unfold parenIf
  cases c
  · exact h
  · exact List.forall_mem_cons.2 ⟨.inr (.inl rfl),
      List.forall_mem_append.2 ⟨h, List.forall_mem_singleton.2 (.inr (.inr (.inl rfl)))⟩⟩

theorem goodL_show (lam : Nat) (t : Term) : ∀ ctx, hasUD t = false → GoodL lam (showDbr lam t ctx) := by
  induction t with
  | var n =>
    intro ctx hs
    simp only [hasUD, beq_eq_false_iff_ne, ne_eq] at hs
    obtain ⟨n, rfl⟩ : ∃ m, n = m + 1 := ⟨n - 1, by omega⟩
    simp only [showDbr]
    rw [hexUpper_eq]
    intro c hc
    obtain ⟨d, hd, rfl⟩ := List.mem_map.1 hc
    exact .inr (.inr (.inr ⟨d, hexDigits_lt _ d hd, rfl⟩))
  | abs b ih =>
    intro ctx hs
    simp only [hasUD] at hs
    simp only [showDbr]
    exact goodL_parenIf (List.forall_mem_cons.2 ⟨.inl rfl, ih 0 hs⟩) _
  | app l r ihl ihr =>
    intro ctx hs
    simp only [hasUD, Bool.or_eq_false_iff] at hs
    simp only [showDbr]
    exact goodL_parenIf (List.forall_mem_append.2 ⟨ihl 2 hs.1, ihr 3 hs.2⟩) _

theorem goodChar_valid (hx : C11.HexOk cls) {lam : Nat} (hl : lam = 955 ∨ lam = 92) {c : Nat}
    (hc : GoodChar lam c) : Spec.Gr.ValidChar cls c := by
  refine .inl ?_
  rcases hc with rfl | rfl | rfl | ⟨d, hd, rfl⟩
  · simp [C09D.tokenOf_isLam (C09C.isLam_glyph hl)]
  · simp [Spec.Gr.tokenOf]
  · simp [Spec.Gr.tokenOf]
  · simp [tokenOf_hexDigit hx hd]

/-- the lexer on the Debug output of a `UD`-free term: one `Number` token per hexadecimal digit -/
theorem lex_debugH (cls : CharCls) (hx : C11.HexOk cls) (lam : Nat) (hl : lam = 955 ∨ lam = 92)
    (t : Term) (h : hasUD t = false) :
    tokenizeDbr cls (debug lam t) = .ok (toksH t 0) :=
  (tokenizeDbr_spec cls _ _).2
    ⟨fun c hc => goodChar_valid hx hl (goodL_show lam t 0 h c hc), (tokensOf_showDbr hx hl t 0 h).symm⟩

theorem parenIf_split (s pre post : List Nat) (c : Bool) (h : s = pre ++ undefinedName ++ post) :
    ∃ pre' post', parenIf s c = pre' ++ undefinedName ++ post' ∧
      (∀ lam, GoodL lam pre → GoodL lam pre') := by
  cases c
  · exact ⟨pre, post, by simp [parenIf, h], fun _ hg => hg⟩
  · refine ⟨40 :: pre, post ++ [41], by simp [parenIf, h], fun lam hg => ?_⟩
    exact List.forall_mem_cons.2 ⟨.inr (.inl rfl), hg⟩

/-- the Debug output of a term with `UD`: glyphs, parentheses and hexadecimal digits up to the word
`undefined` printed for the FIRST `UD` in printing order -/
theorem show_split (lam : Nat) (t : Term) : ∀ ctx, hasUD t = true →
    ∃ pre post, showDbr lam t ctx = pre ++ undefinedName ++ post ∧ GoodL lam pre := by
  induction t with
  | var n =>
    intro ctx hs
    simp only [hasUD, beq_iff_eq] at hs
    subst hs
    exact ⟨[], [], by simp [showDbr, str_undefined], fun _ h => nomatch h⟩
  | abs b ih =>
    intro ctx hs
    simp only [hasUD] at hs
    obtain ⟨pre, post, he, hg⟩ := ih 0 hs
    have h1 : lam :: showDbr lam b 0 = (lam :: pre) ++ undefinedName ++ post := by simp [he]
    obtain ⟨pre', post', he', hg'⟩ := parenIf_split _ _ _ (decide (ctx > 1)) h1
    exact ⟨pre', post', by simpa [showDbr] using he', hg' lam (List.forall_mem_cons.2 ⟨.inl rfl, hg⟩)⟩
  | app l r ihl ihr =>
    intro ctx hs
    simp only [hasUD, Bool.or_eq_true] at hs
    cases hl : hasUD l with
    | true =>
      obtain ⟨pre, post, he, hg⟩ := ihl 2 hl
      have h1 : showDbr lam l 2 ++ showDbr lam r 3 =
          pre ++ undefinedName ++ (post ++ showDbr lam r 3) := by simp [he]
      obtain ⟨pre', post', he', hg'⟩ := parenIf_split _ _ _ (ctx == 3) h1
      exact ⟨pre', post', by simpa [showDbr] using he', hg' lam hg⟩
    | false =>
      have hr : hasUD r = true := by
        rcases hs with hs | hs
        · rw [hl] at hs; exact absurd hs (by decide)
        · exact hs
      obtain ⟨pre, post, he, hg⟩ := ihr 3 hr
      have h1 : showDbr lam l 2 ++ showDbr lam r 3 =
          (showDbr lam l 2 ++ pre) ++ undefinedName ++ post := by simp [he]
      obtain ⟨pre', post', he', hg'⟩ := parenIf_split _ _ _ (ctx == 3) h1
      exact ⟨pre', post', by simpa [showDbr] using he',
        hg' lam (List.forall_mem_append.2 ⟨goodL_show lam l 2 hl, hg⟩)⟩

theorem goodChar_ne_u {lam : Nat} (hl : lam = 955 ∨ lam = 92) {c : Nat} (hc : GoodChar lam c) :
    c ≠ 117 := by
  rcases hc with h | h | h | ⟨d, hd, h⟩
  · omega
  · omega
  · omega
  · have := C11.hexDigit_range d hd; omega

theorem u_not_valid (hu : cls.digit16 117 = none) (hw : cls.isWs 117 = false) :
    ¬ Spec.Gr.ValidChar cls 117 := by
  simp [Spec.Gr.ValidChar, Spec.Gr.tokenOf, hu, hw]

theorem idxOf_u (lam : Nat) (hl : lam = 955 ∨ lam = 92) (pre post : List Nat) (hg : GoodL lam pre) :
    (pre ++ 117 :: post).idxOf 117 = pre.length := by
  have hn : ¬ 117 ∈ pre := fun hm => goodChar_ne_u hl (hg 117 hm) rfl
  rw [List.idxOf_append, if_neg hn]
  simp

theorem mem_u_show (lam : Nat) (t : Term) (ctx : Nat) (h : hasUD t = true) :
    117 ∈ showDbr lam t ctx := by
  obtain ⟨pre, post, he, _⟩ := show_split lam t ctx h
  rw [he]; simp [undefinedName]

theorem not_mem_u_show (lam : Nat) (hl : lam = 955 ∨ lam = 92) (t : Term) (ctx : Nat)
    (h : hasUD t = false) : ¬ 117 ∈ showDbr lam t ctx :=
  fun hm => goodChar_ne_u hl (goodL_show lam t ctx h 117 hm) rfl

theorem idxOf_parenIf (s : List Nat) (c : Bool) (hm : 117 ∈ s) :
    (parenIf s c).idxOf 117 = (if c = true then 1 else 0) + s.idxOf 117 := by
  cases c
  · simp [parenIf]
  · simp only [parenIf, if_true]
    rw [List.idxOf_cons, List.idxOf_append, if_pos hm]
    simp; omega

theorem idxOf_show (lam : Nat) (hl : lam = 955 ∨ lam = 92) (t : Term) :
    ∀ ctx, hasUD t = true → (showDbr lam t ctx).idxOf 117 = udOffset lam t ctx := by
  induction t with
  | var n =>
    intro ctx hs
    simp only [hasUD, beq_iff_eq] at hs
    subst hs
    simp [showDbr, str_undefined, undefinedName, udOffset]
  | abs b ih =>
    intro ctx hs
    simp only [hasUD] at hs
    have hm : 117 ∈ lam :: showDbr lam b 0 := List.mem_cons_of_mem _ (mem_u_show lam b 0 hs)
    have hne : (lam == 117) = false := by
      rcases hl with h | h <;> subst h <;> decide
    simp only [showDbr, udOffset]
    rw [idxOf_parenIf _ _ hm, List.idxOf_cons, hne, ih 0 hs]
    simp only [decide_eq_true_eq, cond_false]
    omega
  | app l r ihl ihr =>
    intro ctx hs
    simp only [hasUD, Bool.or_eq_true] at hs
    simp only [showDbr, udOffset]
    cases hl' : hasUD l with
    | true =>
      have hml := mem_u_show lam l 2 hl'
      rw [idxOf_parenIf _ _ (List.mem_append_left _ hml), List.idxOf_append, if_pos hml, ihl 2 hl']
      simp
    | false =>
      have hr : hasUD r = true := by
        rcases hs with hs | hs
        · rw [hl'] at hs; exact absurd hs (by decide)
        · exact hs
      have hml := not_mem_u_show lam hl l 2 hl'
      rw [idxOf_parenIf _ _ (List.mem_append_right _ (mem_u_show lam r 3 hr)), List.idxOf_append,
        if_neg hml, ihr 3 hr]
      simp; omega

end C11S
end LC
