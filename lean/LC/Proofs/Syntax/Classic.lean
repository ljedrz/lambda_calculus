/-
C09, Classic half: the lexer `tokenizeCla`, the name resolution `convertClassicTokens`
(deque + counters) and `parse … .Classic` against the specification `LC/Spec/ClassicSpec.lean`.

* name resolution: what the code (`convLoop`), the scoped resolution (`Cl.resolve`) and the translation of named
  terms (`Cl.toDB`) do at a name is one function `occ` (`convLoop_name`, `resolve_name`, `toDB_nvar`); the deque +
  counters are the scoped resolution (`convLoop_eq_resolve`), which is total and keeps the shape of the tokens
  (`resolve_shape`);
* lexer: step equations of `tokenizeClaAux`, then ONE analysis of what it does after a rendering of
  complete tokens (`lexB_prefix`, on `Cl.RendersB`: binder names as the lexer reads them) — success
  (`lex_rendersB`) and the three kinds of lexical error (`lex_offending`); a `Cl.Renders` string is a
  `Cl.RendersB` string;
* name resolution of printings is the standard translation (`resolve_print`, `resolve_prints`);
* `parse` is one pipeline for both notations (`parse_eq`): the lexer of the notation, for Classic followed by the
  (total) name resolution (`tokensFor`), then the token-level stage of the De Bruijn half;
* an admissible printing is a derivation of the grammar (`dexpr_of_printsD`), so printings are parsed back.
-/
import LC.Spec.ClassicAllSpec
import LC.Proofs.Syntax.DeBruijn

namespace LC
open Parser Parser.CToken Parser.Token Spec Spec.Cl

namespace C09C


theorem indexOf?_eq (x : Name) (l : List Name) : indexOf? x l = l.idxOf? x := by
  induction l with
  | nil => rfl
  | cons y ys ih =>
    rw [indexOf?, List.idxOf?_cons, ih]
    by_cases h : x = y
    · subst h; simp
    · have h' : ¬ y = x := fun e => h e.symm
      simp [h, h']

theorem idxOf?_eq {α : Type} [BEq α] [LawfulBEq α] (l : List α) (a : α) :
    l.idxOf? a = if a ∈ l then some (l.idxOf a) else none := by
  induction l with
  | nil => simp
  | cons x xs ih =>
    rw [List.idxOf?_cons, List.idxOf_cons, ih]
    by_cases h : x = a
    · subst h; simp
    · have h' : ¬ a = x := fun e => h e.symm
      have hb : (x == a) = false := by simp [h]
      by_cases hm : a ∈ xs <;> simp [h', hb, hm]

/-- the number of an occurrence of the name `n` under the binders `B` (innermost first) when the free names `F` have
been met, and the free names known after it: a bound name is numbered by its innermost binder, a free name above all
binders by its rank in `F`, at the end of which a new name is put (`F.idxOf n = F.length` for a new name) -/
def occ (B F : List Name) (n : Name) : Nat × List Name :=
  if n ∈ B then (B.idxOf n + 1, F)
  else (B.length + F.idxOf n + 1, if n ∈ F then F else F ++ [n])

theorem resolve_name (n : Name) (ts : List CToken) (sc : List Name) (scs : List (List Name))
    (F : List Name) :
    resolve (CName n :: ts) (sc :: scs) F =
      (Number (occ (sc :: scs).flatten F n).1 :: ·) <$>
        resolve ts (sc :: scs) (occ (sc :: scs).flatten F n).2 := by
  simp only [resolve, occ, idxOf?_eq]
  generalize (sc :: scs).flatten = B
  by_cases hB : n ∈ B <;> by_cases hF : n ∈ F <;> simp [hB, hF, List.idxOf_eq_length]

theorem toDB_nvar (B F : List Name) (n : Name) :
    toDB B F (.nvar n) = (.var (occ B F n).1, (occ B F n).2) := by
  simp only [toDB, occ, idxOf?_eq]
  by_cases hB : n ∈ B <;> by_cases hF : n ∈ F <;> simp [hB, hF, List.idxOf_eq_length]

/-- the deque is `binders ++ free names`: the lookup from its back end and `push_front` of a new name are `occ` -/
theorem convLoop_name (n : Name) (ts : List CToken) (B F : List Name) (c : Nat) (cs : List Nat) :
    convLoop (CName n :: ts) (B ++ F) (c :: cs) =
      (Number (occ B F n).1 :: ·) <$> convLoop ts (B ++ (occ B F n).2) (c :: cs) := by
  simp only [convLoop, occ, indexOf?_eq, idxOf?_eq, List.mem_append, List.idxOf_append]
  by_cases hB : n ∈ B <;> by_cases hF : n ∈ F <;>
    simp [hB, hF, List.idxOf_eq_length, Nat.add_comm (List.idxOf n F)]

/-- generalised invariant: the deque is `binders in scope (innermost first) ++ free names (in
order)`, the counters are the sizes of the scopes -/
theorem convLoop_eq_resolve (ts : List CToken) :
    ∀ (scs : List (List Name)) (free : List Name),
      convLoop ts (scs.flatten ++ free) (scs.map List.length) = resolve ts scs free := by
  induction ts with
  | nil => intro scs free; simp [convLoop, resolve]
  | cons t ts ih =>
    intro scs free
    cases scs with
    | nil => cases t <;> simp [convLoop, resolve]
    | cons sc scs =>
      cases t with
      | CLambda n =>
        have := ih ((n :: sc) :: scs) free
        simp only [List.flatten_cons, List.map_cons, List.length_cons, List.cons_append] at this
        simp only [convLoop, resolve, List.flatten_cons, List.map_cons, this]
      | CLparen =>
        have := ih ([] :: sc :: scs) free
        simp only [List.flatten_cons, List.map_cons, List.length_nil, List.nil_append] at this
        simp only [convLoop, resolve, List.flatten_cons, List.map_cons, this]
      | CRparen =>
        cases scs with
        | nil => simp [convLoop, resolve]
        | cons sc' scs' =>
          have := ih (sc' :: scs') free
          simp only [List.flatten_cons, List.map_cons] at this
          have hle : sc.length ≤ (sc ++ (sc' ++ scs'.flatten) ++ free).length := by
            simp only [List.length_append]; omega
          have hdrop : (sc ++ (sc' ++ scs'.flatten) ++ free).drop sc.length
              = sc' ++ scs'.flatten ++ free := by
            rw [List.append_assoc, List.drop_left]
          simp only [convLoop, resolve, List.flatten_cons, List.map_cons, hle, if_true, hdrop, this]
      | CName n => rw [resolve_name, List.map_cons, convLoop_name, ← List.map_cons, ih]

end C09C

open C09C

theorem convert_eq_resolve (ts : List CToken) : convertClassicTokens ts = Cl.resolveAll ts := by
  have := convLoop_eq_resolve ts [[]] []
  simpa [convertClassicTokens, resolveAll] using this


namespace C09C

/-- the reference resolution is total, and its output has the shape of the input up to the first
unmatched `)` -/
theorem resolve_shape (ts : List CToken) :
    ∀ (sc : List Name) (scs : List (List Name)) (free : List Name),
      ∃ toks, resolve ts (sc :: scs) free = some toks ∧
        toks.map shape = (ts.take (scopedPrefix ts scs.length)).map cshape := by
  induction ts with
  | nil => intro sc scs free; exact ⟨[], by simp [resolve]⟩
  | cons t ts ih =>
    intro sc scs free
    cases t with
    | CLambda n =>
      obtain ⟨toks, h, hs⟩ := ih (n :: sc) scs free
      exact ⟨Lambda :: toks, by simp [resolve, h], by simp [scopedPrefix, hs, shape, cshape]⟩
    | CLparen =>
      obtain ⟨toks, h, hs⟩ := ih [] (sc :: scs) free
      exact ⟨Lparen :: toks, by simp [resolve, h],
        by simpa [scopedPrefix, shape, cshape] using hs⟩
    | CRparen =>
      cases scs with
      | nil => exact ⟨[Rparen], by simp [resolve], by simp [scopedPrefix, shape, cshape]⟩
      | cons sc' scs' =>
        obtain ⟨toks, h, hs⟩ := ih sc' scs' free
        exact ⟨Rparen :: toks, by simp [resolve, h],
          by simpa [scopedPrefix, shape, cshape] using hs⟩
    | CName n =>
      obtain ⟨toks, h, hs⟩ := ih sc scs (occ (sc :: scs).flatten free n).2
      exact ⟨_ :: toks, by rw [resolve_name, h]; rfl, by simp [scopedPrefix, hs, shape, cshape]⟩

theorem scopedPrefix_of_closesOk (ts : List CToken) :
    ∀ d, closesOk ts d = true → scopedPrefix ts d = ts.length := by
  induction ts with
  | nil => intro d _; rfl
  | cons t ts ih =>
    intro d h
    cases t with
    | CLambda n => simp only [closesOk] at h; simp [scopedPrefix, ih d h]
    | CLparen => simp only [closesOk] at h; simp [scopedPrefix, ih (d + 1) h]
    | CRparen =>
      cases d with
      | zero => simp [closesOk] at h
      | succ d => simp only [closesOk] at h; simp [scopedPrefix, ih d h]
    | CName n => simp only [closesOk] at h; simp [scopedPrefix, ih d h]

theorem scopedPrefix_le (ts : List CToken) : ∀ d, scopedPrefix ts d ≤ ts.length := by
  induction ts with
  | nil => intro d; simp [scopedPrefix]
  | cons t ts ih =>
    intro d
    cases t with
    | CLambda n => simp [scopedPrefix, ih d]
    | CLparen => simp [scopedPrefix, ih (d + 1)]
    | CRparen =>
      cases d with
      | zero => simp [scopedPrefix]
      | succ d => simp [scopedPrefix, ih d]
    | CName n => simp [scopedPrefix, ih d]

end C09C

/-- structure of the output: one token per input token up to (and including) the first unmatched
`)`, of the same kind: `Lambda`↔`CLambda`, parentheses↔parentheses, `Number`↔`CName` -/
theorem convert_structure (cts : List CToken) :
    ∃ toks, convertClassicTokens cts = some toks ∧
      toks.map shape = (cts.take (scopedPrefix cts 0)).map cshape := by
  rw [convert_eq_resolve, resolveAll]
  exact resolve_shape cts [] [] []

theorem convert_length (cts : List CToken) (h : closesOk cts 0 = true) :
    ∃ toks, convertClassicTokens cts = some toks ∧ toks.length = cts.length ∧
      toks.map shape = cts.map cshape := by
  obtain ⟨toks, h1, h2⟩ := convert_structure cts
  rw [scopedPrefix_of_closesOk cts 0 h, List.take_length] at h2
  refine ⟨toks, h1, ?_, h2⟩
  have := congrArg List.length h2
  simpa using this

theorem convert_length_le (cts : List CToken) :
    ∃ toks, convertClassicTokens cts = some toks ∧ toks.length = scopedPrefix cts 0 ∧
      toks.length ≤ cts.length := by
  obtain ⟨toks, h1, h2⟩ := convert_structure cts
  have := congrArg List.length h2
  have hle := scopedPrefix_le cts 0
  simp only [List.length_map, List.length_take] at this
  exact ⟨toks, h1, by omega, by omega⟩


open Parser.Outcome (ofResult)

/-- the name resolution as a total function (`resolve_shape`) -/
def Spec.Cl.resolveT (cts : List CToken) : List Token := (Cl.resolveAll cts).getD []

theorem resolveAll_eq (cts : List CToken) : Cl.resolveAll cts = some (Cl.resolveT cts) := by
  obtain ⟨toks, h, _⟩ := resolve_shape cts [] [] []
  rw [Cl.resolveT, Cl.resolveAll, h]; rfl

theorem convert_no_panic (ts : List CToken) : convertClassicTokens ts ≠ none := by
  rw [convert_eq_resolve, resolveAll_eq]
  nofun

/-- the De Bruijn tokens that `parse` hands to the token-level stage: the lexer of the notation, for Classic
followed by the name resolution -/
def tokensFor (cls : CharCls) : Notation → List Nat → Except ParseError (List Token)
  | .DeBruijn, s => tokenizeDbr cls s
  | .Classic, s => Cl.resolveT <$> tokenizeCla cls s

/-- `parse`, both notations: ONE pipeline, the lexer of the notation and then the token-level stage, composed as
in `Except`: the first error wins, and there is no panic (the name resolution is total) -/
theorem parse_eq (cls : CharCls) (s : List Nat) (n : Notation) :
    parse cls s n = ofResult (tokensFor cls n s >>= parseTokens) := by
  cases n with
  | DeBruijn => exact parse_dbr_eq cls s
  | Classic =>
    simp only [parse, tokensFor]
    cases tokenizeCla cls s with
    | error e => rfl
    | ok cts =>
      simp only [Functor.map, Except.map, convert_eq_resolve, resolveAll_eq]
      exact tokenStage_ofResult _

theorem parse_ok_iff (cls : CharCls) (s : List Nat) (n : Notation) (t : Term) :
    parse cls s n = .ok t ↔ ∃ ts, tokensFor cls n s = .ok ts ∧ Gr.DExpr ts t := by
  rw [parse_eq, ofResult_ok]
  cases tokensFor cls n s with
  | error e => simp [bind, Except.bind]
  | ok ts => simp [bind, Except.bind, parseTokens_iff]

theorem parse_err_iff (cls : CharCls) (s : List Nat) (n : Notation) (e : ParseError) :
    parse cls s n = .err e ↔
      tokensFor cls n s = .error e ∨ ∃ ts, tokensFor cls n s = .ok ts ∧ parseTokens ts = .error e := by
  rw [parse_eq, ofResult_err]
  cases tokensFor cls n s <;> simp [bind, Except.bind]

/-- once the tokens are known, the outcome is that of the token-level stage -/
theorem parse_ok_of_tokens {cls : CharCls} {s : List Nat} {n : Notation} {ts : List Token}
    (h : tokensFor cls n s = .ok ts) (t : Term) : parse cls s n = .ok t ↔ Gr.DExpr ts t := by
  rw [parse_eq, h, ← parseTokens_iff]
  exact ofResult_ok

theorem parse_err_of_tokens {cls : CharCls} {s : List Nat} {n : Notation} {ts : List Token}
    (h : tokensFor cls n s = .ok ts) (e : ParseError) :
    parse cls s n = .err e ↔ parseTokens ts = .error e := by
  rw [parse_eq, h]
  exact ofResult_err

theorem tokensFor_cla {cls : CharCls} {s : List Nat} {cts : List CToken} {ts : List Token}
    (h1 : tokenizeCla cls s = .ok cts) (h2 : Cl.resolveAll cts = some ts) :
    tokensFor cls .Classic s = .ok ts := by
  rw [resolveAll_eq] at h2
  cases h2
  simp only [tokensFor, h1]; rfl

namespace C09C

variable {cls : CharCls}

theorem except_map_map {ε α β γ} (f : β → γ) (g : α → β) (x : Except ε α) :
    f <$> (g <$> x) = (fun a => f (g a)) <$> x := by
  cases x <;> rfl

theorem except_map_ok {ε α β} (f : α → β) (a : α) :
    f <$> (Except.ok a : Except ε α) = Except.ok (f a) := rfl

theorem lex_top_nil (i : Nat) : tokenizeClaAux cls .top i [] = .ok [] := by
  simp [tokenizeClaAux]

theorem lex_top_ws (hcls : ClsOk cls) {c : Nat} (hc : cls.isWs c = true) (i : Nat) (s : List Nat) :
    tokenizeClaAux cls .top i (c :: s) = tokenizeClaAux cls .top (i + 1) s := by
  obtain ⟨h1, h2, h3⟩ := hcls.1 c hc
  simp [tokenizeClaAux, h1, h2, h3, hc]

theorem lex_top_lparen (i : Nat) (s : List Nat) :
    tokenizeClaAux cls .top i (cLparen :: s)
      = (CLparen :: ·) <$> tokenizeClaAux cls .top (i + 1) s := by
  have : isLam cLparen = false := by decide
  simp [tokenizeClaAux, this]

theorem lex_top_rparen (i : Nat) (s : List Nat) :
    tokenizeClaAux cls .top i (cRparen :: s)
      = (CRparen :: ·) <$> tokenizeClaAux cls .top (i + 1) s := by
  have h1 : isLam cRparen = false := by decide
  have h2 : (cRparen == cLparen) = false := by decide
  simp [tokenizeClaAux, h1, h2]

theorem lex_top_glyph {g : Nat} (hg : isLam g = true) (i : Nat) (s : List Nat) :
    tokenizeClaAux cls .top i (g :: s) = tokenizeClaAux cls (.lam [] true) (i + 1) s := by
  simp [tokenizeClaAux, hg]

theorem lex_top_alpha {c : Nat} (h1 : isLam c = false) (h2 : c ≠ cLparen) (h3 : c ≠ cRparen)
    (h4 : cls.isWs c = false) (h5 : cls.isAlpha c = true) (i : Nat) (s : List Nat) :
    tokenizeClaAux cls .top i (c :: s) = tokenizeClaAux cls (.name [c]) (i + 1) s := by
  simp [tokenizeClaAux, h1, h2, h3, h4, h5]

theorem lex_top_bad {c : Nat} (h1 : isLam c = false) (h2 : c ≠ cLparen) (h3 : c ≠ cRparen)
    (h4 : cls.isWs c = false) (h5 : cls.isAlpha c = false) (i : Nat) (s : List Nat) :
    tokenizeClaAux cls .top i (c :: s) = .error (.InvalidCharacter i c) := by
  simp [tokenizeClaAux, h1, h2, h3, h4, h5]

/-- the first character of a binder name: a letter starts the name (the dot is not tested for: an
empty name cannot be ended, repair F12) -/
theorem lex_lam_first {c : Nat} (hc : cls.isAlpha c = true) (name : List Nat) (i : Nat)
    (s : List Nat) :
    tokenizeClaAux cls (.lam name true) i (c :: s)
      = tokenizeClaAux cls (.lam (name ++ [c]) false) (i + 1) s := by
  simp [tokenizeClaAux, hc]

theorem lex_lam_first_bad {c : Nat} (hc : cls.isAlpha c = false) (name : List Nat) (i : Nat)
    (s : List Nat) :
    tokenizeClaAux cls (.lam name true) i (c :: s) = .error (.InvalidCharacter i c) := by
  simp [tokenizeClaAux, hc]

theorem lex_lam_next_bad {c : Nat} (hd : c ≠ cDot) (hc : cls.isAlnum c = false) (name : List Nat)
    (i : Nat) (s : List Nat) :
    tokenizeClaAux cls (.lam name false) i (c :: s) = .error (.InvalidCharacter i c) := by
  simp [tokenizeClaAux, hc, hd]

theorem lex_lam_acc (rest : List Nat) (n : List Nat) :
    ∀ (acc : List Nat) (i : Nat), (∀ d ∈ n, cls.isAlnum d = true ∧ d ≠ cDot) →
      tokenizeClaAux cls (.lam acc false) i (n ++ rest)
        = tokenizeClaAux cls (.lam (acc ++ n) false) (i + n.length) rest := by
  induction n with
  | nil => intro acc i _; simp
  | cons d n ih =>
    intro acc i h
    obtain ⟨ha, hd⟩ := h d (by simp)
    have := ih (acc ++ [d]) (i + 1) (fun e he => h e (by simp [he]))
    have e : i + 1 + n.length = i + (n.length + 1) := by omega
    simp [tokenizeClaAux, hd, ha, this, e]

theorem lex_lamB (s : List Nat) {n : List Nat} (hn : BName cls n) (i : Nat) :
    tokenizeClaAux cls (.lam [] true) i (n ++ cDot :: s)
      = (CLambda n :: ·) <$> tokenizeClaAux cls .top (i + n.length + 1) s := by
  obtain ⟨c, cs, rfl, hal, hrest⟩ := hn
  have e : i + 1 + cs.length + 1 = i + (cs.length + 1) + 1 := by omega
  rw [List.cons_append, lex_lam_first hal, List.nil_append, lex_lam_acc _ cs [c] _ hrest]
  simp [tokenizeClaAux, e]

theorem lex_name_rest (s : List Nat) (n : List Nat) :
    ∀ (acc : List Nat) (i : Nat), (∀ d ∈ n, cls.isAlnum d = true ∧ d ≠ cLambda) →
      tokenizeClaAux cls (.name acc) i (n ++ s)
        = tokenizeClaAux cls (.name (acc ++ n)) (i + n.length) s := by
  induction n with
  | nil => intro acc i _; simp
  | cons d n ih =>
    intro acc i h
    obtain ⟨h1, h2⟩ := h d (by simp)
    have h3 : (d != cLambda) = true := by simp [h2]
    have := ih (acc ++ [d]) (i + 1) (fun e he => h e (by simp [he]))
    simp only [List.cons_append, tokenizeClaAux, h1, h3, Bool.and_self, if_true, this,
      List.append_assoc, List.length_cons]
    congr 1; omega

theorem alnum_facts (hcls : ClsOk cls) {c : Nat} (hc : cls.isAlnum c = true) :
    cls.isWs c = false ∧ c ≠ cLparen ∧ c ≠ cRparen ∧ c ≠ cBackslash := hcls.2.2 c hc

theorem not_alnum_of_delim (hcls : ClsOk cls) {c : Nat}
    (hc : cls.isWs c = true ∨ c = cLparen ∨ c = cRparen ∨ c = cBackslash) :
    cls.isAlnum c = false := by
  cases h : cls.isAlnum c with
  | false => rfl
  | true =>
    obtain ⟨h1, h2, h3, h4⟩ := alnum_facts hcls h
    rcases hc with hc | hc | hc | hc
    · rw [h1] at hc; cases hc
    · exact absurd hc h2
    · exact absurd hc h3
    · exact absurd hc h4

theorem ws_ne_backslash (hcls : ClsOk cls) {c : Nat} (hc : cls.isWs c = true) : c ≠ cBackslash := by
  rintro rfl
  have := (hcls.1 _ hc).1
  revert this; decide

/-- a character that does not continue a variable name (the test of the code: "alphanumeric and
not the glyph `λ`" fails) ends it and is then lexed at top level: mode `.name` on it is
`CName acc ::` what mode `.top` does on it -/
theorem lex_name_break (acc : List Nat) (i : Nat) {c : Nat}
    (hc : (cls.isAlnum c && c != cLambda) = false) (s : List Nat) :
    tokenizeClaAux cls (.name acc) i (c :: s)
      = (CName acc :: ·) <$> tokenizeClaAux cls .top i (c :: s) := by
  rw [tokenizeClaAux, tokenizeClaAux, if_neg (by rw [hc]; exact Bool.false_ne_true)]
  -- the remaining tests of mode `.name` are those of mode `.top`, in the same order
  simp only [apply_ite (Functor.map (CName acc :: ·)), except_map_map]
  rfl

theorem isLam_glyph {lam : Nat} (hl : lam = 955 ∨ lam = 92) : isLam lam = true := by
  rcases hl with rfl | rfl <;> decide

theorem isLam_cases {g : Nat} (hg : isLam g = true) : g = cBackslash ∨ g = cLambda := by
  simpa [isLam] using hg

theorem lex_name_end {s : List Nat} (hs : NameEnd cls s) (acc : List Nat) (i : Nat) :
    tokenizeClaAux cls (.name acc) i s = (CName acc :: ·) <$> tokenizeClaAux cls .top i s := by
  cases s with
  | nil => simp only [tokenizeClaAux]; rfl
  | cons c s =>
    rcases hs with hs | rfl
    · exact lex_name_break acc i (by rw [hs]; rfl) s
    · exact lex_name_break acc i (by simp) s

/-- a glyph (either one) may end a name: the backslash is not alphanumeric, the glyph `λ` is
excluded from names by the lexer's explicit test (repair F11) -/
theorem nameEnd_glyph (hcls : ClsOk cls) {g : Nat} (hg : isLam g = true) (s : List Nat) :
    NameEnd cls (g :: s) := by
  rcases isLam_cases hg with rfl | rfl
  · exact .inl (not_alnum_of_delim hcls (.inr (.inr (.inr rfl))))
  · exact .inr rfl

theorem wfName_alnum (hcls : ClsOk cls) {n : List Nat} (hn : WfName cls n) :
    ∀ d ∈ n, cls.isAlnum d = true := by
  obtain ⟨⟨c, cs, rfl, hal, _, hrest⟩, _, _⟩ := hn
  intro d hd
  rcases List.mem_cons.1 hd with rfl | hd
  · exact hcls.2.1 _ hal
  · exact hrest d hd

theorem lex_name (hcls : ClsOk cls) {n s : List Nat} (hn : WfName cls n) (hs : NameEnd cls s)
    (i : Nat) :
    tokenizeClaAux cls .top i (n ++ s)
      = (CName n :: ·) <$> tokenizeClaAux cls .top (i + n.length) s := by
  obtain ⟨⟨c, cs, rfl, hal, hg, hrest⟩, hall, hnl⟩ := hn
  obtain ⟨h1, h2, h3, _⟩ := alnum_facts hcls (hcls.2.1 _ hal)
  rw [List.cons_append, lex_top_alpha hg h2 h3 h1 hal,
    lex_name_rest s cs [c] (i + 1) (fun d hd => ⟨hrest d hd, hnl d (by simp [hd])⟩),
    lex_name_end hs]
  simp only [List.cons_append, List.nil_append, List.length_cons]
  congr 2; omega

/-! ### the lexer after a rendering of complete tokens

The statements are about `RendersB` (binder names as the lexer reads them); a `Renders` string is a
`RendersB` string (`rendersB_of_renders`). -/

theorem bName_of_wfName {n : Name} (hn : WfName cls n) : BName cls n := by
  obtain ⟨⟨c, cs, rfl, hal, _, hrest⟩, hall, _⟩ := hn
  exact ⟨c, cs, rfl, hal, fun d hd => ⟨hrest d hd, hall d (by simp [hd])⟩⟩

theorem rendersB_of_renders {cts : List CToken} {s : List Nat} (h : Renders cls cts s) :
    RendersB cls cts s := by
  induction h with
  | nil => exact .nil
  | ws hc _ ih => exact .ws hc ih
  | lparen _ ih => exact .lparen ih
  | rparen _ ih => exact .rparen ih
  | lam hg hn _ ih => exact .lam hg (bName_of_wfName hn) ih
  | name hn hs _ ih => exact .name hn hs ih

theorem endsTop_of_append {a s : List Nat} (h : EndsTop cls (a ++ s)) : EndsTop cls s := by
  intro c hc
  apply h c
  rw [List.getLast?_append, hc]; rfl

theorem endsTop_of_cons {a : Nat} {s : List Nat} (h : EndsTop cls (a :: s)) : EndsTop cls s :=
  endsTop_of_append (a := [a]) h

/-- a well-formed name does not end at top level: its last character is alphanumeric, hence
(`ClsOk`) neither whitespace nor a parenthesis, and it is not the dot -/
theorem wfName_not_endsTop (hcls : ClsOk cls) {n : List Nat} (hn : WfName cls n) :
    ¬ EndsTop cls n := by
  intro h
  have hal := wfName_alnum hcls hn
  obtain ⟨⟨c, cs, rfl, _⟩, hall, _⟩ := hn
  cases hl : (c :: cs).getLast? with
  | none => simp at hl
  | some d =>
    have hd := List.mem_of_getLast? hl
    obtain ⟨h1, h2, h3, _⟩ := alnum_facts hcls (hal d hd)
    rcases h d hl with h' | h' | h' | h'
    · rw [h1] at h'; cases h'
    · exact h2 h'
    · exact h3 h'
    · exact hall d hd h'

theorem nameEnd_append {s : List Nat} (hs : NameEnd cls s) (hne : s ≠ []) (rest : List Nat) :
    NameEnd cls (s ++ rest) := by
  cases s with
  | nil => exact absurd rfl hne
  | cons c s => exact hs

/-- what follows the name `n` at the end of `n ++ s` when `rest` is appended: `s ++ rest` may end
the name if `s` does (when `s` is empty: because `rest` does, the name not ending at top level) -/
theorem nameEnd_append_rest (hcls : ClsOk cls) {n s rest : List Nat} (hn : WfName cls n)
    (hs : NameEnd cls s) (he : EndsTop cls (n ++ s) ∨ NameEnd cls rest) :
    NameEnd cls (s ++ rest) := by
  cases s with
  | nil =>
    rcases he with he | he
    · rw [List.append_nil] at he
      exact absurd he (wfName_not_endsTop hcls hn)
    · exact he
  | cons c s => exact hs

/-- after a rendering the lexer has produced its tokens and continues at top level with whatever
follows, provided the rendering ends at top level or — if it ends inside a name — what follows may
end a name (it is empty or starts with a character that is not alphanumeric or is the glyph `λ`) -/
theorem lexB_prefix (hcls : ClsOk cls) {ts : List CToken} {pre : List Nat}
    (h : RendersB cls ts pre) :
    ∀ (i : Nat) (rest : List Nat), (EndsTop cls pre ∨ NameEnd cls rest) →
      tokenizeClaAux cls .top i (pre ++ rest)
        = (ts ++ ·) <$> tokenizeClaAux cls .top (i + pre.length) rest := by
  induction h with
  | nil =>
    intro i rest _
    cases h : tokenizeClaAux cls .top i rest <;> simp [h] <;> rfl
  | @ws c cts s hc _ ih =>
    intro i rest he
    rw [List.cons_append, lex_top_ws hcls hc, ih _ _ (he.imp endsTop_of_cons id)]
    simp only [List.length_cons]; congr 2; omega
  | @lparen cts s _ ih =>
    intro i rest he
    rw [List.cons_append, lex_top_lparen, ih _ _ (he.imp endsTop_of_cons id), except_map_map]
    simp only [List.length_cons, List.cons_append]; congr 2; omega
  | @rparen cts s _ ih =>
    intro i rest he
    rw [List.cons_append, lex_top_rparen, ih _ _ (he.imp endsTop_of_cons id), except_map_map]
    simp only [List.length_cons, List.cons_append]; congr 2; omega
  | @lam g n cts s hg hn _ ih =>
    intro i rest he
    have he' : EndsTop cls s ∨ NameEnd cls rest :=
      he.imp (fun h => endsTop_of_cons (endsTop_of_append (a := n) (endsTop_of_cons h))) id
    rw [List.cons_append, List.append_assoc, List.cons_append, lex_top_glyph hg, lex_lamB _ hn,
      ih _ _ he', except_map_map]
    simp only [List.length_cons, List.length_append, List.cons_append]; congr 2; omega
  | @name n cts s hn hs _ ih =>
    intro i rest he
    rw [List.append_assoc, lex_name hcls hn (nameEnd_append_rest hcls hn hs he),
      ih _ _ (he.imp endsTop_of_append id), except_map_map]
    simp only [List.length_append, List.cons_append]; congr 2; omega

/-- renderings compose: after a rendering that ends at top level — or, if it ends inside a name,
when what follows may end a name (the end of the input, a character that is not alphanumeric —
whitespace, a parenthesis, a backslash … — or the glyph `λ`) — any rendering may follow -/
theorem rendersB_append (hcls : ClsOk cls) {ts₁ ts₂ : List CToken} {pre s : List Nat}
    (h₁ : RendersB cls ts₁ pre) (h₂ : RendersB cls ts₂ s) :
    (EndsTop cls pre ∨ NameEnd cls s) → RendersB cls (ts₁ ++ ts₂) (pre ++ s) := by
  induction h₁ with
  | nil => intro _; exact h₂
  | ws hc _ ih => intro he; exact .ws hc (ih (he.imp endsTop_of_cons id))
  | lparen _ ih => intro he; exact .lparen (ih (he.imp endsTop_of_cons id))
  | rparen _ ih => intro he; exact .rparen (ih (he.imp endsTop_of_cons id))
  | @lam g n cts s' hg hn _ ih =>
    intro he
    have he' : EndsTop cls s' ∨ NameEnd cls s :=
      he.imp (fun h => endsTop_of_cons (endsTop_of_append (a := n) (endsTop_of_cons h))) id
    have := RendersB.lam hg hn (ih he')
    rw [List.cons_append, List.cons_append, List.append_assoc, List.cons_append]
    exact this
  | @name n cts s' hn hs _ ih =>
    intro he
    have := RendersB.name hn (nameEnd_append_rest hcls hn hs he)
      (ih (he.imp endsTop_of_append id))
    rw [List.cons_append, List.append_assoc]
    exact this

/-- the binder names of a `Renders` list are well-formed names … -/
theorem binderWf_of_renders {cts : List CToken} {s : List Nat} (h : Renders cls cts s) :
    ∀ n, CLambda n ∈ cts → WfName cls n := by
  induction h with
  | nil => intro n hn; cases hn
  | ws _ _ ih => exact ih
  | lparen _ ih => intro n hn; exact ih n (by simpa using hn)
  | rparen _ ih => intro n hn; exact ih n (by simpa using hn)
  | lam _ hm _ ih =>
    intro n hn
    rcases List.mem_cons.1 hn with e | hn
    · cases e; exact hm
    · exact ih n hn
  | name _ _ _ ih => intro n hn; exact ih n (by simpa using hn)

/-- … and that is all that distinguishes `Renders` from `RendersB` -/
theorem renders_of_rendersB_wf {cts : List CToken} {s : List Nat} (h : RendersB cls cts s) :
    (∀ n, CLambda n ∈ cts → BName cls n → WfName cls n) → Renders cls cts s := by
  induction h with
  | nil => intro _; exact .nil
  | ws hc _ ih => intro hf; exact .ws hc (ih hf)
  | lparen _ ih => intro hf; exact .lparen (ih fun n hn => hf n (by simp [hn]))
  | rparen _ ih => intro hf; exact .rparen (ih fun n hn => hf n (by simp [hn]))
  | lam hg hm _ ih => intro hf; exact .lam hg (hf _ (by simp) hm) (ih fun n hn => hf n (by simp [hn]))
  | name hn hs _ ih => intro hf; exact .name hn hs (ih fun n hn => hf n (by simp [hn]))

theorem renders_append (hcls : ClsOk cls) {ts₁ ts₂ : List CToken} {pre s : List Nat}
    (h₁ : Renders cls ts₁ pre) (h₂ : Renders cls ts₂ s) (he : EndsTop cls pre ∨ NameEnd cls s) :
    Renders cls (ts₁ ++ ts₂) (pre ++ s) :=
  renders_of_rendersB_wf (rendersB_append hcls (rendersB_of_renders h₁) (rendersB_of_renders h₂) he)
    fun n hn _ => (List.mem_append.1 hn).elim (binderWf_of_renders h₁ n) (binderWf_of_renders h₂ n)

theorem lex_rendersB (hcls : ClsOk cls) {cts : List CToken} {s : List Nat}
    (h : RendersB cls cts s) : tokenizeCla cls s = .ok cts := by
  have := lexB_prefix hcls h 0 [] (.inr trivial)
  rw [List.append_nil] at this
  unfold tokenizeCla
  rw [this, lex_top_nil]
  simp [except_map_ok]

/-- LEXICAL ERRORS: an offending character is reported with its index.  The three cases of
`Offending`: a character that cannot start a token, after complete tokens (if they end inside a name:
a character that ends the name); a character that is not a letter, after a glyph; a character other
than the dot that is not alphanumeric, inside a binder name. -/
theorem lex_offending (hcls : ClsOk cls) {pre : List Nat} {c : Nat} (h : Offending cls pre c)
    (post : List Nat) :
    tokenizeCla cls (pre ++ c :: post) = .error (.InvalidCharacter pre.length c) := by
  unfold tokenizeCla
  rcases h with ⟨cts, hpre, hend, hg, hlp, hrp, hws, hal⟩ |
    ⟨cts, pre₀, g, rfl, hpre, hg, hal⟩ | ⟨cts, pre₀, g, nm, rfl, hpre, hg, hnm, hd, han⟩
  · rw [lexB_prefix hcls hpre 0 (c :: post) (hend.imp id Or.inl), lex_top_bad hg hlp hrp hws hal,
      Nat.zero_add]
    rfl
  · rw [List.append_assoc, List.cons_append, List.nil_append,
      lexB_prefix hcls hpre 0 _ (.inr (nameEnd_glyph hcls hg _)),
      lex_top_glyph hg, lex_lam_first_bad hal]
    simp only [List.length_append, List.length_cons, List.length_nil, Nat.zero_add]
    rfl
  · obtain ⟨a, as, rfl, hal, hrest⟩ := hnm
    rw [List.append_assoc, List.cons_append, List.cons_append,
      lexB_prefix hcls hpre 0 _ (.inr (nameEnd_glyph hcls hg _)),
      lex_top_glyph hg, lex_lam_first hal, List.nil_append,
      lex_lam_acc _ as [a] _ hrest, lex_lam_next_bad hd han]
    simp only [List.length_append, List.length_cons, Nat.zero_add]
    have e : pre₀.length + 1 + 1 + as.length = pre₀.length + (as.length + 1 + 1) := by omega
    rw [e]; rfl

end C09C

/-- LEXER: on any rendering of a list of named tokens — whatever the glyphs and the whitespace —
the lexer returns exactly that list -/
theorem tokenizeCla_render (cls : CharCls) (hcls : Cl.ClsOk cls) (cts : List CToken) (s : List Nat)
    (h : Cl.Renders cls cts s) : tokenizeCla cls s = .ok cts :=
  lex_rendersB hcls (rendersB_of_renders h)

/-- for Rust's classification the dot is not alphanumeric (checked by the harness for all code
points); with that fact and `ClsOk` a well-formed name is just: a letter other than a glyph, then
alphanumeric characters other than the glyph `λ` -/
theorem wfName_of_unicode (cls : CharCls) (hcls : Cl.ClsOk cls)
    (hdot : cls.isAlnum cDot = false)
    (c : Nat) (cs : List Nat) (hc : cls.isAlpha c = true) (hg : isLam c = false)
    (hcs : ∀ d ∈ cs, cls.isAlnum d = true ∧ d ≠ cLambda) : Cl.WfName cls (c :: cs) := by
  refine ⟨⟨c, cs, rfl, hc, hg, fun d hd => (hcs d hd).1⟩, ?_, ?_⟩
  · have hb : ∀ d, cls.isAlnum d = true → d ≠ cDot := by
      rintro d hd rfl
      rw [hdot] at hd; cases hd
    intro d hd
    rcases List.mem_cons.1 hd with rfl | hd
    · exact hb _ (hcls.2.1 _ hc)
    · exact hb _ (hcs d hd).1
  · intro d hd
    rcases List.mem_cons.1 hd with rfl | hd
    · rintro rfl; revert hg; decide
    · exact (hcs d hd).2

/-- … and conversely, so under these facts `WfName` IS "a letter other than a glyph followed by
alphanumeric characters other than the glyph `λ`" -/
theorem wfName_iff_unicode (cls : CharCls) (hcls : Cl.ClsOk cls)
    (hdot : cls.isAlnum cDot = false) (n : List Nat) :
    Cl.WfName cls n ↔
      ∃ c cs, n = c :: cs ∧ cls.isAlpha c = true ∧ isLam c = false ∧
        ∀ d ∈ cs, cls.isAlnum d = true ∧ d ≠ cLambda := by
  constructor
  · rintro ⟨⟨c, cs, rfl, hc, hg, hcs⟩, _, hnl⟩
    exact ⟨c, cs, rfl, hc, hg, fun d hd => ⟨hcs d hd, hnl d (by simp [hd])⟩⟩
  · rintro ⟨c, cs, rfl, hc, hg, hcs⟩
    exact wfName_of_unicode cls hcls hdot c cs hc hg hcs

namespace C09C

variable {cls : CharCls}

theorem renders_ws_prefix {ts : List CToken} {s : List Nat} (h : Renders cls ts s) (ws : List Nat)
    (hws : ∀ w ∈ ws, cls.isWs w = true) : Renders cls ts (ws ++ s) := by
  induction ws with
  | nil => exact h
  | cons w ws ih =>
    exact .ws (hws w (by simp)) (ih (fun v hv => hws v (by simp [hv])))

theorem nameEnd_ws_glyph (hcls : ClsOk cls) {g : Nat} (hg : isLam g = true) (ws s : List Nat)
    (hws : ∀ w ∈ ws, cls.isWs w = true) :
    NameEnd cls (ws ++ g :: s) := by
  cases ws with
  | nil => exact nameEnd_glyph hcls hg s
  | cons w ws => exact .inl (not_alnum_of_delim hcls (.inl (hws w (by simp))))

end C09C

/-- WHITESPACE BEFORE A BINDER, either glyph: a variable name may be followed directly by a binder;
with or without whitespace in between the string renders the same named tokens
(`pre`: any rendering that ends at top level, so that the name `n` starts a token) -/
theorem renders_name_glyph (cls : CharCls) (hcls : Cl.ClsOk cls) (ts₀ cts : List CToken)
    (pre n ws s : List Nat) (g : Nat) (hg : isLam g = true)
    (hpre : Cl.Renders cls ts₀ pre) (hend : Cl.EndsTop cls pre) (hn : Cl.WfName cls n)
    (hws : ∀ w ∈ ws, cls.isWs w = true) (hs : Cl.Renders cls cts (g :: s)) :
    Cl.Renders cls (ts₀ ++ CName n :: cts) (pre ++ (n ++ (ws ++ g :: s))) :=
  renders_append hcls hpre
    (.name hn (nameEnd_ws_glyph hcls hg ws s hws) (renders_ws_prefix hs ws hws)) (Or.inl hend)

namespace C09C
open NTerm Term

/-- the binders left open (not enclosed in parentheses) by the printing of `t` in context `ctx`,
innermost first -/
def opened : NTerm → Nat → List Name
  | nvar _, _ => []
  | nlam n b, ctx => if ctx > 1 then [] else opened b 0 ++ [n]
  | napp _ _, _ => []

theorem opened_of_gt (t : NTerm) {ctx : Nat} (h : ctx > 1) : opened t ctx = [] := by
  cases t <;> simp [opened, h]

/-- compositional form: resolving the printing of `t` followed by `rest` yields the De Bruijn
printing of the translation of `t`, then continues on `rest` with the binders opened by `t` added
to the innermost scope and the free-name list extended as by the translation -/
theorem resolve_print (t : NTerm) :
    ∀ (ctx : Nat) (rest : List CToken) (sc : List Name) (scs : List (List Name)) (free : List Name),
      resolve (printN t ctx ++ rest) (sc :: scs) free =
        (printD (toDB (sc :: scs).flatten free t).1 ctx ++ ·) <$>
          resolve rest ((opened t ctx ++ sc) :: scs) (toDB (sc :: scs).flatten free t).2 := by
  induction t with
  | nvar n =>
    intro ctx rest sc scs free
    simp only [printN, List.cons_append, List.nil_append, resolve_name, toDB_nvar, opened, printD]
  | nlam n b ih =>
    intro ctx rest sc scs free
    by_cases hctx : ctx > 1
    · -- parenthesised: `(` opens a scope of its own, which holds `n` and whatever the body opens, and `)`
      -- closes it again: nothing stays open
      have := ih 0 (CRparen :: rest) [n] (sc :: scs) free
      simp only [List.flatten_cons, List.cons_append, List.nil_append] at this
      simp only [printN, parenC, hctx, decide_true, if_true, List.cons_append, List.append_assoc,
        List.nil_append, resolve, List.flatten_cons, this, toDB, printD, parenD, opened,
        Option.map_eq_map, Option.map_map]
      rfl
    · -- bare: the binder `n` joins the innermost scope and stays open, below whatever the body opens
      have := ih 0 rest (n :: sc) scs free
      simp only [List.flatten_cons, List.cons_append] at this
      simp only [printN, parenC, hctx, decide_false, if_false, List.cons_append,
        resolve, List.flatten_cons, this, toDB, printD, parenD, opened, Bool.false_eq_true,
        Option.map_eq_map, Option.map_map, List.append_assoc, List.nil_append]
      rfl
  | napp f a ihf iha =>
    intro ctx rest sc scs free
    by_cases hctx : ctx = 3
    · -- parenthesised: function and argument are resolved in a new empty scope (neither leaves a binder
      -- open, `opened_of_gt`), the free names found in the function being known in the argument
      subst hctx
      have h1 := ihf 2 (printN a 3 ++ CRparen :: rest) [] (sc :: scs) free
      have h2 := iha 3 (CRparen :: rest) [] (sc :: scs) (toDB (sc :: scs).flatten free f).2
      simp only [opened_of_gt _ (show 2 > 1 by omega), opened_of_gt _ (show 3 > 1 by omega),
        List.flatten_cons, List.nil_append] at h1 h2
      simp only [printN, parenC, beq_self_eq_true, if_true, List.cons_append, List.append_assoc,
        List.nil_append, resolve, List.flatten_cons, h1, h2, toDB, printD, parenD, opened,
        Option.map_eq_map, Option.map_map]
      rfl
    · -- bare: the same in the current scope
      have h1 := ihf 2 (printN a 3 ++ rest) sc scs free
      have h2 := iha 3 rest sc scs (toDB (sc :: scs).flatten free f).2
      simp only [opened_of_gt _ (show 2 > 1 by omega), opened_of_gt _ (show 3 > 1 by omega),
        List.nil_append] at h1 h2
      have hb : (ctx == 3) = false := by simp [hctx]
      simp only [printN, parenC, hb, Bool.false_eq_true, if_false, List.append_assoc, h1, h2,
        toDB, printD, parenD, opened, Option.map_eq_map, Option.map_map, List.nil_append]
      rfl

end C09C

/-- NAME RESOLUTION = STANDARD TRANSLATION: resolving the named tokens of the printing of a named
term gives the De Bruijn tokens of the printing of its standard De Bruijn translation -/
theorem resolve_print_toDB (t : Cl.NTerm) (ctx : Nat) :
    Cl.resolveAll (Cl.printN t ctx) = some (Cl.printD (Cl.toDeBruijn t) ctx) := by
  have := resolve_print t ctx [] [] [] []
  simpa [resolveAll, toDeBruijn, resolve] using this

theorem convert_print_toDB (t : Cl.NTerm) (ctx : Nat) :
    convertClassicTokens (Cl.printN t ctx) = some (Cl.printD (Cl.toDeBruijn t) ctx) := by
  rw [convert_eq_resolve, resolve_print_toDB]


namespace C09C
open NTerm Term

theorem PrintsN_fin {t arg fin cts} (h : PrintsN t arg fin cts) : PrintsN t arg true cts := by
  induction h with
  | var => exact .var
  | lam _ ih => exact .lam ih
  | app hf _ _ iha => exact .app hf iha
  | paren h _ => exact .paren h

theorem PrintsD_fin {t arg fin ts} (h : PrintsD t arg fin ts) : PrintsD t arg true ts := by
  induction h with
  | var => exact .var
  | lam _ ih => exact .lam ih
  | app hf _ _ iha => exact .app hf iha
  | paren h _ => exact .paren h

/-- the crate's parenthesisation discipline is an admissible printing -/
theorem printN_prints (t : NTerm) :
    ∀ ctx, PrintsN t (ctx == 3) (decide (ctx ≤ 1)) (printN t ctx) := by
  induction t with
  | nvar n => intro ctx; exact .var
  | nlam n b ih =>
    intro ctx
    by_cases hctx : ctx > 1
    · simp only [printN, parenC, hctx, decide_true, if_true]
      exact .paren (.lam (ih 0))
    · have h1 : ctx ≤ 1 := by omega
      simp only [printN, parenC, hctx, decide_false, Bool.false_eq_true, if_false, h1, decide_true]
      exact .lam (ih 0)
  | napp f a ihf iha =>
    intro ctx
    by_cases hctx : ctx = 3
    · subst hctx
      simp only [printN, parenC, beq_self_eq_true, if_true]
      exact .paren (.app (ihf 2) (PrintsN_fin (iha 3)))
    · have hb : (ctx == 3) = false := by simp [hctx]
      simp only [printN, parenC, hb, Bool.false_eq_true, if_false]
      cases hfin : decide (ctx ≤ 1) with
      | true => exact .app (ihf 2) (PrintsN_fin (iha 3))
      | false => exact .app (ihf 2) (iha 3)

theorem printD_prints (t : Term) :
    ∀ ctx, PrintsD t (ctx == 3) (decide (ctx ≤ 1)) (printD t ctx) := by
  induction t with
  | var i => intro ctx; exact .var
  | abs b ih =>
    intro ctx
    by_cases hctx : ctx > 1
    · simp only [printD, parenD, hctx, decide_true, if_true]
      exact .paren (.lam (ih 0))
    · have h1 : ctx ≤ 1 := by omega
      simp only [printD, parenD, hctx, decide_false, Bool.false_eq_true, if_false, h1, decide_true]
      exact .lam (ih 0)
  | app f a ihf iha =>
    intro ctx
    by_cases hctx : ctx = 3
    · subst hctx
      simp only [printD, parenD, beq_self_eq_true, if_true]
      exact .paren (.app (ihf 2) (PrintsD_fin (iha 3)))
    · have hb : (ctx == 3) = false := by simp [hctx]
      simp only [printD, parenD, hb, Bool.false_eq_true, if_false]
      cases hfin : decide (ctx ≤ 1) with
      | true => exact .app (ihf 2) (PrintsD_fin (iha 3))
      | false => exact .app (ihf 2) (iha 3)

/-- compositional form: resolving an admissible printing of `t` followed by `rest` yields an
admissible printing (same parentheses) of the translation of `t`, then continues on `rest` with the
binders `op` left open by `t` (none unless the position is final) and the free names of the
translation -/
theorem resolve_prints {t : NTerm} {arg fin : Bool} {cts : List CToken}
    (h : PrintsN t arg fin cts) :
    ∀ (rest : List CToken) (sc : List Name) (scs : List (List Name)) (free : List Name),
      ∃ dts op, PrintsD (toDB (sc :: scs).flatten free t).1 arg fin dts ∧ (fin = false → op = []) ∧
        resolve (cts ++ rest) (sc :: scs) free =
          (dts ++ ·) <$> resolve rest ((op ++ sc) :: scs) (toDB (sc :: scs).flatten free t).2 := by
  induction h with
  | @var n arg fin =>
    intro rest sc scs free
    rw [List.cons_append, List.nil_append, resolve_name, toDB_nvar]
    exact ⟨_, [], .var, fun _ => rfl, rfl⟩
  | @lam n b arg cts _ ih =>
    -- a bare abstraction (final position only): `n` joins the innermost scope and stays open below what the body opens
    intro rest sc scs free
    obtain ⟨dts, op, hp, _, he⟩ := ih rest (n :: sc) scs free
    simp only [List.flatten_cons, List.cons_append] at hp he
    refine ⟨Lambda :: dts, op ++ [n], ?_, (fun h => by cases h), ?_⟩
    · simpa only [toDB, List.flatten_cons] using PrintsD.lam hp
    · simp only [List.cons_append, resolve, List.flatten_cons, he, toDB, Option.map_eq_map,
        Option.map_map, List.append_assoc, List.nil_append]
      rfl
  | @app f a fin c₁ c₂ _ _ ihf iha =>
    intro rest sc scs free
    obtain ⟨d₁, op₁, hp₁, ho₁, he₁⟩ := ihf (c₂ ++ rest) sc scs free
    obtain ⟨d₂, op₂, hp₂, ho₂, he₂⟩ := iha rest sc scs (toDB (sc :: scs).flatten free f).2
    -- the operator is not in final position, so it leaves no binder open: the operand is resolved in the same scopes
    rw [ho₁ rfl, List.nil_append] at he₁
    refine ⟨d₁ ++ d₂, op₂, ?_, ho₂, ?_⟩
    · simpa only [toDB] using PrintsD.app hp₁ hp₂
    · simp only [List.append_assoc, he₁, he₂, toDB, Option.map_eq_map, Option.map_map]
      rfl
  | @paren t arg fin cts _ ih =>
    -- `(` opens a scope of its own, which holds whatever `t` leaves open, and `)` closes it: nothing stays open
    intro rest sc scs free
    obtain ⟨dts, op, hp, _, he⟩ := ih (CRparen :: rest) [] (sc :: scs) free
    simp only [List.flatten_cons, List.nil_append] at hp he
    refine ⟨Lparen :: (dts ++ [Rparen]), [], .paren hp, fun _ => rfl, ?_⟩
    simp only [List.cons_append, List.append_assoc, List.nil_append, resolve, List.flatten_cons,
      he, Option.map_eq_map, Option.map_map]
    rfl


/-- an admissible printing of `t` is an expression denoting `t`; in non-final position it is a
sequence of atoms; in argument position it is an atom or, in final position only, a bare
abstraction (which then takes the whole rest of the group as its body) -/
theorem dexpr_of_printsD {t : Term} {arg fin : Bool} {ts : List Token} (h : PrintsD t arg fin ts) :
    Gr.DExpr ts t ∧ (fin = false → Gr.DAtoms ts t) ∧
      (arg = true → Gr.DAtom ts t ∨
        fin = true ∧ ∃ b us, t = abs b ∧ ts = Lambda :: us ∧ Gr.DExpr us b) := by
  induction h with
  | var => exact ⟨.atoms (.one (.idx _)), fun _ => .one (.idx _), fun _ => .inl (.idx _)⟩
  | lam _ ih => exact ⟨.lam ih.1, nofun, fun _ => .inr ⟨rfl, _, _, rfl, rfl, ih.1⟩⟩
  | app _ _ ihf iha =>
    have hf := ihf.2.1 rfl
    rcases iha.2.2 rfl with ha | ⟨rfl, b, us, rfl, rfl, hb⟩
    · exact ⟨.atoms (.snoc hf ha), fun _ => .snoc hf ha, nofun⟩
    · exact ⟨.tailLam hf hb, nofun, nofun⟩
  | paren _ ih =>
    exact ⟨.atoms (.one (.paren ih.1)), fun _ => .one (.paren ih.1), fun _ => .inl (.paren ih.1)⟩

/-- the token-level stage inverts every admissible printing of a De Bruijn term (any indices,
any redundant parentheses) -/
theorem parseTokens_prints {t : Term} {arg fin : Bool} {dts : List Token}
    (h : PrintsD t arg fin dts) : parseTokens dts = .ok t :=
  (parseTokens_iff _ _).2 (dexpr_of_printsD h).1

theorem parseTokens_printD (t : Term) (ctx : Nat) : parseTokens (printD t ctx) = .ok t :=
  parseTokens_prints (printD_prints t ctx)

end C09C

/-- REDUNDANT PARENTHESES: the name resolution of any admissible printing of a named term is an
admissible printing, with the same parentheses, of its standard De Bruijn translation -/
theorem resolve_prints_toDB {t : Cl.NTerm} {arg fin : Bool} {cts : List CToken}
    (h : Cl.PrintsN t arg fin cts) :
    ∃ dts, Cl.resolveAll cts = some dts ∧ Cl.PrintsD (Cl.toDeBruijn t) arg fin dts := by
  obtain ⟨dts, op, hp, _, he⟩ := resolve_prints h [] [] [] []
  refine ⟨dts, ?_, hp⟩
  simpa [resolveAll, resolve] using he

/-- a printing of a named term, lexed from ANY string, parses to the translation of the term -/
theorem parse_cla_of_lex_prints {cls : CharCls} {s : List Nat} {cts : List CToken} {nt : Cl.NTerm}
    {arg fin : Bool} (hl : tokenizeCla cls s = .ok cts) (hp : Cl.PrintsN nt arg fin cts) :
    parse cls s .Classic = .ok (Cl.toDeBruijn nt) := by
  obtain ⟨dts, hd, hpd⟩ := resolve_prints_toDB hp
  exact (parse_ok_of_tokens (tokensFor_cla hl hd) _).2 (dexpr_of_printsD hpd).1

/-- END TO END: any rendering (any glyphs, any whitespace) of any admissible printing (any
redundant parentheses) of a named term parses, in Classic notation, to its standard De Bruijn
translation -/
theorem parse_cla_prints (cls : CharCls) (hcls : Cl.ClsOk cls) (t : Cl.NTerm) (arg fin : Bool)
    (cts : List CToken) (s : List Nat)
    (hp : Cl.PrintsN t arg fin cts) (hr : Cl.Renders cls cts s) :
    parse cls s .Classic = .ok (Cl.toDeBruijn t) :=
  parse_cla_of_lex_prints (tokenizeCla_render cls hcls cts s hr) hp

theorem parse_cla_print (cls : CharCls) (hcls : Cl.ClsOk cls) (t : Cl.NTerm) (ctx : Nat)
    (s : List Nat) (h : Cl.Renders cls (Cl.printN t ctx) s) :
    parse cls s .Classic = .ok (Cl.toDeBruijn t) :=
  parse_cla_prints cls hcls t _ _ _ s (printN_prints t ctx) h


namespace C09C.Examples
open NTerm Term

attribute [local instance] C09D.decEqResult

-- code points: `λ` 955, `\` 92, `(` 40, `)` 41, `.` 46, space 32, `a` 97, `b` 98, `x` 120, `y` 121, `z` 122

/-- `λx.λy.x y z` ↦ `λ λ 2 1 3`: bound names count binders from the inside, the free `z` comes
above the two binders in scope -/
example : resolveAll [CLambda [120], CLambda [121], CName [120], CName [121], CName [122]]
    = some [Lambda, Lambda, Number 2, Number 1, Number 3] := by decide

/-- `a λb.b a` ↦ `1 λ 1 2`: the free `a` is `1` outside and `2` under the binder -/
example : resolveAll [CName [97], CLambda [98], CName [98], CName [97]]
    = some [Number 1, Lambda, Number 1, Number 2] := by decide

/-- shadowing, `λx.λx.x` ↦ `λ λ 1`: a name resolves to its innermost binder -/
example : resolveAll [CLambda [120], CLambda [120], CName [120]]
    = some [Lambda, Lambda, Number 1] := by decide

/-- a parenthesised scope, `(λx.x) x` ↦ `(λ 1) 1`: the binder is closed by the `)`, the second `x`
is free -/
example : resolveAll [CLparen, CLambda [120], CName [120], CRparen, CName [120]]
    = some [Lparen, Lambda, Number 1, Rparen, Number 1] := by decide

/-- free names in order of first appearance: `b a b (λx.a c)` ↦ `1 2 1 (λ 3 4)` -/
example : resolveAll [CName [98], CName [97], CName [98], CLparen, CLambda [120], CName [97],
      CName [99], CRparen]
    = some [Number 1, Number 2, Number 1, Lparen, Lambda, Number 3, Number 4, Rparen] := by decide

/-- an unmatched `)` ends the conversion (the token-level stage then rejects it) -/
example : convertClassicTokens [CName [97], CRparen, CName [98]] = some [Number 1, Rparen] := by
  decide

/-- an ASCII-only (plus `λ`) character classification -/
def asciiCls : CharCls where
  isWs c := c == 32 || c == 9 || c == 10 || c == 13
  isAlpha c := (decide (65 ≤ c) && decide (c ≤ 90)) || (decide (97 ≤ c) && decide (c ≤ 122)) || c == 955
  isAlnum c := (decide (65 ≤ c) && decide (c ≤ 90)) || (decide (97 ≤ c) && decide (c ≤ 122)) || c == 955
    || (decide (48 ≤ c) && decide (c ≤ 57))
  digit16 c :=
    if 48 ≤ c ∧ c ≤ 57 then some (c - 48) else if 97 ≤ c ∧ c ≤ 102 then some (c - 87)
    else if 65 ≤ c ∧ c ≤ 70 then some (c - 55) else none

theorem asciiCls_ok : ClsOk asciiCls := by
  refine ⟨?_, ?_, ?_⟩
  · intro c h
    simp only [asciiCls, Bool.or_eq_true, beq_iff_eq] at h
    rcases h with ((rfl | rfl) | rfl) | rfl <;> decide
  · intro c h
    simp only [asciiCls] at h ⊢
    rw [h]; rfl
  · intro c h
    simp only [asciiCls, Bool.or_eq_true, Bool.and_eq_true, decide_eq_true_eq, beq_iff_eq] at h
    simp only [asciiCls, cLparen, cRparen, cBackslash, Bool.or_eq_false_iff, beq_eq_false_iff_ne,
      ne_eq]
    omega

theorem asciiCls_dot : asciiCls.isAlnum cDot = false := by decide

theorem nameEnd_of {c : Nat} {s : List Nat} (h : asciiCls.isAlnum c = false) :
    NameEnd asciiCls (c :: s) := .inl h

theorem nameEnd_lambda {s : List Nat} : NameEnd asciiCls (955 :: s) := .inr rfl

theorem wf_single (c : Nat) (h1 : asciiCls.isAlpha c = true) (h2 : isLam c = false)
    (h3 : c ≠ cDot) : WfName asciiCls [c] :=
  ⟨⟨c, [], rfl, h1, h2, by simp⟩, by simp [h3], by
    have : c ≠ cLambda := by rintro rfl; revert h2; decide
    simp [this]⟩

theorem wf_x : WfName asciiCls [120] := wf_single 120 (by decide) (by decide) (by decide)
theorem wf_y : WfName asciiCls [121] := wf_single 121 (by decide) (by decide) (by decide)

/-- the tokens are the printing of the named term `λx.λy.x y z` -/
example : printN (nlam [120] (nlam [121] (napp (napp (nvar [120]) (nvar [121])) (nvar [122])))) 0
    = [CLambda [120], CLambda [121], CName [120], CName [121], CName [122]] := by decide

example : toDeBruijn (nlam [120] (nlam [121] (napp (napp (nvar [120]) (nvar [121])) (nvar [122]))))
    = abs (abs (app (app (var 2) (var 1)) (var 3))) := by decide

/-- redundant parentheses: `(λx.((x) (y)))` is an admissible printing of `λx.x y` -/
example : PrintsN (nlam [120] (napp (nvar [120]) (nvar [121]))) false true
    [CLparen, CLambda [120], CLparen, CLparen, CName [120], CRparen, CLparen, CName [121], CRparen,
      CRparen, CRparen] :=
  .paren (cts := [_, _, _, _, _, _, _, _, _]) <| .lam <|
  .paren (cts := [_, _, _, _, _, _]) <|
  .app (c₁ := [_, _, _]) (c₂ := [_, _, _])
    (.paren (cts := [_]) .var) (.paren (cts := [_]) .var)

/-- an abstraction may stay bare in final position: `x λy.y x` is `x (λy.y x)` -/
example : PrintsN (napp (nvar [120]) (nlam [121] (napp (nvar [121]) (nvar [120])))) false true
    [CName [120], CLambda [121], CName [121], CName [120]] :=
  .app (c₁ := [_]) (c₂ := [_, _, _]) .var (.lam (.app (c₁ := [_]) (c₂ := [_]) .var .var))

/-- the lexical errors of the crate's own tests: `λa.λb a` ↦ `InvalidCharacter (5, ' ')` -/
example : tokenizeCla asciiCls [955, 97, 46, 955, 98, 32, 97]
    = .error (.InvalidCharacter 5 32) := by decide +kernel

/-- `x #` ↦ `InvalidCharacter (2, '#')` -/
example : tokenizeCla asciiCls [120, 32, 35, 120] = .error (.InvalidCharacter 2 35) := by decide +kernel

/-- identifiers are validated in variable position too: a variable name is a letter followed by
alphanumeric characters, and the first other character is lexed at top level (repair F10, DESIGN §8):
`x+1.λ` is a lexical error … -/
example : tokenizeCla asciiCls [120, 43, 49, 46, 955] = .error (.InvalidCharacter 1 43) := by decide +kernel

/-- … and so are `x.y`, `x#` and `λx.x-` -/
example : tokenizeCla asciiCls [120, 46, 121] = .error (.InvalidCharacter 1 46) := by decide +kernel
example : tokenizeCla asciiCls [120, 35] = .error (.InvalidCharacter 1 35) := by decide +kernel
example : tokenizeCla asciiCls [955, 120, 46, 120, 45] = .error (.InvalidCharacter 4 45) := by decide +kernel

/-- a backslash ends a name and opens a binder: `x\y.y` is `x`, `\y.`, `y` -/
example : tokenizeCla asciiCls [120, 92, 121, 46, 121]
    = .ok [CName [120], CLambda [121], CName [121]] := by decide +kernel

/-- … and so does the other glyph `λ`, although it is a letter (repair F11): `xλy.y` is `x`, `λy.`,
`y`, and `xλy` is `x` followed by the unterminated binder `λy` -/
example : tokenizeCla asciiCls [120, 955, 121, 46, 121]
    = .ok [CName [120], CLambda [121], CName [121]] := by decide +kernel
example : tokenizeCla asciiCls [120, 955, 121] = .ok [CName [120], CLambda [121]] := by decide +kernel

/-- inside a BINDER name `λ` is still an ordinary letter (a test of the crate requires it): `λxλy.x`
has ONE binder, named `xλy`, and `\λ.x` has a binder named `λ` -/
example : tokenizeCla asciiCls [955, 120, 955, 121, 46, 120]
    = .ok [CLambda [120, 955, 121], CName [120]] := by decide +kernel
example : tokenizeCla asciiCls [92, 955, 46, 120] = .ok [CLambda [955], CName [120]] := by decide +kernel

/-- an EMPTY binder name is an error at the dot (repair F12): `λ.x`, `\.x`, `x λ.x` -/
example : tokenizeCla asciiCls [955, 46, 120] = .error (.InvalidCharacter 1 46) := by decide +kernel
example : tokenizeCla asciiCls [92, 46, 120] = .error (.InvalidCharacter 1 46) := by decide +kernel
example : tokenizeCla asciiCls [120, 32, 955, 46, 120] = .error (.InvalidCharacter 3 46) := by decide +kernel

/-- `x\y.y` is a rendering of these tokens (no separator needed before a backslash).  This derivation and the next are
built by hand, to show how the constructors of `Renders` work; the other ground renderings of the examples are read off
one run of the lexer (`C09A.renders_of_lex`). -/
theorem renders₆ : Renders asciiCls [CName [120], CLambda [121], CName [121]]
    [120, 92, 121, 46, 121] :=
  .name (n := [120]) wf_x (nameEnd_of (by decide)) <|
  .lam (g := 92) (n := [121]) (by decide) wf_y <|
  .name (n := [121]) wf_y trivial .nil

/-- `xλy.y` is a rendering of the same tokens (no separator needed before `λ` either) -/
theorem renders₇ : Renders asciiCls [CName [120], CLambda [121], CName [121]]
    [120, 955, 121, 46, 121] :=
  .name (n := [120]) wf_x nameEnd_lambda <|
  .lam (g := 955) (n := [121]) (by decide) wf_y <|
  .name (n := [121]) wf_y trivial .nil

/-- `x\1`: the binder opened by the backslash is validated as usual -/
example : tokenizeCla asciiCls [120, 92, 49] = .error (.InvalidCharacter 2 49) := by decide +kernel

/-- the same characters are rejected inside a binder: `λx+.x` -/
example : tokenizeCla asciiCls [955, 120, 43, 46, 120] = .error (.InvalidCharacter 2 43) := by decide +kernel

/-- an unterminated or empty binder at the end of the input is pushed as it is: `λx` , `λ` -/
example : tokenizeCla asciiCls [955, 120] = .ok [CLambda [120]] := by decide +kernel
example : tokenizeCla asciiCls [955] = .ok [CLambda []] := by decide +kernel

end C09C.Examples

end LC
