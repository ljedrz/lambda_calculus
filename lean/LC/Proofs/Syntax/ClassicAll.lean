/-
C09, Classic half, ALL strings: the lexer `tokenizeCla` against `LC/Spec/ClassicAllSpec.lean`.

* soundness: on a string with an `Offending` position the lexer returns `InvalidCharacter` there
  (`C09C.lex_offending`, in `Classic.lean`); on a `Lexes` string it returns the tokens (`lex_lexes`);
* completeness: EVERY string either has an offending position or is a `Lexes` string
  (`classify`, a statement about strings only — the lexer is not mentioned);
* `RendersB` + `GlyphFree` = `Renders` (`glyphFree_of_renders`, `renders_of_rendersB`; the other inclusion,
  `rendersB_of_renders`, is in `Classic.lean`);
* the lexer as a checker of ground renderings (`rendersB_of_lex`, `renders_of_lex`): a string is a rendering of the
  tokens the lexer returns on it when the lexer still succeeds with a `(` appended; at the end of the file the two
  renderings of `λx.λy.x y z` that the examples use.
-/
import LC.Proofs.Syntax.Classic

namespace LC
open Parser Parser.CToken Parser.Token Spec Spec.Cl C09C

namespace C09A

variable {cls : CharCls}


/-- under `ClsOk`, when the dot is not alphanumeric: a well-formed name is a binder name without
the glyph `λ` -/
theorem wfName_iff_bName (hcls : ClsOk cls) (hdot : cls.isAlnum cDot = false) (n : Name) :
    WfName cls n ↔ BName cls n ∧ cLambda ∉ n := by
  constructor
  · intro hn
    exact ⟨bName_of_wfName hn, fun h => hn.2.2 _ h rfl⟩
  · rintro ⟨⟨c, cs, rfl, hal, hrest⟩, hl⟩
    refine wfName_of_unicode cls hcls hdot c cs hal ?_ (fun d hd => ⟨(hrest d hd).1, ?_⟩)
    · have h1 : c ≠ cLambda := fun e => hl (by simp [e])
      have h2 : c ≠ cBackslash := (alnum_facts hcls (hcls.2.1 _ hal)).2.2.2
      simp [isLam, h1, h2]
    · rintro rfl; exact hl (by simp [hd])

theorem glyphFree_of_renders {cts : List CToken} {s : List Nat} (h : Renders cls cts s) :
    GlyphFree cts :=
  fun n hn hl => (binderWf_of_renders h n hn).2.2 _ hl rfl

theorem renders_of_rendersB (hcls : ClsOk cls) (hdot : cls.isAlnum cDot = false)
    {cts : List CToken} {s : List Nat} (h : RendersB cls cts s) (hf : GlyphFree cts) : Renders cls cts s :=
  renders_of_rendersB_wf h fun n hn hm => (wfName_iff_bName hcls hdot n).2 ⟨hm, hf n hn⟩

/-- in a rendering, no variable is named like a binder whose name contains `λ`: such a binder binds
nothing -/
theorem rendersB_name_glyphfree {cts : List CToken} {s : List Nat} (h : RendersB cls cts s) :
    ∀ n, CName n ∈ cts → cLambda ∉ n := by
  induction h with
  | nil => intro n hn; simp at hn
  | ws _ _ ih => exact ih
  | lparen _ ih => intro n hn; exact ih n (by simpa using hn)
  | rparen _ ih => intro n hn; exact ih n (by simpa using hn)
  | lam _ _ _ ih => intro n hn; exact ih n (by simpa using hn)
  | @name m cts s hm _ _ ih =>
    intro n hn
    rcases List.mem_cons.1 hn with e | hn
    · cases e; exact fun h => hm.2.2 _ h rfl
    · exact ih n hn


theorem nameEnd_prefix {p q : List Nat} (h : NameEnd cls (p ++ q)) : NameEnd cls p := by
  cases p with
  | nil => trivial
  | cons c p => exact h

theorem endsTop_append_of_ne {x pre : List Nat} (h : EndsTop cls pre) (hne : pre ≠ []) :
    EndsTop cls (x ++ pre) := by
  intro c hc
  apply h c
  cases pre with
  | nil => exact absurd rfl hne
  | cons a pre =>
    rw [List.getLast?_append] at hc
    cases hl : (a :: pre).getLast? with
    | none => simp at hl
    | some d => rw [hl] at hc; simpa using hc

theorem lex_cut_tail {nm : List Nat} (hnm : nm = [] ∨ BName cls nm) (i : Nat) :
    tokenizeClaAux cls (.lam [] true) i nm = .ok [CLambda nm] := by
  rcases hnm with rfl | ⟨c, cs, rfl, hal, hrest⟩
  · simp [tokenizeClaAux]
  · have := lex_lam_acc (cls := cls) [] cs [c] (i + 1) hrest
    rw [List.append_nil] at this
    rw [lex_lam_first hal, List.nil_append, this]
    simp [tokenizeClaAux]

theorem lex_cutBinder (hcls : ClsOk cls) {cts : List CToken} {s : List Nat}
    (h : CutBinder cls cts s) : tokenizeCla cls s = .ok cts := by
  obtain ⟨cts₀, pre, g, nm, rfl, rfl, hpre, hg, hnm⟩ := h
  unfold tokenizeCla
  rw [lexB_prefix hcls hpre 0 _ (.inr (nameEnd_glyph hcls hg nm)), lex_top_glyph hg,
    lex_cut_tail hnm]
  rfl

theorem lex_lexes (hcls : ClsOk cls) {cts : List CToken} {s : List Nat}
    (h : Lexes cls cts s) : tokenizeCla cls s = .ok cts :=
  h.elim (lex_rendersB hcls) (lex_cutBinder hcls)


def Classified (cls : CharCls) (s : List Nat) : Prop :=
  (∃ pre c post, s = pre ++ c :: post ∧ Offending cls pre c) ∨ (∃ cts, Lexes cls cts s)

theorem split_name (s : List Nat) :
    ∃ n' s', s = n' ++ s' ∧ (∀ d ∈ n', cls.isAlnum d = true ∧ d ≠ cLambda) ∧ NameEnd cls s' := by
  obtain ⟨n', s', rfl, h1, h2⟩ := C09D.span_first (fun d => cls.isAlnum d && d != cLambda) s
  refine ⟨n', s', rfl, fun d hd => by simpa using h1 d hd, ?_⟩
  cases s' with
  | nil => trivial
  | cons c r =>
    have h : cls.isAlnum c = true → c = cLambda := by simpa using h2 c r rfl
    cases ha : cls.isAlnum c with
    | false => exact .inl ha
    | true => exact .inr (h ha)

/-- the maximal run of characters that continue a binder name, and what follows it: the dot, the
end of the input, or an offending character -/
theorem split_binder (s : List Nat) :
    (∃ n' s', s = n' ++ cDot :: s' ∧ ∀ d ∈ n', cls.isAlnum d = true ∧ d ≠ cDot) ∨
    (∀ d ∈ s, cls.isAlnum d = true ∧ d ≠ cDot) ∨
    (∃ n' c post, s = n' ++ c :: post ∧ (∀ d ∈ n', cls.isAlnum d = true ∧ d ≠ cDot) ∧
      c ≠ cDot ∧ cls.isAlnum c = false) := by
  obtain ⟨n', p, rfl, h1, h2⟩ := C09D.span_first (fun d => cls.isAlnum d && d != cDot) s
  have h1' : ∀ d ∈ n', cls.isAlnum d = true ∧ d ≠ cDot := fun d hd => by simpa using h1 d hd
  cases p with
  | nil => exact .inr (.inl (by simpa using h1'))
  | cons c post =>
    by_cases hd : c = cDot
    · subst hd; exact .inl ⟨n', post, rfl, h1'⟩
    · exact .inr (.inr ⟨n', c, post, rfl, h1', hd, by simpa [hd] using h2 c post rfl⟩)

theorem endsTop_nil : EndsTop cls [] := by intro c hc; simp at hc

theorem endsTop_snoc (x : List Nat) {d : Nat}
    (h : cls.isWs d = true ∨ d = cLparen ∨ d = cRparen ∨ d = cDot) : EndsTop cls (x ++ [d]) := by
  intro c hc
  simp only [List.getLast?_append, List.getLast?_singleton, Option.some_or,
    Option.some.injEq] at hc
  subst hc; exact h

theorem classified_append (hcls : ClsOk cls) {cts₁ : List CToken} {x s : List Nat}
    (hx : RendersB cls cts₁ x) (he : EndsTop cls x ∨ NameEnd cls s) (h : Classified cls s) :
    Classified cls (x ++ s) := by
  rcases h with ⟨pre, c, post, rfl, hoff⟩ | ⟨cts, hr | ⟨cts₀, pre, g, nm, rfl, rfl, hpre, hg, hnm⟩⟩
  · refine .inl ⟨x ++ pre, c, post, by simp, ?_⟩
    rcases hoff with ⟨cts, hpre, hend, hg, hrest⟩ |
      ⟨cts, pre₀, g, rfl, hpre, hg, hal⟩ | ⟨cts, pre₀, g, nm, rfl, hpre, hg, hnm, hd, han⟩
    · refine .inl ⟨cts₁ ++ cts, rendersB_append hcls hx hpre (he.imp id nameEnd_prefix), ?_, hg,
        hrest⟩
      cases pre with
      | nil =>
        rw [List.append_nil]
        rcases he with he | he | he
        · exact .inl he
        · exact .inr he
        · subst he; exact absurd hg (by decide)
      | cons a pre =>
        exact hend.imp (fun h => endsTop_append_of_ne h (by simp)) id
    · refine .inr (.inl ⟨cts₁ ++ cts, x ++ pre₀, g, by simp, ?_, hg, hal⟩)
      exact rendersB_append hcls hx hpre (he.imp id fun h => nameEnd_prefix (nameEnd_prefix h))
    · refine .inr (.inr ⟨cts₁ ++ cts, x ++ pre₀, g, nm, by simp, ?_, hg, hnm, hd, han⟩)
      exact rendersB_append hcls hx hpre (he.imp id fun h => nameEnd_prefix (nameEnd_prefix h))
  · exact .inr ⟨cts₁ ++ cts, .inl (rendersB_append hcls hx hr he)⟩
  · exact .inr ⟨cts₁ ++ (cts₀ ++ [CLambda nm]), .inr ⟨cts₁ ++ cts₀, x ++ pre, g, nm, by simp,
      by simp, rendersB_append hcls hx hpre (he.imp id nameEnd_prefix), hg, hnm⟩⟩

/-- COMPLETENESS: every string has an offending position or is a `Lexes` string.  (The proof
follows the characters of the string; the lexer is not mentioned.) -/
theorem classify (hcls : ClsOk cls) (hdot : cls.isAlnum cDot = false) :
    ∀ s : List Nat, Classified cls s
  | [] => .inr ⟨[], .inl .nil⟩
  | c :: s => by
    by_cases hg : isLam c = true
    · cases s with
      | nil => exact .inr ⟨[CLambda []], .inr ⟨[], [], c, [], rfl, rfl, .nil, hg, .inl rfl⟩⟩
      | cons a s =>
        by_cases hal : cls.isAlpha a = true
        · rcases split_binder (cls := cls) s with
            ⟨n', s', hs, hn'⟩ | hall | ⟨n', x, post, rfl, hn', hx, hxa⟩
          · -- `hlt` is for `decreasing_by`
            have hlt : s'.length < s.length := by
              rw [hs]; simp only [List.length_append, List.length_cons]; omega
            have ih := classify hcls hdot s'
            subst hs
            have hr : RendersB cls [CLambda (a :: n')] (c :: ((a :: n') ++ cDot :: [])) :=
              .lam hg ⟨a, n', rfl, hal, hn'⟩ .nil
            have := classified_append hcls hr
              (.inl (endsTop_snoc (c :: (a :: n')) (.inr (.inr (.inr rfl))))) ih
            simpa using this
          · exact .inr ⟨[CLambda (a :: s)], .inr ⟨[], [], c, a :: s, rfl, rfl, .nil, hg,
              .inr ⟨a, s, rfl, hal, hall⟩⟩⟩
          · exact .inl ⟨c :: a :: n', x, post, by simp,
              .inr (.inr ⟨[], [], c, a :: n', rfl, .nil, hg, ⟨a, n', rfl, hal, hn'⟩, hx, hxa⟩)⟩
        · exact .inl ⟨[c], a, s, rfl, .inr (.inl ⟨[], [], c, rfl, .nil, hg, by simpa using hal⟩)⟩
    · have hg' : isLam c = false := by simpa using hg
      by_cases hlp : c = cLparen
      · subst hlp
        have := classified_append hcls (.lparen .nil)
          (.inl (endsTop_snoc [] (.inr (.inl rfl)))) (classify hcls hdot s)
        simpa using this
      · by_cases hrp : c = cRparen
        · subst hrp
          have := classified_append hcls (.rparen .nil)
            (.inl (endsTop_snoc [] (.inr (.inr (.inl rfl))))) (classify hcls hdot s)
          simpa using this
        · by_cases hws : cls.isWs c = true
          · have := classified_append hcls (.ws hws .nil)
              (.inl (endsTop_snoc [] (.inl hws))) (classify hcls hdot s)
            simpa using this
          · by_cases hal : cls.isAlpha c = true
            · obtain ⟨n', s', hs, hn', hend⟩ := split_name (cls := cls) s
              -- `hlt` is for `decreasing_by`
              have hlt : s'.length ≤ s.length := by
                rw [hs]; simp only [List.length_append]; omega
              have ih := classify hcls hdot s'
              subst hs
              have hwf : WfName cls (c :: n') := wfName_of_unicode cls hcls hdot c n' hal hg' hn'
              have hr : RendersB cls [CName (c :: n')] ((c :: n') ++ []) := .name hwf trivial .nil
              rw [List.append_nil] at hr
              have := classified_append hcls hr (.inr hend) ih
              simpa using this
            · exact .inl ⟨[], c, s, rfl, .inl ⟨[], .nil, .inl endsTop_nil, hg', hlp, hrp,
                by simpa using hws, by simpa using hal⟩⟩
termination_by s => s.length
decreasing_by all_goals (simp only [List.length_cons]; omega)


/-- LEXER, ALL STRINGS: the lexer reports the offending character with its index, or returns the
tokens of a `Lexes` string -/
theorem lex_total (hcls : ClsOk cls) (hdot : cls.isAlnum cDot = false) (s : List Nat) :
    (∃ pre c post, s = pre ++ c :: post ∧ Offending cls pre c ∧
      tokenizeCla cls s = .error (.InvalidCharacter pre.length c)) ∨
    (∃ cts, Lexes cls cts s ∧ tokenizeCla cls s = .ok cts) := by
  rcases classify hcls hdot s with ⟨pre, c, post, rfl, h⟩ | ⟨cts, h⟩
  · exact .inl ⟨pre, c, post, rfl, h, lex_offending hcls h post⟩
  · exact .inr ⟨cts, h, lex_lexes hcls h⟩

theorem lex_ok_iff (hcls : ClsOk cls) (hdot : cls.isAlnum cDot = false) (s : List Nat)
    (cts : List CToken) : tokenizeCla cls s = .ok cts ↔ Lexes cls cts s := by
  refine ⟨fun h => ?_, lex_lexes hcls⟩
  rcases lex_total hcls hdot s with ⟨_, _, _, _, _, h'⟩ | ⟨cts', hl, h'⟩
  · rw [h] at h'; cases h'
  · rw [h] at h'; cases h'; exact hl

theorem lex_error_iff (hcls : ClsOk cls) (hdot : cls.isAlnum cDot = false) (s : List Nat)
    (e : ParseError) :
    tokenizeCla cls s = .error e ↔
      ∃ pre c post, s = pre ++ c :: post ∧ Offending cls pre c ∧
        e = .InvalidCharacter pre.length c := by
  constructor
  · intro h
    rcases lex_total hcls hdot s with ⟨pre, c, post, hs, ho, h'⟩ | ⟨cts', _, h'⟩
    · rw [h] at h'; cases h'; exact ⟨pre, c, post, hs, ho, rfl⟩
    · rw [h] at h'; cases h'
  · rintro ⟨pre, c, post, rfl, ho, rfl⟩
    exact lex_offending hcls ho post

theorem lparen_not_alpha (hcls : ClsOk cls) : cls.isAlpha cLparen = false := by
  cases h : cls.isAlpha cLparen with
  | false => rfl
  | true => have := hcls.2.1 _ h; rw [not_alnum_of_delim hcls (.inr (.inl rfl))] at this; cases this

/-- inside a binder a `(` is a lexical error -/
theorem lex_cut_lparen (hcls : ClsOk cls) {cts : List CToken} {s : List Nat} (h : CutBinder cls cts s) :
    tokenizeCla cls (s ++ [cLparen]) = .error (.InvalidCharacter s.length cLparen) := by
  obtain ⟨cts₀, pre, g, nm, rfl, rfl, hpre, hg, hnm⟩ := h
  refine lex_offending hcls ?_ []
  rcases hnm with rfl | hnm
  · exact .inr (.inl ⟨cts₀, pre, g, rfl, hpre, hg, lparen_not_alpha hcls⟩)
  · exact .inr (.inr ⟨cts₀, pre, g, nm, rfl, hpre, hg, hnm, by decide, not_alnum_of_delim hcls (.inr (.inl rfl))⟩)

/-- a string is not both a rendering of complete tokens and cut off inside a binder (append `(`:
fine after complete tokens, an error inside a binder) -/
theorem rendersB_not_cut (hcls : ClsOk cls) {cts cts' : List CToken} {s : List Nat}
    (h : RendersB cls cts s) (h' : CutBinder cls cts' s) : False := by
  have h1 : tokenizeCla cls (s ++ [cLparen]) = .ok (cts ++ [CLparen]) :=
    lex_rendersB hcls (rendersB_append hcls h (.lparen .nil) (.inr (.inl (not_alnum_of_delim hcls (.inr (.inl rfl))))))
  rw [lex_cut_lparen hcls h'] at h1
  cases h1

/-! ### the lexer as a checker of ground renderings

By `lex_ok_iff` a string on which the lexer returns `cts`, and on which it still succeeds when a `(` is appended (so that
the string does not end inside a binder), is a rendering of `cts`.  For a concrete string both runs are one evaluation. -/

theorem rendersB_of_lex (hcls : ClsOk cls) (hdot : cls.isAlnum cDot = false) {s : List Nat} {cts : List CToken}
    (h : tokenizeCla cls s = .ok cts ∧ (tokenizeCla cls (s ++ [cLparen])).toBool = true) : RendersB cls cts s := by
  rcases (lex_ok_iff hcls hdot s cts).1 h.1 with hr | hc
  · exact hr
  · have h2 := h.2
    rw [lex_cut_lparen hcls hc] at h2
    cases h2

/-- `GlyphFree`, computed -/
def glyphFreeB (cts : List CToken) : Bool :=
  cts.all fun
    | CLambda n => !n.contains cLambda
    | _ => true

theorem glyphFree_of_check {cts : List CToken} (h : glyphFreeB cts = true) : GlyphFree cts := by
  intro n hn hl
  have := List.all_eq_true.1 h _ hn
  simp [hl] at this

theorem renders_of_lex (hcls : ClsOk cls) (hdot : cls.isAlnum cDot = false) {s : List Nat} {cts : List CToken}
    (h : tokenizeCla cls s = .ok cts ∧ (tokenizeCla cls (s ++ [cLparen])).toBool = true ∧ glyphFreeB cts = true) :
    Renders cls cts s :=
  renders_of_rendersB hcls hdot (rendersB_of_lex hcls hdot ⟨h.1, h.2.1⟩) (glyphFree_of_check h.2.2)

end C09A

/-! ## the two renderings of `λx.λy.x y z` (ground examples; code points as in `Classic.lean`) -/

namespace C09C.Examples
open NTerm Term C09A

attribute [local instance] C09D.decEqResult

/-- `λx.λy.x y z` is a rendering of its tokens … -/
theorem renders₁ : Renders asciiCls
    [CLambda [120], CLambda [121], CName [120], CName [121], CName [122]]
    [955, 120, 46, 955, 121, 46, 120, 32, 121, 32, 122] :=
  renders_of_lex asciiCls_ok asciiCls_dot (by decide +kernel)

/-- … and so is `  \x. \y.x  y z ` (other glyph, other whitespace) -/
theorem renders₂ : Renders asciiCls
    [CLambda [120], CLambda [121], CName [120], CName [121], CName [122]]
    [32, 32, 92, 120, 46, 32, 92, 121, 46, 120, 32, 32, 121, 32, 122, 32] :=
  renders_of_lex asciiCls_ok asciiCls_dot (by decide +kernel)

example : tokenizeCla asciiCls [955, 120, 46, 955, 121, 46, 120, 32, 121, 32, 122]
    = .ok [CLambda [120], CLambda [121], CName [120], CName [121], CName [122]] :=
  tokenizeCla_render _ asciiCls_ok _ _ renders₁

/-- end to end, both renderings -/
example : parse asciiCls [955, 120, 46, 955, 121, 46, 120, 32, 121, 32, 122] .Classic
    = .ok (abs (abs (app (app (var 2) (var 1)) (var 3)))) :=
  parse_cla_print _ asciiCls_ok
    (nlam [120] (nlam [121] (napp (napp (nvar [120]) (nvar [121])) (nvar [122])))) 0 _ renders₁

example : parse asciiCls [32, 32, 92, 120, 46, 32, 92, 121, 46, 120, 32, 32, 121, 32, 122, 32] .Classic
    = .ok (abs (abs (app (app (var 2) (var 1)) (var 3)))) :=
  parse_cla_print _ asciiCls_ok
    (nlam [120] (nlam [121] (napp (napp (nvar [120]) (nvar [121])) (nvar [122])))) 0 _ renders₂

end C09C.Examples
end LC
