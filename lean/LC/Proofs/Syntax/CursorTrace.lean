/-
C09: the relations `ConvLoopAt` / `AstLoopAt` of `LC/Proofs/Syntax/Cursor.lean` ("loop head
reached while `convert_classic_tokens(tokens)` / `get_ast(tokens)` runs") are hand-written transition systems.
Here the two cursor loops are INSTRUMENTED: `convLoopT` / `astLoopT` are `convLoopC` / `astLoopC` with the same
recursion, which additionally return the list of the loop-head states they visit, in the order of the visits (the
trace is returned also when the run fails, so nothing is hidden behind a `none`).

* `convLoopT_erase`, `astLoopT_erase`: forgetting the trace gives back `convLoopC` / `astLoopC` EXACTLY (every
  fuel, every state);
* `convLoopT_sound`, `astLoopT_sound`: started in a state that satisfies `ConvLoopAt` / `AstLoopAt`, every state of
  the trace satisfies it (every fuel);
* `convLoopT_trace_iff`, `astLoopT_trace_iff` (through `…_complete_aux`): conversely every state that satisfies
  `ConvLoopAt` / `AstLoopAt` occurs in the trace of the top-level run: the relations are EXACTLY the sets of visited
  loop heads.
-/
import LC.Proofs.Syntax.Cursor

namespace LC
namespace Cursor
open Parser Term


/-- the state of an activation of `_convert_classic_tokens` at its loop head: the values of `*stack`, `*pos`,
`output`, `inner_stack_count` when `tokens.get(*pos)` is about to be evaluated -/
structure ConvHead where
  stack : List (List Nat)
  pos : Nat
  output : List Token
  inner : Nat
deriving DecidableEq, Repr

/-- `convLoopC` instrumented: first component = the loop heads visited by this activation and by its callees, in
order; second component = the result of `convLoopC`.  Same recursion, same checks. -/
def convLoopT (tokens : List CToken) :
    Nat → List (List Nat) → Nat → List Token → Nat →
      List ConvHead × Option (List Token × List (List Nat) × Nat)
  | 0, _, _, _, _ => ([], none)
  | fuel + 1, stack, pos, output, inner =>
    match tokens[pos]? with
    | none => ([⟨stack, pos, output, inner⟩], some (output, stack, pos))
    | some (.CLambda name) =>
      let r := convLoopT tokens fuel (stack ++ [name]) (pos + 1) (output ++ [.Lambda]) (inner + 1)
      (⟨stack, pos, output, inner⟩ :: r.1, r.2)
    | some .CLparen =>
      match subChk tokens.length (pos + 1) with
      | none => ([⟨stack, pos, output, inner⟩], none)
      | some _capacity =>
        let r1 := convLoopT tokens fuel stack (pos + 1) [] 0
        match r1.2 with
        | none => (⟨stack, pos, output, inner⟩ :: r1.1, none)
        | some (out', stack', pos') =>
          let r2 := convLoopT tokens fuel stack' (pos' + 1) (output ++ [.Lparen] ++ out') inner
          (⟨stack, pos, output, inner⟩ :: (r1.1 ++ r2.1), r2.2)
    | some .CRparen =>
      match subChk stack.length inner with
      | none => ([⟨stack, pos, output, inner⟩], none)
      | some k => ([⟨stack, pos, output, inner⟩], some (output ++ [.Rparen], stack.take k, pos))
    | some (.CName name) =>
      match indexOf? name stack.reverse with
      | some index =>
        let r := convLoopT tokens fuel stack (pos + 1) (output ++ [.Number (index + 1)]) inner
        (⟨stack, pos, output, inner⟩ :: r.1, r.2)
      | none =>
        let r := convLoopT tokens fuel (name :: stack) (pos + 1)
          (output ++ [.Number ((name :: stack).length)]) inner
        (⟨stack, pos, output, inner⟩ :: r.1, r.2)

def convertCurT (tokens : List CToken) : List ConvHead × Option (List Token) :=
  match subChk tokens.length 0 with
  | none => ([], none)
  | some _capacity =>
    let r := convLoopT tokens (tokens.length + 1) [] 0 [] 0
    (r.1, r.2.map (·.1))

theorem convLoopT_erase (tokens : List CToken) :
    ∀ (fuel : Nat) (stack : List (List Nat)) (pos : Nat) (output : List Token) (inner : Nat),
      (convLoopT tokens fuel stack pos output inner).2 = convLoopC tokens fuel stack pos output inner := by
  intro fuel
  induction fuel with
  | zero => intro _ _ _ _; rfl
  | succ fuel ih =>
    intro stack pos output inner
    rw [convLoopT, convLoopC]
    cases htok : tokens[pos]? with
    | none => rfl
    | some tok =>
      cases tok with
      | CLambda name => exact ih _ _ _ _
      | CLparen =>
        simp only []
        cases subChk tokens.length (pos + 1) with
        | none => rfl
        | some c =>
          simp only []
          rw [← ih stack (pos + 1) [] 0]
          cases (convLoopT tokens fuel stack (pos + 1) [] 0).2 with
          | none => rfl
          | some r1 =>
            obtain ⟨o1, s1, p1⟩ := r1
            exact ih _ _ _ _
      | CRparen =>
        simp only []
        cases subChk stack.length inner <;> rfl
      | CName name =>
        simp only []
        cases indexOf? name stack.reverse with
        | some index => exact ih _ _ _ _
        | none => exact ih _ _ _ _

theorem convertCurT_erase (tokens : List CToken) : (convertCurT tokens).2 = convertCur tokens := by
  unfold convertCurT convertCur convCall
  cases subChk tokens.length 0 with
  | none => rfl
  | some c => simp only [convLoopT_erase]

theorem convLoopT_head (tokens : List CToken) (fuel : Nat) (stack : List (List Nat)) (pos : Nat)
    (output : List Token) (inner : Nat) :
    ∃ tr, (convLoopT tokens (fuel + 1) stack pos output inner).1 = ⟨stack, pos, output, inner⟩ :: tr := by
  rw [convLoopT]
  cases tokens[pos]? with
  | none => exact ⟨_, rfl⟩
  | some tok =>
    cases tok with
    | CLambda name => exact ⟨_, rfl⟩
    | CLparen =>
      simp only []
      cases subChk tokens.length (pos + 1) with
      | none => exact ⟨_, rfl⟩
      | some c =>
        simp only []
        cases (convLoopT tokens fuel stack (pos + 1) [] 0).2 with
        | none => exact ⟨_, rfl⟩
        | some r1 => exact ⟨_, rfl⟩
    | CRparen =>
      simp only []
      cases subChk stack.length inner <;> exact ⟨_, rfl⟩
    | CName name =>
      simp only []
      cases indexOf? name stack.reverse <;> exact ⟨_, rfl⟩

/-- SOUNDNESS of `ConvLoopAt`: a run of the instrumented loop that starts in a state satisfying `ConvLoopAt` only
visits states satisfying `ConvLoopAt` (whatever the fuel, whether or not the run succeeds) -/
theorem convLoopT_sound (tokens : List CToken) :
    ∀ (fuel : Nat) (stack : List (List Nat)) (pos : Nat) (output : List Token) (inner : Nat),
      ConvLoopAt tokens stack pos output inner →
      ∀ st ∈ (convLoopT tokens fuel stack pos output inner).1,
        ConvLoopAt tokens st.stack st.pos st.output st.inner := by
  intro fuel
  induction fuel with
  | zero => intro _ _ _ _ _ st hst; simp [convLoopT] at hst
  | succ fuel ih =>
    intro stack pos output inner hat
    rw [convLoopT]
    cases htok : tokens[pos]? with
    | none => exact List.forall_mem_singleton.2 hat
    | some tok =>
      cases tok with
      | CLambda name => exact List.forall_mem_cons.2 ⟨hat, ih _ _ _ _ (.lambda hat htok)⟩
      | CLparen =>
        dsimp only
        cases hsub : subChk tokens.length (pos + 1) with
        | none => exact List.forall_mem_singleton.2 hat
        | some c =>
          dsimp only
          have he := convLoopT_erase tokens fuel stack (pos + 1) [] 0
          cases hr1 : (convLoopT tokens fuel stack (pos + 1) [] 0).2 with
          | none => exact List.forall_mem_cons.2 ⟨hat, ih _ _ _ _ (.call hat htok)⟩
          | some r1 =>
            obtain ⟨o1, s1, p1⟩ := r1
            have hc : convCall tokens fuel stack (pos + 1) = some (o1, s1, p1) := by
              unfold convCall; rw [hsub]; simp only []; rw [← he, hr1]
            exact List.forall_mem_cons.2 ⟨hat, List.forall_mem_append.2
              ⟨ih _ _ _ _ (.call hat htok), ih _ _ _ _ (.back hat htok hc)⟩⟩
      | CRparen =>
        dsimp only
        cases subChk stack.length inner <;> exact List.forall_mem_singleton.2 hat
      | CName name =>
        dsimp only
        cases hidx : indexOf? name stack.reverse with
        | some index => exact List.forall_mem_cons.2 ⟨hat, ih _ _ _ _ (.bound hat htok hidx)⟩
        | none => exact List.forall_mem_cons.2 ⟨hat, ih _ _ _ _ (.free hat htok hidx)⟩

/-- one step of the completeness argument, for either loop (`run fuel` is the trace from a loop head at `p`, `run'`
the one from a successor state at `p'`): if the run from a loop head at `p < n`, with fuel to spare, lies inside `T`,
and the run from the successor with one unit of fuel less is part of it, then the run from the successor, again with
fuel to spare, lies inside `T` -/
theorem complete_step {α : Type} {T : List α} {n p p' : Nat} {run run' : Nat → List α}
    (ih : ∃ fuel, 1 ≤ fuel ∧ n + 1 ≤ fuel + p ∧ ∀ st ∈ run fuel, st ∈ T)
    (hlt : p < n) (hp : p < p')
    (hstep : ∀ f, n + 1 ≤ f + 1 + p → ∀ st ∈ run' f, st ∈ run (f + 1)) :
    ∃ fuel, 1 ≤ fuel ∧ n + 1 ≤ fuel + p' ∧ ∀ st ∈ run' fuel, st ∈ T := by
  obtain ⟨fuel, h1, h2, hsub⟩ := ih
  obtain ⟨f, rfl⟩ : ∃ f, fuel = f + 1 := ⟨fuel - 1, by omega⟩
  exact ⟨f, by omega, by omega, fun st hst => hsub st (hstep f h2 st hst)⟩

/-- COMPLETENESS of the trace: every state satisfying `ConvLoopAt` is visited by the top-level run, moreover with
enough fuel left, and everything the run visits from there on belongs to the trace of the top-level run -/
theorem convLoopT_complete_aux (tokens : List CToken) {stack : List (List Nat)} {pos : Nat}
    {output : List Token} {inner : Nat} (h : ConvLoopAt tokens stack pos output inner) :
    ∃ fuel, 1 ≤ fuel ∧ tokens.length + 1 ≤ fuel + pos ∧
      ∀ st ∈ (convLoopT tokens fuel stack pos output inner).1,
        st ∈ (convLoopT tokens (tokens.length + 1) [] 0 [] 0).1 := by
  induction h with
  | top => exact ⟨tokens.length + 1, by omega, by omega, fun st h => h⟩
  | @lambda stack pos output inner name _ ht ih =>
    refine complete_step ih (drop_of_getElem? ht).1 (Nat.lt_succ_self _) fun f _ st hst => ?_
    rw [convLoopT]; simp only [ht]
    exact List.mem_cons_of_mem _ hst
  | @call stack pos output inner _ ht ih =>
    have hlt := (drop_of_getElem? ht).1
    refine complete_step ih hlt (Nat.lt_succ_self _) fun f _ st hst => ?_
    have hs := subChk_of_le (show pos + 1 ≤ tokens.length by omega)
    rw [convLoopT]; simp only [ht, hs]
    cases (convLoopT tokens f stack (pos + 1) [] 0).2 with
    | none => exact List.mem_cons_of_mem _ hst
    | some r1 => exact List.mem_cons_of_mem _ (List.mem_append_left _ hst)
  | @back stack pos output inner fuel0 out' stack' pos' _ ht hc ih =>
    have hlt := (drop_of_getElem? ht).1
    have hs := subChk_of_le (show pos + 1 ≤ tokens.length by omega)
    -- the callee returns with `pos + 1 ≤ pos'`, whatever the fuel it was given
    obtain ⟨o, s, p, he, h⟩ :=
      convCall_spec tokens (tokens.length + 1) stack (pos + 1) (by omega) (by omega)
    have hp1 := h.le
    have := convCall_det tokens hc he
    simp only [Prod.mk.injEq] at this
    obtain ⟨rfl, rfl, rfl⟩ := this
    refine complete_step ih hlt (by omega) fun f hf st hst => ?_
    obtain ⟨o', s', p', he', _⟩ := convCall_spec tokens f stack (pos + 1) (by omega) (by omega)
    rw [← convCall_det tokens hc he'] at he'
    have hr1 : (convLoopT tokens f stack (pos + 1) [] 0).2 = some (out', stack', pos') := by
      rw [convLoopT_erase]
      unfold convCall at he'; rw [hs] at he'; exact he'
    rw [convLoopT]; simp only [ht, hs, hr1]
    exact List.mem_cons_of_mem _ (List.mem_append_right _ hst)
  | @bound stack pos output inner name index _ ht hidx ih =>
    refine complete_step ih (drop_of_getElem? ht).1 (Nat.lt_succ_self _) fun f _ st hst => ?_
    rw [convLoopT]; simp only [ht, hidx]
    exact List.mem_cons_of_mem _ hst
  | @free stack pos output inner name _ ht hidx ih =>
    refine complete_step ih (drop_of_getElem? ht).1 (Nat.lt_succ_self _) fun f _ st hst => ?_
    rw [convLoopT]; simp only [ht, hidx]
    exact List.mem_cons_of_mem _ hst

theorem convLoopT_trace_iff (tokens : List CToken) (st : ConvHead) :
    st ∈ (convLoopT tokens (tokens.length + 1) [] 0 [] 0).1 ↔
      ConvLoopAt tokens st.stack st.pos st.output st.inner := by
  constructor
  · exact convLoopT_sound tokens _ [] 0 [] 0 .top st
  · intro h
    obtain ⟨fuel, h1, _, hsub⟩ := convLoopT_complete_aux tokens h
    obtain ⟨f, rfl⟩ : ∃ f, fuel = f + 1 := ⟨fuel - 1, by omega⟩
    obtain ⟨tr, htr⟩ := convLoopT_head tokens f st.stack st.pos st.output st.inner
    exact hsub st (by rw [htr]; exact List.mem_cons_self)


/-- the state of an activation of `_get_ast` at its loop head: the values of `*pos`, `nested`, `expr` -/
structure AstHead where
  pos : Nat
  nested : Bool
  expr : List Expression

/-- `astLoopC` instrumented (same recursion): the loop heads visited, and the result of `astLoopC` -/
def astLoopT (tokens : List Token) :
    Nat → Nat → Bool → List Expression →
      List AstHead × Option (Except ParseError Expression × Nat)
  | 0, _, _, _ => ([], none)
  | fuel + 1, pos, nested, expr =>
    match tokens[pos]? with
    | none =>
      ([⟨pos, nested, expr⟩],
        some (if nested then .error .InvalidExpression else .ok (.Sequence expr), pos))
    | some .Lambda =>
      let r := astLoopT tokens fuel (pos + 1) nested (expr ++ [.Abstraction])
      (⟨pos, nested, expr⟩ :: r.1, r.2)
    | some (.Number i) =>
      let r := astLoopT tokens fuel (pos + 1) nested (expr ++ [.Variable i])
      (⟨pos, nested, expr⟩ :: r.1, r.2)
    | some .Lparen =>
      if tokens.isEmpty then ([⟨pos, nested, expr⟩], some (.error .EmptyExpression, pos + 1))
      else
        let r1 := astLoopT tokens fuel (pos + 1) true []
        match r1.2 with
        | none => (⟨pos, nested, expr⟩ :: r1.1, none)
        | some (.error e, pos') => (⟨pos, nested, expr⟩ :: r1.1, some (.error e, pos'))
        | some (.ok subtree, pos') =>
          let r2 := astLoopT tokens fuel (pos' + 1) nested (expr ++ [subtree])
          (⟨pos, nested, expr⟩ :: (r1.1 ++ r2.1), r2.2)
    | some .Rparen =>
      ([⟨pos, nested, expr⟩],
        some (if nested then .ok (.Sequence expr) else .error .InvalidExpression, pos))

def getAstCurT (tokens : List Token) : List AstHead × Option (Except ParseError Expression) :=
  if tokens.isEmpty then ([], some (.error .EmptyExpression))
  else
    let r := astLoopT tokens (tokens.length + 1) 0 false []
    (r.1, r.2.map (·.1))

theorem astLoopT_erase (tokens : List Token) :
    ∀ (fuel pos : Nat) (nested : Bool) (expr : List Expression),
      (astLoopT tokens fuel pos nested expr).2 = astLoopC tokens fuel pos nested expr := by
  intro fuel
  induction fuel with
  | zero => intro _ _ _; rfl
  | succ fuel ih =>
    intro pos nested expr
    rw [astLoopT, astLoopC]
    cases htok : tokens[pos]? with
    | none => rfl
    | some tok =>
      cases tok with
      | Lambda => exact ih _ _ _
      | Number i => exact ih _ _ _
      | Lparen =>
        simp only []
        cases tokens.isEmpty with
        | true => rfl
        | false =>
          simp only [Bool.false_eq_true, if_false]
          rw [← ih (pos + 1) true []]
          cases (astLoopT tokens fuel (pos + 1) true []).2 with
          | none => rfl
          | some r1 =>
            obtain ⟨x1, p1⟩ := r1
            cases x1 with
            | error e => rfl
            | ok e1 => exact ih _ _ _
      | Rparen => rfl

theorem getAstCurT_erase (tokens : List Token) : (getAstCurT tokens).2 = getAstCur tokens := by
  unfold getAstCurT getAstCur astCall
  cases tokens.isEmpty with
  | true => rfl
  | false => simp only [Bool.false_eq_true, if_false, astLoopT_erase]

theorem astLoopT_head (tokens : List Token) (fuel pos : Nat) (nested : Bool) (expr : List Expression) :
    ∃ tr, (astLoopT tokens (fuel + 1) pos nested expr).1 = ⟨pos, nested, expr⟩ :: tr := by
  rw [astLoopT]
  cases tokens[pos]? with
  | none => exact ⟨_, rfl⟩
  | some tok =>
    cases tok with
    | Lambda => exact ⟨_, rfl⟩
    | Number i => exact ⟨_, rfl⟩
    | Lparen =>
      simp only []
      cases tokens.isEmpty with
      | true => exact ⟨_, rfl⟩
      | false =>
        simp only [Bool.false_eq_true, if_false]
        cases (astLoopT tokens fuel (pos + 1) true []).2 with
        | none => exact ⟨_, rfl⟩
        | some r1 =>
          obtain ⟨x1, p1⟩ := r1
          cases x1 <;> exact ⟨_, rfl⟩
    | Rparen => exact ⟨_, rfl⟩

/-- SOUNDNESS of `AstLoopAt`: a run of the instrumented loop that starts in a state satisfying `AstLoopAt` only
visits states satisfying `AstLoopAt` (whatever the fuel, whether or not the run succeeds) -/
theorem astLoopT_sound (tokens : List Token) :
    ∀ (fuel pos : Nat) (nested : Bool) (expr : List Expression),
      AstLoopAt tokens pos nested expr →
      ∀ st ∈ (astLoopT tokens fuel pos nested expr).1, AstLoopAt tokens st.pos st.nested st.expr := by
  intro fuel
  induction fuel with
  | zero => intro _ _ _ _ st hst; simp [astLoopT] at hst
  | succ fuel ih =>
    intro pos nested expr hat
    rw [astLoopT]
    cases htok : tokens[pos]? with
    | none => exact List.forall_mem_singleton.2 hat
    | some tok =>
      cases tok with
      | Lambda => exact List.forall_mem_cons.2 ⟨hat, ih _ _ _ (.lambda hat htok)⟩
      | Number i => exact List.forall_mem_cons.2 ⟨hat, ih _ _ _ (.number hat htok)⟩
      | Lparen =>
        dsimp only
        cases hemp : tokens.isEmpty with
        | true => exact List.forall_mem_singleton.2 hat
        | false =>
          simp only [Bool.false_eq_true, if_false]
          have he := astLoopT_erase tokens fuel (pos + 1) true []
          cases hr1 : (astLoopT tokens fuel (pos + 1) true []).2 with
          | none => exact List.forall_mem_cons.2 ⟨hat, ih _ _ _ (.call hat htok)⟩
          | some r1 =>
            obtain ⟨x1, p1⟩ := r1
            cases x1 with
            | error e => exact List.forall_mem_cons.2 ⟨hat, ih _ _ _ (.call hat htok)⟩
            | ok e1 =>
              have hc : astCall tokens fuel (pos + 1) true = some (.ok e1, p1) := by
                unfold astCall; rw [hemp]; simp only [Bool.false_eq_true, if_false]; rw [← he, hr1]
              exact List.forall_mem_cons.2 ⟨hat, List.forall_mem_append.2
                ⟨ih _ _ _ (.call hat htok), ih _ _ _ (.back hat htok hc)⟩⟩
      | Rparen => exact List.forall_mem_singleton.2 hat

/-- COMPLETENESS of the trace: every state satisfying `AstLoopAt` is visited by the top-level run, with enough fuel
left, and everything the run visits from there on belongs to the trace of the top-level run -/
theorem astLoopT_complete_aux (tokens : List Token) {pos : Nat} {nested : Bool} {expr : List Expression}
    (h : AstLoopAt tokens pos nested expr) :
    ∃ fuel, 1 ≤ fuel ∧ tokens.length + 1 ≤ fuel + pos ∧
      ∀ st ∈ (astLoopT tokens fuel pos nested expr).1,
        st ∈ (astLoopT tokens (tokens.length + 1) 0 false []).1 := by
  have hne : ∀ {p : Nat}, p < tokens.length → tokens.isEmpty = false :=
    fun hp => List.isEmpty_eq_false_iff.2 (List.ne_nil_of_length_pos (by omega))
  induction h with
  | top => exact ⟨tokens.length + 1, by omega, by omega, fun st h => h⟩
  | @lambda pos nested expr _ ht ih =>
    refine complete_step ih (drop_of_getElem? ht).1 (Nat.lt_succ_self _) fun f _ st hst => ?_
    rw [astLoopT]; simp only [ht]
    exact List.mem_cons_of_mem _ hst
  | @number pos nested expr i _ ht ih =>
    refine complete_step ih (drop_of_getElem? ht).1 (Nat.lt_succ_self _) fun f _ st hst => ?_
    rw [astLoopT]; simp only [ht]
    exact List.mem_cons_of_mem _ hst
  | @call pos nested expr _ ht ih =>
    have hlt := (drop_of_getElem? ht).1
    refine complete_step ih hlt (Nat.lt_succ_self _) fun f _ st hst => ?_
    rw [astLoopT]; simp only [ht, hne hlt, Bool.false_eq_true, if_false]
    cases (astLoopT tokens f (pos + 1) true []).2 with
    | none => exact List.mem_cons_of_mem _ hst
    | some r1 =>
      obtain ⟨x1, p1⟩ := r1
      cases x1 with
      | error e => exact List.mem_cons_of_mem _ hst
      | ok e1 => exact List.mem_cons_of_mem _ (List.mem_append_left _ hst)
  | @back pos nested expr fuel0 subtree pos' _ ht hc ih =>
    have hlt := (drop_of_getElem? ht).1
    -- the callee returns with `pos + 1 ≤ pos'`, whatever the fuel it was given
    obtain ⟨r, p, he, _, h⟩ :=
      astCall_spec tokens (tokens.length + 1) (pos + 1) true (by omega) (by omega)
    have hp1 := (h (List.ne_nil_of_length_pos (by omega))).le
    have := astCall_det tokens hc he
    simp only [Prod.mk.injEq] at this
    obtain ⟨rfl, rfl⟩ := this
    refine complete_step ih hlt (by omega) fun f hf st hst => ?_
    obtain ⟨r', p', he', _⟩ := astCall_spec tokens f (pos + 1) true (by omega) (by omega)
    rw [← astCall_det tokens hc he'] at he'
    have hr1 : (astLoopT tokens f (pos + 1) true []).2 = some (.ok subtree, pos') := by
      rw [astLoopT_erase]
      unfold astCall at he'; rw [hne hlt] at he'; simpa using he'
    rw [astLoopT]; simp only [ht, hne hlt, Bool.false_eq_true, if_false, hr1]
    exact List.mem_cons_of_mem _ (List.mem_append_right _ hst)

theorem astLoopT_trace_iff (tokens : List Token) (st : AstHead) :
    st ∈ (astLoopT tokens (tokens.length + 1) 0 false []).1 ↔
      AstLoopAt tokens st.pos st.nested st.expr := by
  constructor
  · exact astLoopT_sound tokens _ 0 false [] .top st
  · intro h
    obtain ⟨fuel, h1, _, hsub⟩ := astLoopT_complete_aux tokens h
    obtain ⟨f, rfl⟩ : ∃ f, fuel = f + 1 := ⟨fuel - 1, by omega⟩
    obtain ⟨tr, htr⟩ := astLoopT_head tokens f st.pos st.nested st.expr
    exact hsub st (by rw [htr]; exact List.mem_cons_self)

end Cursor
end LC
