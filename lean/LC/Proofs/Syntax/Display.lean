/-
Display (`show_precedence_cla`) and the Classic parser: the development behind `LC/Props/C10.lean`, `C10Sharp.lean`.

The round trip: what the printer puts out for `t` is a rendering of the token printing of the named term `nameOf t`
(binders `base26 depth`, free variables `fname`; `renders_showU`), and the standard translation of that term is `canon t`,
`t` with its free variables renumbered in order of first appearance (`toDB_nameOf`).  `printCla` is the documented format
as an independently written printer (`showCla_eq_printCla`).  For terms with `UD`, the word `undefined` is the name
number `undefinedOrdinal`, and `fillUD` puts the free variable of that name for `UD` without changing the output.

Spellings that meet here.  The syntactic position of a subterm is written three ways: the context precedence
`ctx ∈ {0, 2, 3}` of the model's printers and of `Cl.printN` / `Cl.printD` (0 whole term or body, 2 operator, 3 operand);
`pos ∈ {0, 1, 2}` of the independently written printers `printCla`, `printDbr` and of `C11.numParens` (`C10.ctxOf`
translates); the flags `(arg, fin)` of `Cl.PrintsN` / `Cl.PrintsD` (`C09C.printN_prints`: `arg = (ctx == 3)`,
`fin = decide (ctx ≤ 1)`).  "No `UD`" is `noUD t = true` in C10 and `Spec.hasUD t = false` elsewhere (`C10S.noUD_eq`).
The glyph is `lam = 955 ∨ lam = 92` in the statements about the printers and `isLam lam = true` for the lexer
(`C09C.isLam_glyph`).  Code points are `cLambda`, `cLparen`, `cDot` … in the model and the Classic files, the literals
955, 92, 40, 41 in `Spec/Grammar.lean` and the De Bruijn lemmas.
-/
import LC.Proofs.Syntax.Classic
import LC.Proofs.Syntax.Numeral
import LC.Spec.FreeVars

namespace LC
open Term Parser Display

/-- no `var 0`: the negation of `Spec.hasUD` (`C10S.noUD_eq`).  The statements of C10 carry the hypothesis as
`noUD t = true`, those about terms WITH `UD` (the last part of this file, `C10Sharp.lean`) as `hasUD t = true`. -/
def noUD : Term → Bool
  | var i => decide (i ≠ 0)
  | abs b => noUD b
  | app l r => noUD l && noUD r

namespace C10


/-- value of a bijective base-26 numeral over `'a'..'z'` (a = 1, …, z = 26), most significant
digit first -/
def value26 (ds : List Nat) : Nat := ds.foldl (fun acc d => 26 * acc + (d - 96)) 0

end C10

/-- `base26 n` is the bijective base-26 numeral of `n + 1` over `'a'..'z'`: it is non-empty, all
its code points are lower-case ASCII letters, and its value (a = 1, …, z = 26) is `n + 1` -/
theorem base26_spec (n : Nat) :
    base26 n ≠ [] ∧ (∀ c ∈ base26 n, 97 ≤ c ∧ c ≤ 122) ∧ C10.value26 (base26 n) = n + 1 := by
  refine ⟨?_, base26_range n, ?_⟩
  · unfold base26
    rw [base26Loop_isDigitLoop.snoc (Nat.succ_ne_zero n)]
    simp
  · exact base26Loop_isDigitLoop.value 26 (· - 96) (fun m _ => by split <;> omega)
      (n + 1)

theorem base26_injective (a b : Nat) (h : base26 a = base26 b) : a = b := by
  have ha := (base26_spec a).2.2
  have hb := (base26_spec b).2.2
  rw [h] at ha
  omega


/-- the traversal behind `canon`: `d` = number of binders crossed, `seen` = the free-variable
numbers met so far, in order of first appearance.  An occurrence `var i` with `i > d` is the free
variable number `j = i - d`; it becomes the free variable number `(rank of j in seen) + 1`. -/
def canonAux (d : Nat) (seen : List Nat) : Term → Term × List Nat
  | var i =>
    if i ≤ d then (var i, seen)
    else
      match seen.idxOf? (i - d) with
      | some r => (var (d + r + 1), seen)
      | none => (var (d + seen.length + 1), seen ++ [i - d])
  | abs b =>
    let (b', s') := canonAux (d + 1) seen b
    (abs b', s')
  | app l r =>
    let (l', s₁) := canonAux d seen l
    let (r', s₂) := canonAux d s₁ r
    (app l' r', s₂)

/-- free variable `j` (an occurrence `var (j + d)` under `d` binders) renumbered by the rank of
its first occurrence in left-to-right (pre-order) reading -/
def canon (t : Term) : Term := (canonAux 0 [] t).1

namespace C10

def renameAux (ρ : Nat → Nat) (d : Nat) : Term → Term
  | var i => if i ≤ d then var i else var (d + ρ (i - d))
  | abs b => abs (renameAux ρ (d + 1) b)
  | app l r => app (renameAux ρ d l) (renameAux ρ d r)

def rename (ρ : Nat → Nat) (t : Term) : Term := renameAux ρ 0 t

def fvs (d : Nat) : Term → List Nat
  | var i => if i ≤ d then [] else [i - d]
  | abs b => fvs (d + 1) b
  | app l r => fvs d l ++ fvs d r

def freeVars (t : Term) : List Nat := fvs 0 t


def addNew {α : Type} [BEq α] [LawfulBEq α] (l : List α) (a : α) : List α :=
  if a ∈ l then l else l ++ [a]

def addAll {α : Type} [BEq α] [LawfulBEq α] (l : List α) (js : List α) : List α := js.foldl addNew l

section
variable {α : Type} [BEq α] [LawfulBEq α]

theorem addAll_nil (l : List α) : addAll l [] = l := rfl

theorem addAll_cons (l : List α) (j : α) (js : List α) :
    addAll l (j :: js) = addAll (addNew l j) js := rfl

theorem addAll_append (l js ks : List α) : addAll l (js ++ ks) = addAll (addAll l js) ks := by
  simp [addAll, List.foldl_append]

theorem addNew_prefix (l : List α) (a : α) : ∃ ext, addNew l a = l ++ ext := by
  unfold addNew; split
  · exact ⟨[], by simp⟩
  · exact ⟨[a], rfl⟩

theorem addAll_prefix (js : List α) : ∀ l : List α, ∃ ext, addAll l js = l ++ ext := by
  induction js with
  | nil => intro l; exact ⟨[], by simp [addAll_nil]⟩
  | cons j js ih =>
    intro l
    obtain ⟨e₁, h₁⟩ := addNew_prefix l j
    obtain ⟨e₂, h₂⟩ := ih (addNew l j)
    exact ⟨e₁ ++ e₂, by rw [addAll_cons, h₂, h₁, List.append_assoc]⟩

theorem mem_addNew (l : List α) (a x : α) : x ∈ addNew l a ↔ x ∈ l ∨ x = a := by
  unfold addNew; split
  · constructor
    · exact Or.inl
    · rintro (h | rfl) <;> assumption
  · simp

theorem mem_addAll (js : List α) : ∀ (l : List α) (x : α), x ∈ addAll l js ↔ x ∈ l ∨ x ∈ js := by
  induction js with
  | nil => intro l x; simp [addAll_nil]
  | cons j js ih =>
    intro l x
    rw [addAll_cons, ih, mem_addNew, List.mem_cons, or_assoc]

theorem nodup_addNew (l : List α) (a : α) (h : l.Nodup) : (addNew l a).Nodup := by
  unfold addNew; split
  · exact h
  · rename_i hm
    rw [List.nodup_append]
    refine ⟨h, by simp, ?_⟩
    intro x hx b hb
    simp at hb; subst hb
    intro e; subst e; exact hm hx

theorem nodup_addAll (js : List α) : ∀ l : List α, l.Nodup → (addAll l js).Nodup := by
  induction js with
  | nil => intro l h; exact h
  | cons j js ih => intro l h; exact ih _ (nodup_addNew l j h)

/-- looking up a recorded value: its rank does not depend on what is recorded later -/
theorem idxOf_addNew_append (l : List α) (a : α) (more : List α) :
    (addNew l a ++ more).idxOf a = l.idxOf a := by
  unfold addNew; split
  · rename_i h; rw [List.idxOf_append, if_pos h]
  · rename_i h
    rw [List.append_assoc, List.idxOf_append, if_neg h, List.idxOf_eq_length h]
    simp

theorem map_addNew {β : Type} [BEq β] [LawfulBEq β] (f : α → β) (l : List α) (a : α)
    (hinj : ∀ x ∈ l, f x = f a → x = a) : addNew (l.map f) (f a) = (addNew l a).map f := by
  have hm : f a ∈ l.map f ↔ a ∈ l := by
    rw [List.mem_map]
    constructor
    · rintro ⟨x, hx, he⟩; rw [← hinj x hx he]; exact hx
    · intro h; exact ⟨a, h, rfl⟩
  unfold addNew
  by_cases h : a ∈ l
  · rw [if_pos h, if_pos (hm.2 h)]
  · rw [if_neg h, if_neg (fun h' => h (hm.1 h'))]; simp

theorem idxOf_map {β : Type} [BEq β] [LawfulBEq β] (f : α → β) (l : List α) (a : α)
    (hinj : ∀ x ∈ l, f x = f a → x = a) : (l.map f).idxOf (f a) = l.idxOf a := by
  induction l with
  | nil => rfl
  | cons x xs ih =>
    rw [List.map_cons, List.idxOf_cons, List.idxOf_cons,
      ih (fun y hy => hinj y (List.mem_cons_of_mem _ hy))]
    by_cases h : x = a
    · subst h; simp
    · have h' : ¬ f x = f a := fun e => h (hinj x (List.mem_cons_self) e)
      have hb1 : (x == a) = false := by simp [h]
      have hb2 : (f x == f a) = false := by simp [h']
      rw [hb1, hb2]

end


theorem canonAux_var (d : Nat) (seen : List Nat) (i : Nat) :
    canonAux d seen (var i) =
      if i ≤ d then (var i, seen) else (var (d + seen.idxOf (i - d) + 1), addNew seen (i - d)) := by
  unfold canonAux
  by_cases h : i ≤ d
  · simp [h]
  · rw [if_neg h, if_neg h, C09C.idxOf?_eq]
    unfold addNew
    by_cases hm : (i - d) ∈ seen
    · simp [hm]
    · simp [hm, List.idxOf_eq_length hm]

theorem canonAux_abs (d : Nat) (seen : List Nat) (b : Term) :
    canonAux d seen (abs b) = (abs (canonAux (d + 1) seen b).1, (canonAux (d + 1) seen b).2) := rfl

theorem canonAux_app (d : Nat) (seen : List Nat) (l r : Term) :
    canonAux d seen (app l r) =
      (app (canonAux d seen l).1 (canonAux d (canonAux d seen l).2 r).1,
        (canonAux d (canonAux d seen l).2 r).2) := rfl

/-- the list threaded by the traversal: the distinct free variables in order of first appearance -/
theorem canonAux_snd (t : Term) :
    ∀ d seen, (canonAux d seen t).2 = addAll seen (fvs d t) := by
  induction t with
  | var i =>
    intro d seen
    rw [canonAux_var, fvs]
    by_cases h : i ≤ d <;> simp [h, addAll_nil, addAll_cons]
  | abs b ih => intro d seen; rw [canonAux_abs, fvs]; exact ih _ _
  | app l r ihl ihr =>
    intro d seen
    rw [canonAux_app, fvs, addAll_append, ← ihl, ← ihr]

def rho (l : List Nat) (j : Nat) : Nat := l.idxOf j + 1

/-- the term computed by the traversal is the input renamed by the ranks in the final list (or
any extension of it) -/
theorem canonAux_fst (t : Term) :
    ∀ d seen more,
      (canonAux d seen t).1 = renameAux (rho (addAll seen (fvs d t) ++ more)) d t := by
  induction t with
  | var i =>
    intro d seen more
    rw [canonAux_var, fvs, renameAux]
    by_cases h : i ≤ d
    · simp [h]
    · simp only [h, if_false, addAll_cons, addAll_nil, rho, idxOf_addNew_append]
      rfl
  | abs b ih =>
    intro d seen more
    rw [canonAux_abs, fvs, renameAux, ← ih]
  | app l r ihl ihr =>
    intro d seen more
    rw [canonAux_app, fvs, renameAux, addAll_append, canonAux_snd l]
    obtain ⟨ext, he⟩ := addAll_prefix (fvs d r) (addAll seen (fvs d l))
    rw [← ihr, he, List.append_assoc, ← ihl]

theorem canon_eq_rename (t : Term) : canon t = rename (rho (addAll [] (freeVars t))) t := by
  have := canonAux_fst t 0 [] []
  simpa [canon, rename, freeVars] using this

theorem fvs_rename (ρ : Nat → Nat) (hρ : ∀ j, 1 ≤ ρ j) (t : Term) :
    ∀ d, fvs d (renameAux ρ d t) = (fvs d t).map ρ := by
  induction t with
  | var i =>
    intro d
    rw [renameAux]
    by_cases h : i ≤ d
    · simp [h, fvs]
    · have := hρ (i - d)
      have h2 : ¬ d + ρ (i - d) ≤ d := by omega
      simp only [h, if_false, fvs, h2, List.map_cons, List.map_nil]
      congr 1; omega
  | abs b ih => intro d; rw [renameAux, fvs, fvs, ih]
  | app l r ihl ihr => intro d; rw [renameAux, fvs, fvs, ihl, ihr, List.map_append]

theorem fvs_pos (t : Term) : ∀ d, ∀ j ∈ fvs d t, 1 ≤ j := by
  induction t with
  | var i =>
    intro d j hj
    rw [fvs] at hj
    by_cases h : i ≤ d
    · simp [h] at hj
    · simp [h] at hj; omega
  | abs b ih => intro d; exact ih _
  | app l r ihl ihr =>
    intro d j hj
    rw [fvs] at hj
    rcases List.mem_append.1 hj with h | h
    · exact ihl d j h
    · exact ihr d j h


theorem canonAux_closed (t : Term) :
    ∀ d seen, hasFreeVariablesHelper d t = false → canonAux d seen t = (t, seen) := by
  induction t with
  | var i =>
    intro d seen h
    simp only [hasFreeVariablesHelper, Bool.or_eq_false_iff, decide_eq_false_iff_not] at h
    rw [canonAux_var, if_pos (by omega)]
  | abs b ih =>
    intro d seen h
    rw [canonAux_abs, ih _ _ h]
  | app l r ihl ihr =>
    intro d seen h
    simp only [hasFreeVariablesHelper, Bool.or_eq_false_iff] at h
    rw [canonAux_app, ihl _ _ h.1, ihr _ _ h.2]


def upto : Nat → List Nat
  | 0 => []
  | n + 1 => upto n ++ [n + 1]

theorem length_upto (n : Nat) : (upto n).length = n := by
  induction n with
  | zero => rfl
  | succ n ih => simp [upto, ih]

theorem mem_upto (n j : Nat) : j ∈ upto n ↔ 1 ≤ j ∧ j ≤ n := by
  induction n with
  | zero => simp [upto]; omega
  | succ n ih => simp [upto, ih]; omega

theorem idxOf_upto (n r : Nat) (h : r ≤ n) : (upto n).idxOf (r + 1) = r := by
  induction n with
  | zero => have : r = 0 := by omega
            subst this; rfl
  | succ n ih =>
    rw [upto, List.idxOf_append]
    by_cases hr : r < n
    · have hm : r + 1 ∈ upto n := (mem_upto n (r + 1)).2 (by omega)
      rw [if_pos hm, ih (by omega)]
    · have hm : ¬ r + 1 ∈ upto n := by rw [mem_upto]; omega
      rw [if_neg hm, length_upto, List.idxOf_cons]
      by_cases e : r = n
      · subst e; simp
      · have hb : (n + 1 == r + 1) = false := by simp; omega
        rw [hb]; simp; omega

theorem addNew_upto (seen : List Nat) (j : Nat) :
    addNew (upto seen.length) (seen.idxOf j + 1) = upto (addNew seen j).length := by
  unfold addNew
  by_cases h : j ∈ seen
  · have := List.idxOf_lt_length_of_mem h
    rw [if_pos h, if_pos ((mem_upto _ _).2 (by omega))]
  · rw [if_neg h, List.idxOf_eq_length h, if_neg (by rw [mem_upto]; omega)]
    simp [upto]

/-- on the output of the traversal, the traversal started with `[1, …, |seen|]` is the identity -/
theorem canonAux_canonAux (t : Term) :
    ∀ d seen,
      canonAux d (upto seen.length) (canonAux d seen t).1 =
        ((canonAux d seen t).1, upto (canonAux d seen t).2.length) := by
  induction t with
  | var i =>
    intro d seen
    rw [canonAux_var]
    by_cases h : i ≤ d
    · simp only [h, if_true]
      rw [canonAux_var, if_pos h]
    · simp only [h, if_false]
      have hle : seen.idxOf (i - d) ≤ seen.length := List.idxOf_le_length
      rw [canonAux_var, if_neg (by omega)]
      have e : d + seen.idxOf (i - d) + 1 - d = seen.idxOf (i - d) + 1 := by omega
      rw [e, idxOf_upto _ _ hle, addNew_upto]
  | abs b ih =>
    intro d seen
    rw [canonAux_abs]
    simp only []
    rw [canonAux_abs, ih]
  | app l r ihl ihr =>
    intro d seen
    rw [canonAux_app]
    simp only []
    rw [canonAux_app, ihl]
    simp only []
    rw [ihr]


def distinctFV (t : Term) : List Nat := addAll [] (freeVars t)

theorem distinctFV_nodup (t : Term) : (distinctFV t).Nodup := nodup_addAll _ _ List.nodup_nil

theorem mem_distinctFV (t : Term) (j : Nat) : j ∈ distinctFV t ↔ j ∈ freeVars t := by
  simp [distinctFV, mem_addAll]

/-- the number of distinct free variables of `t`: the length of ANY duplicate-free enumeration of
its free variables -/
theorem length_distinctFV (t : Term) (l : List Nat) (hn : l.Nodup)
    (hm : ∀ j, j ∈ l ↔ j ∈ freeVars t) : l.length = (distinctFV t).length :=
  ((List.perm_ext_iff_of_nodup hn (distinctFV_nodup t)).2 fun j => by rw [hm, mem_distinctFV]).length_eq

theorem rho_inj (l : List Nat) (a b : Nat) (ha : a ∈ l) (hb : b ∈ l) (h : rho l a = rho l b) :
    a = b := by
  have h1 := List.idxOf_lt_length_of_mem ha
  have h2 := List.idxOf_lt_length_of_mem hb
  have e : l.idxOf a = l.idxOf b := by unfold rho at h; omega
  have := List.getElem_idxOf h1
  rw [← this, ← List.getElem_idxOf h2]
  simp [e]

theorem mem_map_rho (l : List Nat) (hn : l.Nodup) (j : Nat) :
    j ∈ l.map (rho l) ↔ 1 ≤ j ∧ j ≤ l.length := by
  rw [List.mem_map]
  constructor
  · rintro ⟨a, ha, rfl⟩
    have := List.idxOf_lt_length_of_mem ha
    unfold rho; omega
  · rintro ⟨h1, h2⟩
    have hlt : j - 1 < l.length := by omega
    refine ⟨l[j - 1], List.getElem_mem hlt, ?_⟩
    unfold rho
    rw [hn.idxOf_getElem _ hlt]; omega


/-- the name of the free variable number `j ≥ 1`: free variables are named after all binder
names (`maxDepth` of them are reserved) -/
def fname (maxDepth : Nat) (j : Nat) : List Nat := base26 (maxDepth + j - 1)

/-- the name printed for the occurrence `var i` under `depth` binders: the name of its binder
(binders are named by nesting depth, the outermost is `a`) when it is bound, the name of the free
variable number `i - depth` otherwise -/
def varName (maxDepth depth i : Nat) : List Nat :=
  if i ≤ depth then base26 (depth - i) else fname maxDepth (i - depth)

end C10

/-- the documented format, as an independently written grammar-directed printer.
`pos` is the syntactic position: 0 = whole term / body of an abstraction, 1 = operator,
2 = operand.  A variable is its name; an abstraction is `λname.body`, parenthesised unless it is
the whole term or a body; an application is `operator operand` with exactly one space,
parenthesised only as an operand. -/
def printCla (lam : Nat) (maxDepth : Nat) : (pos : Nat) → (depth : Nat) → Term → List Nat
  | _, d, var i => C10.varName maxDepth d i
  | pos, d, abs b =>
    let s := [lam] ++ base26 d ++ [46] ++ printCla lam maxDepth 0 (d + 1) b
    if pos = 0 then s else [40] ++ s ++ [41]
  | pos, d, app l r =>
    let s := printCla lam maxDepth 1 d l ++ [32] ++ printCla lam maxDepth 2 d r
    if pos = 2 then [40] ++ s ++ [41] else s

namespace C10

def ctxOf : Nat → Nat
  | 0 => 0
  | 1 => 2
  | _ => 3

/-- an abstraction is parenthesised (`ctx > 1`) unless it is the whole term or a body (`pos = 0`) -/
theorem ctxOf_abs {pos : Nat} (h : pos ≤ 2) : decide (ctxOf pos > 1) = decide (pos ≠ 0) := by
  have hp : pos = 0 ∨ pos = 1 ∨ pos = 2 := by omega
  rcases hp with rfl | rfl | rfl <;> rfl

/-- an application is parenthesised (`ctx = 3`) exactly as an operand (`pos = 2`) -/
theorem ctxOf_app {pos : Nat} (h : pos ≤ 2) : (ctxOf pos == 3) = decide (pos = 2) := by
  have hp : pos = 0 ∨ pos = 1 ∨ pos = 2 := by omega
  rcases hp with rfl | rfl | rfl <;> rfl

theorem showCla_var (lam M i ctx d : Nat) (h : i ≠ 0) :
    showCla lam M (var i) ctx d = varName M d i := by
  cases i with
  | zero => exact absurd rfl h
  | succ i =>
    simp only [showCla, varName, fname]
    by_cases h' : i + 1 ≤ d
    · simp [h']
    · simp only [h', if_false]; congr 1; omega

theorem showCla_eq_printCla (lam M : Nat) (t : Term) (h : noUD t = true) :
    ∀ pos d, pos ≤ 2 → showCla lam M t (ctxOf pos) d = printCla lam M pos d t := by
  induction t with
  | var i =>
    intro pos d _
    have hi : i ≠ 0 := by simpa [noUD] using h
    rw [showCla_var _ _ _ _ _ hi, printCla]
  | abs b ih =>
    intro pos d hpos
    have hb : noUD b = true := by simpa [noUD] using h
    have := ih hb 0 (d + 1) (by omega)
    simp only [ctxOf] at this
    rw [showCla, printCla, this, ctxOf_abs hpos]
    by_cases hp : pos = 0 <;> simp [parenIf, hp]
  | app l r ihl ihr =>
    intro pos d hpos
    simp only [noUD, Bool.and_eq_true] at h
    have h1 := ihl h.1 1 d (by omega)
    have h2 := ihr h.2 2 d (by omega)
    simp only [ctxOf] at h1 h2
    rw [showCla, printCla, h1, h2, ctxOf_app hpos]
    by_cases hp : pos = 2 <;> simp [parenIf, hp]

end C10


namespace C10
open Spec Spec.Cl Spec.Cl.NTerm Parser.CToken

/-- what the round trip assumes of the character classification (facts about Rust's `char`
methods, checked against Rust for all code points by the harness): the lower-case ASCII letters
are alphabetic, alphanumeric and not whitespace; the space is whitespace; whitespace is never a
lambda glyph or a parenthesis, letters are alphanumeric, and whitespace, the parentheses and the
backslash are not alphanumeric (`Cl.ClsOk`: a name ends at the first non-alphanumeric character —
or at the glyph `λ`, which the printed names, made of the letters `a`–`z`, never contain). -/
structure ClsOk10 (cls : CharCls) : Prop where
  lower_alpha : ∀ c, 97 ≤ c → c ≤ 122 → cls.isAlpha c = true
  lower_alnum : ∀ c, 97 ≤ c → c ≤ 122 → cls.isAlnum c = true
  lower_not_ws : ∀ c, 97 ≤ c → c ≤ 122 → cls.isWs c = false
  space_ws : cls.isWs 32 = true
  ok : Cl.ClsOk cls

theorem Examples.asciiCls_ok10 : ClsOk10 C09C.Examples.asciiCls where
  lower_alpha := by intro c h1 h2; simp [C09C.Examples.asciiCls, h1, h2]
  lower_alnum := by intro c h1 h2; simp [C09C.Examples.asciiCls, h1, h2]
  lower_not_ws := by intro c h1 h2; simp [C09C.Examples.asciiCls]; omega
  space_ws := by decide
  ok := C09C.Examples.asciiCls_ok

def nameOf (M : Nat) : Nat → Term → NTerm
  | d, var i => nvar (varName M d i)
  | d, abs b => nlam (base26 d) (nameOf M (d + 1) b)
  | d, app l r => napp (nameOf M d l) (nameOf M d r)

variable {cls : CharCls}

theorem wfName_lower (hc : ClsOk10 cls) (n : List Nat) (hne : n ≠ [])
    (hr : ∀ c ∈ n, 97 ≤ c ∧ c ≤ 122) : WfName cls n := by
  cases n with
  | nil => exact absurd rfl hne
  | cons c cs =>
    refine ⟨⟨c, cs, rfl, ?_, ?_, ?_⟩, ?_, ?_⟩
    · have := hr c List.mem_cons_self
      exact hc.lower_alpha c this.1 this.2
    · have := hr c List.mem_cons_self
      simp [isLam, cBackslash, cLambda]; omega
    · intro d hd
      have := hr d (List.mem_cons_of_mem _ hd)
      exact hc.lower_alnum d this.1 this.2
    · intro d hd
      have := hr d hd
      simp [cDot]; omega
    · intro d hd
      have := hr d hd
      simp [cLambda]; omega

theorem wfName_base26 (hc : ClsOk10 cls) (n : Nat) : WfName cls (base26 n) :=
  wfName_lower hc _ (base26_spec n).1 (base26_spec n).2.1

theorem wfName_varName (hc : ClsOk10 cls) (M d i : Nat) : WfName cls (varName M d i) := by
  unfold varName fname; split <;> exact wfName_base26 hc _

theorem nameEnd_space (hc : ClsOk10 cls) (s : List Nat) : NameEnd cls (32 :: s) :=
  .inl (C09C.not_alnum_of_delim hc.ok (.inl hc.space_ws))

theorem nameEnd_rparen (hc : ClsOk10 cls) (s : List Nat) : NameEnd cls (cRparen :: s) :=
  .inl (C09C.not_alnum_of_delim hc.ok (.inr (.inr (.inl rfl))))

end C10

namespace C10S
open Spec Spec.Cl Spec.Cl.NTerm Parser.CToken C10

variable {cls : CharCls}

theorem wfName_undefined (hc : ClsOk10 cls) : WfName cls undefinedName :=
  wfName_lower hc _ (by simp [undefinedName]) (by decide)

/-- the named term that `Display` prints, for any term: `UD` is printed as the identifier `undefined` -/
def nameOfU (M : Nat) : Nat → Term → NTerm
  | _, var 0 => nvar undefinedName
  | d, var (i + 1) => nvar (varName M d (i + 1))
  | d, abs b => nlam (base26 d) (nameOfU M (d + 1) b)
  | d, app l r => napp (nameOfU M d l) (nameOfU M d r)

/-- every `UD` (under `d` binders: counted from `d`) replaced by the free variable number `K`; with `K` the
number of the free variable that `Display` names `undefined` the printed string does not change
(`showCla_fillUD`) -/
def fillUD (K : Nat) : Nat → Term → Term
  | d, var 0 => var (d + K)
  | _, var (i + 1) => var (i + 1)
  | d, abs b => abs (fillUD K (d + 1) b)
  | d, app l r => app (fillUD K d l) (fillUD K d r)

theorem nameOfU_eq_nameOf (M : Nat) (t : Term) (h : noUD t = true) :
    ∀ d, nameOfU M d t = nameOf M d t := by
  induction t with
  | var i =>
    intro d
    cases i with
    | zero => simp [noUD] at h
    | succ i => rfl
  | abs b ih =>
    intro d
    have hb : noUD b = true := by simpa [noUD] using h
    simp [nameOfU, nameOf, ih hb]
  | app l r ihl ihr =>
    intro d
    simp only [noUD, Bool.and_eq_true] at h
    simp [nameOfU, nameOf, ihl h.1, ihr h.2]

/-- LEXICAL LAYER, all terms: the printed string is a rendering of the token printing of the named
term; a name is always followed by the single space of an application, a closing parenthesis or the
end -/
theorem renders_showU (hc : ClsOk10 cls) (lam : Nat) (hl : isLam lam = true) (M : Nat) (t : Term) :
    ∀ (ctx d : Nat) (rest : List CToken) (s : List Nat), Renders cls rest s → NameEnd cls s →
      Renders cls (printN (nameOfU M d t) ctx ++ rest) (showCla lam M t ctx d ++ s) := by
  induction t with
  | var i =>
    intro ctx d rest s hr hs
    cases i with
    | zero =>
      have : showCla lam M (var 0) ctx d = undefinedName := by
        simp only [showCla]; exact str_undefined
      rw [this]
      exact Renders.name (wfName_undefined hc) hs hr
    | succ i =>
      rw [showCla_var _ _ _ _ _ (by omega)]
      exact Renders.name (wfName_varName hc M d (i + 1)) hs hr
  | abs b ih =>
    intro ctx d rest s hr hs
    by_cases hctx : ctx > 1
    · have := ih 0 (d + 1) (CRparen :: rest) (cRparen :: s) (.rparen hr)
        (nameEnd_rparen hc s)
      have := Renders.lparen (Renders.lam hl (wfName_base26 hc d) this)
      simpa [showCla, nameOfU, printN, parenIf, parenC, hctx, cLparen, cRparen, cDot] using this
    · have := Renders.lam hl (wfName_base26 hc d) (ih 0 (d + 1) rest s hr hs)
      simpa [showCla, nameOfU, printN, parenIf, parenC, hctx, cDot] using this
  | app l r ihl ihr =>
    intro ctx d rest s hr hs
    have hsp : NameEnd cls (32 :: (showCla lam M r 3 d ++ s)) := nameEnd_space hc _
    by_cases hctx : ctx = 3
    · subst hctx
      have h2 := ihr 3 d (CRparen :: rest) (cRparen :: s) (.rparen hr)
        (nameEnd_rparen hc s)
      have h1 := ihl 2 d _ _ (Renders.ws hc.space_ws h2) (nameEnd_space hc _)
      have := Renders.lparen h1
      simpa [showCla, nameOfU, printN, parenIf, parenC, cLparen, cRparen] using this
    · have h2 := ihr 3 d rest s hr hs
      have h1 := ihl 2 d _ _ (Renders.ws hc.space_ws h2) hsp
      have hb : (ctx == 3) = false := by simp [hctx]
      simpa [showCla, nameOfU, printN, parenIf, parenC, hb] using h1

/-- the Display output of ANY term parses in Classic notation, to the standard translation of the
named term that was printed -/
theorem parse_display (cls : CharCls) (hc : ClsOk10 cls) (lam : Nat) (hl : lam = 955 ∨ lam = 92)
    (t : Term) :
    parse cls (display lam t) .Classic = .ok (toDeBruijn (nameOfU t.maxDepth 0 t)) := by
  have hr := renders_showU hc lam (C09C.isLam_glyph hl) t.maxDepth t 0 0 [] [] .nil trivial
  simp only [List.append_nil] at hr
  rw [display, parse_cla_print cls hc.ok (nameOfU t.maxDepth 0 t) 0 _ hr]

end C10S

namespace C10
open Spec Spec.Cl Spec.Cl.NTerm Parser.CToken

variable {cls : CharCls}

theorem renders_show (hc : ClsOk10 cls) (lam : Nat) (hl : isLam lam = true) (M : Nat) (t : Term)
    (h : noUD t = true) :
    ∀ (ctx d : Nat) (rest : List CToken) (s : List Nat), Renders cls rest s → NameEnd cls s →
      Renders cls (printN (nameOf M d t) ctx ++ rest) (showCla lam M t ctx d ++ s) := by
  intro ctx d rest s hr hs
  rw [← C10S.nameOfU_eq_nameOf M t h d]
  exact C10S.renders_showU hc lam hl M t ctx d rest s hr hs


/-- `C09C.toDB_nvar` with `C09C.occ` spelt out: the free names are recorded by `addNew` -/
theorem toDB_nvar (B F : List Name) (n : Name) :
    toDB B F (nvar n) =
      if n ∈ B then (var (B.idxOf n + 1), F)
      else (var (B.length + F.idxOf n + 1), addNew F n) := by
  rw [C09C.toDB_nvar, C09C.occ]
  split <;> rfl

def binders : Nat → List Name
  | 0 => []
  | d + 1 => base26 d :: binders d

theorem length_binders (d : Nat) : (binders d).length = d := by
  induction d with
  | zero => rfl
  | succ d ih => simp [binders, ih]

theorem mem_binders (d : Nat) (n : Name) : n ∈ binders d ↔ ∃ k, k < d ∧ n = base26 k := by
  induction d with
  | zero => simp [binders]
  | succ d ih =>
    rw [binders, List.mem_cons, ih]
    constructor
    · rintro (rfl | ⟨k, hk, rfl⟩)
      · exact ⟨d, by omega, rfl⟩
      · exact ⟨k, by omega, rfl⟩
    · rintro ⟨k, hk, rfl⟩
      by_cases e : k = d
      · subst e; exact Or.inl rfl
      · exact Or.inr ⟨k, by omega, rfl⟩

/-- binder names are distinct, so a bound name resolves to its own binder -/
theorem idxOf_binders (d k : Nat) (h : k < d) : (binders d).idxOf (base26 k) = d - 1 - k := by
  induction d with
  | zero => omega
  | succ d ih =>
    rw [binders, List.idxOf_cons]
    by_cases e : k = d
    · subst e; simp
    · have hne : (base26 d == base26 k) = false := by
        simp only [beq_eq_false_iff_ne, ne_eq]
        intro h'; exact e (base26_injective _ _ h').symm
      rw [hne, cond_false, ih (by omega)]; omega

theorem canonAux_pos (t : Term) (d : Nat) (seen : List Nat) (hs : ∀ j ∈ seen, 1 ≤ j) :
    ∀ j ∈ (canonAux d seen t).2, 1 ≤ j := by
  intro j hj
  rw [canonAux_snd, mem_addAll] at hj
  rcases hj with hj | hj
  · exact hs j hj
  · exact fvs_pos t d j hj

/-- NAME RESOLUTION LAYER: the standard translation of the printed named term is the canonical
renumbering.  `M` is the number of names reserved for binders: every binder of `t` is introduced
at a depth `< M`, so the free names (`base26 (M + j - 1)`, `j ≥ 1`) never collide with a binder
name. -/
theorem toDB_nameOf (M : Nat) (t : Term) (h : noUD t = true) :
    ∀ d seen, d + t.maxDepth ≤ M → (∀ j ∈ seen, 1 ≤ j) →
      toDB (binders d) (seen.map (fname M)) (nameOf M d t) =
        ((canonAux d seen t).1, (canonAux d seen t).2.map (fname M)) := by
  induction t with
  | var i =>
    intro d seen hM hs
    have hi : i ≠ 0 := by simpa [noUD] using h
    simp only [maxDepth, Nat.add_zero] at hM
    rw [nameOf, toDB_nvar, canonAux_var, varName]
    by_cases hid : i ≤ d
    · have hm : base26 (d - i) ∈ binders d := (mem_binders d _).2 ⟨d - i, by omega, rfl⟩
      rw [if_pos hid, if_pos hid, if_pos hm, idxOf_binders d (d - i) (by omega)]
      congr 2; omega
    · have hm : ¬ fname M (i - d) ∈ binders d := by
        rw [mem_binders]
        rintro ⟨k, hk, e⟩
        have := base26_injective _ _ e
        omega
      have hinj : ∀ x ∈ seen, fname M x = fname M (i - d) → x = i - d := by
        intro x hx e
        have := base26_injective _ _ e
        have := hs x hx
        omega
      rw [if_neg hid, if_neg hid, if_neg hm, length_binders, idxOf_map _ _ _ hinj,
        map_addNew _ _ _ hinj]
  | abs b ih =>
    intro d seen hM hs
    have hb : noUD b = true := by simpa [noUD] using h
    simp only [maxDepth] at hM
    have := ih hb (d + 1) seen (by omega) hs
    rw [binders] at this
    simp only [nameOf, toDB, this, canonAux_abs]
  | app l r ihl ihr =>
    intro d seen hM hs
    simp only [noUD, Bool.and_eq_true] at h
    simp only [maxDepth] at hM
    have h1 := ihl h.1 d seen (by omega) hs
    have h2 := ihr h.2 d (canonAux d seen l).2 (by omega) (canonAux_pos l d seen hs)
    simp only [nameOf, toDB, h1, h2, canonAux_app]

theorem toDeBruijn_nameOf (t : Term) (h : noUD t = true) :
    toDeBruijn (nameOf t.maxDepth 0 t) = canon t := by
  have := toDB_nameOf t.maxDepth t h 0 [] (by omega) (by simp)
  simp only [binders, List.map_nil] at this
  rw [toDeBruijn, this, canon]

theorem noUD_of_closed (t : Term) : ∀ d, hasFreeVariablesHelper d t = false → noUD t = true := by
  induction t with
  | var i =>
    intro d h
    simp only [hasFreeVariablesHelper, Bool.or_eq_false_iff, beq_eq_false_iff_ne] at h
    simp [noUD, h.2]
  | abs b ih => intro d h; exact ih _ h
  | app l r ihl ihr =>
    intro d h
    simp only [hasFreeVariablesHelper, Bool.or_eq_false_iff] at h
    simp [noUD, ihl _ h.1, ihr _ h.2]

end C10


namespace C10

theorem mem_fvs_iff (t : Term) : ∀ d j, j ∈ fvs d t ↔ 1 ≤ j ∧ Spec.freeInAux d j t = true := by
  induction t with
  | var i =>
    intro d j
    by_cases h : i ≤ d <;> simp [fvs, Spec.freeInAux, h] <;> omega
  | abs b ih => intro d j; rw [fvs, Spec.freeInAux, ih]
  | app l r ihl ihr =>
    intro d j
    rw [fvs, Spec.freeInAux, List.mem_append, ihl, ihr, Bool.or_eq_true]
    constructor
    · rintro (⟨h1, h2⟩ | ⟨h1, h2⟩)
      · exact ⟨h1, Or.inl h2⟩
      · exact ⟨h1, Or.inr h2⟩
    · rintro ⟨h1, h2 | h2⟩
      · exact Or.inl ⟨h1, h2⟩
      · exact Or.inr ⟨h1, h2⟩

theorem mem_freeVars_iff (t : Term) (j : Nat) : j ∈ freeVars t ↔ Spec.FreeIn j t :=
  mem_fvs_iff t 0 j

end C10


namespace C10S
open Spec Spec.Cl Spec.Cl.NTerm Parser.CToken C10

/-- the `n` with `base26 n` = the word `undefined` (`base26_undefined`): `value26` of the word, less one -/
def undefinedOrdinal : Nat := 4499111678181

theorem base26_undefined : base26 undefinedOrdinal = undefinedName := by decide +kernel

theorem noUD_eq (t : Term) : noUD t = !hasUD t := by
  induction t with
  | var i => by_cases h : i = 0 <;> simp [noUD, hasUD, h]
  | abs b ih => simpa [noUD, hasUD] using ih
  | app l r ihl ihr => simp [noUD, hasUD, ihl, ihr]

theorem noUD_of_hasUD_false {t : Term} (h : hasUD t = false) : noUD t = true := by
  rw [noUD_eq, h]; rfl

theorem hasUD_of_noUD_false {t : Term} (h : noUD t = false) : hasUD t = true := by
  rw [noUD_eq] at h; simpa using h


theorem toDB_noUD (nt : NTerm) : ∀ B F, hasUD (toDB B F nt).1 = false := by
  induction nt with
  | nvar n =>
    intro B F
    rw [C10.toDB_nvar]
    split <;> simp [hasUD]
  | nlam n b ih =>
    intro B F
    have := ih (n :: B) F
    simpa [toDB, hasUD] using this
  | napp f a ihf iha =>
    intro B F
    have h1 := ihf B F
    have h2 := iha B (toDB B F f).2
    simp [toDB, hasUD, h1, h2]

theorem toDeBruijn_noUD (nt : NTerm) : hasUD (toDeBruijn nt) = false := toDB_noUD nt [] []


theorem hasUD_canonAux (t : Term) : ∀ d seen, hasUD (canonAux d seen t).1 = hasUD t := by
  induction t with
  | var i =>
    intro d seen
    rw [canonAux_var]
    by_cases h : i ≤ d
    · simp [h]
    · have h0 : i ≠ 0 := by omega
      simp [h, hasUD, h0]
  | abs b ih => intro d seen; rw [canonAux_abs]; simpa [hasUD] using ih (d + 1) seen
  | app l r ihl ihr =>
    intro d seen
    rw [canonAux_app]
    simp [hasUD, ihl, ihr]


theorem maxDepth_fillUD (K : Nat) (t : Term) : ∀ d, (fillUD K d t).maxDepth = t.maxDepth := by
  induction t with
  | var i => intro d; cases i <;> rfl
  | abs b ih => intro d; simp [fillUD, maxDepth, ih]
  | app l r ihl ihr => intro d; simp [fillUD, maxDepth, ihl, ihr]

theorem hasUD_fillUD (K : Nat) (hK : 1 ≤ K) (t : Term) : ∀ d, hasUD (fillUD K d t) = false := by
  induction t with
  | var i =>
    intro d
    cases i with
    | zero => simp [fillUD, hasUD]; omega
    | succ i => simp [fillUD, hasUD]
  | abs b ih => intro d; simpa [fillUD, hasUD] using ih (d + 1)
  | app l r ihl ihr => intro d; simp [fillUD, hasUD, ihl, ihr]

theorem fillUD_noUD (K : Nat) (t : Term) (h : hasUD t = false) : ∀ d, fillUD K d t = t := by
  induction t with
  | var i =>
    intro d
    cases i with
    | zero => simp [hasUD] at h
    | succ i => rfl
  | abs b ih => intro d; simp only [hasUD] at h; simp [fillUD, ih h]
  | app l r ihl ihr =>
    intro d
    simp only [hasUD, Bool.or_eq_false_iff] at h
    simp [fillUD, ihl h.1, ihr h.2]

/-- with `M` names reserved for binders the free variable number `K` is named `base26 (M + K - 1)`: if that is
the word `undefined`, replacing `UD` by it does not change the printed string -/
theorem showCla_fillUD (lam M K : Nat) (hK : 1 ≤ K) (hMK : M + K - 1 = undefinedOrdinal) (t : Term) :
    ∀ ctx d, showCla lam M (fillUD K d t) ctx d = showCla lam M t ctx d := by
  induction t with
  | var i =>
    intro ctx d
    cases i with
    | zero =>
      obtain ⟨k, rfl⟩ : ∃ k, K = k + 1 := ⟨K - 1, by omega⟩
      have h1 : ¬ (d + k + 1 ≤ d) := by omega
      have h2 : M + (d + k + 1) - d - 1 = undefinedOrdinal := by omega
      show showCla lam M (var (d + k + 1)) ctx d = showCla lam M (var 0) ctx d
      simp only [showCla, h1, if_false, h2, base26_undefined, str_undefined]
    | succ i => rfl
  | abs b ih => intro ctx d; simp [fillUD, showCla, ih]
  | app l r ihl ihr => intro ctx d; simp [fillUD, showCla, ihl, ihr]

end C10S

end LC
