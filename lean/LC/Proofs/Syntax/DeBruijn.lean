/-
C09 (De Bruijn notation + token-level half): the parser accepts exactly the reference grammar
`LC.Spec.Gr.DExpr` (`LC/Spec/Grammar.lean`) and returns the denoted term.

Route:
* lexer: `tokenizeDbrAux` is characterised character by character through `Gr.tokenOf`
  (`tokenizeDbrAux_cons`); on a prefix of valid characters it returns their tokens and goes on
  (`tokenizeDbrAux_valid`), at the first invalid character it stops (`tokenizeDbrAux_invalid`); this
  gives `tokenizeDbr_spec` / `tokenizeDbr_invalid` / `tokenizeDbr_error_iff`;
* `astLoop`: `flat`/`flatL` print an `Expression` back to tokens; `astLoop_flatL` (completeness) and
  `astLoop_sound` (invariant `flatL result = consumed cur st ++ remaining tokens`) give
  `astLoop ts [] [] = .ok e ↔ ∃ es, e = .Sequence es ∧ flatL es = ts`;
* `foldList`: `foldList_sound` (functional induction) and `foldList_complete` (mutual recursor of the
  grammar) relate folding to derivations of the grammar over `flatL es`;
* `parse` in De Bruijn notation is the lexer followed, in `Except`, by the token-level stage (`parse_dbr_eq`;
  `Outcome.ofResult` reads the Rust `Result` as an `Outcome`);
* context lemmas (`parseTokens_paren_atom`, `parseTokens_empty_group`): a prefix brings `astLoop` to
  some state or makes it fail (`astLoop_append`); from there, simulation arguments on the `astLoop`
  state (`EqP`/`EqS`: states that fold alike; `Bad`: states that make every fold fail);
* which error: `astLoop` fails exactly on unbalanced parentheses (`balAux`, `astLoop_bal`), and every error of the
  folding stage is `EmptyExpression` (`foldList_error`), hence `parseTokens_error_iff`.
-/
import LC.Spec.Grammar
import LC.Spec.ClassicSpec
import LC.Proofs.Syntax.Cursor

namespace LC
open Term Parser Spec

namespace C09D

theorem tokenOf_isLam {cls : CharCls} {c : Nat} (h : isLam c = true) : Gr.tokenOf cls c = some .Lambda := by
  simp [isLam, cBackslash, cLambda] at h
  simp [Gr.tokenOf]; omega

/-- one character: `Gr.tokenOf` tests glyphs and parentheses before it asks for the digit value, in the order of the Rust
`match`, so a classification that calls `(` a digit changes nothing -/
theorem tokenizeDbrAux_cons (cls : CharCls) (i c : Nat) (cs : List Nat) :
    tokenizeDbrAux cls i (c :: cs) =
      match Gr.tokenOf cls c with
      | some tk => (tk :: ·) <$> tokenizeDbrAux cls (i + 1) cs
      | none => if cls.isWs c then tokenizeDbrAux cls (i + 1) cs else .error (.InvalidCharacter i c) := by
  rw [tokenizeDbrAux]
  by_cases h1 : isLam c = true
  · simp [h1, tokenOf_isLam h1]
  · have h1' : ¬ (c = 955 ∨ c = 92) := by
      simpa [isLam, cBackslash, cLambda, or_comm] using h1
    by_cases h2 : c = 40
    · subst h2; simp [Gr.tokenOf, isLam, cBackslash, cLambda, cLparen]
    · by_cases h3 : c = 41
      · subst h3; simp [Gr.tokenOf, isLam, cBackslash, cLambda, cLparen, cRparen]
      · simp only [h1, Bool.false_eq_true, if_false, Gr.tokenOf, h1', cLparen, cRparen, beq_iff_eq, h2, h3]
        cases cls.digit16 c <;> simp

theorem tokenOf_lparen (cls : CharCls) : Gr.tokenOf cls 40 = some Token.Lparen := by
  simp [Gr.tokenOf]

theorem tokenOf_rparen (cls : CharCls) : Gr.tokenOf cls 41 = some Token.Rparen := by
  simp [Gr.tokenOf]

theorem tokensOf_cons_some {cls : CharCls} {c : Nat} {tk : Token} (h : Gr.tokenOf cls c = some tk)
    (s : List Nat) : Gr.tokensOf cls (c :: s) = tk :: Gr.tokensOf cls s := by
  simp [Gr.tokensOf, h]

theorem tokensOf_append (cls : CharCls) (s s' : List Nat) :
    Gr.tokensOf cls (s ++ s') = Gr.tokensOf cls s ++ Gr.tokensOf cls s' := by
  simp [Gr.tokensOf, List.filterMap_append]

theorem valid_lparen (cls : CharCls) : Gr.ValidChar cls 40 :=
  .inl (by simp [tokenOf_lparen])

theorem valid_rparen (cls : CharCls) : Gr.ValidChar cls 41 :=
  .inl (by simp [tokenOf_rparen])

theorem tokensOf_lparen (cls : CharCls) (s : List Nat) :
    Gr.tokensOf cls (40 :: s) = Token.Lparen :: Gr.tokensOf cls s :=
  tokensOf_cons_some (tokenOf_lparen cls) s

theorem tokensOf_rparen (cls : CharCls) (s : List Nat) :
    Gr.tokensOf cls (41 :: s) = Token.Rparen :: Gr.tokensOf cls s :=
  tokensOf_cons_some (tokenOf_rparen cls) s

theorem span_first {α : Type} (p : α → Bool) (s : List α) :
    ∃ pre post, s = pre ++ post ∧ (∀ x ∈ pre, p x = true) ∧
      ∀ c rest, post = c :: rest → p c = false := by
  refine ⟨s.takeWhile p, s.dropWhile p, List.takeWhile_append_dropWhile.symm,
    fun x hx => List.all_eq_true.1 List.all_takeWhile x hx, fun c rest h => ?_⟩
  have := List.head?_dropWhile_not p s
  rwa [h] at this

theorem tokenizeDbrAux_valid (cls : CharCls) (pre rest : List Nat)
    (hpre : ∀ c ∈ pre, Gr.ValidChar cls c) (i : Nat) :
    tokenizeDbrAux cls i (pre ++ rest)
      = (Gr.tokensOf cls pre ++ ·) <$> tokenizeDbrAux cls (i + pre.length) rest := by
  induction pre generalizing i with
  | nil => cases h : tokenizeDbrAux cls i rest <;> simp [Gr.tokensOf, h] <;> rfl
  | cons d ds ih =>
    have e : i + 1 + ds.length = i + (d :: ds).length := by simp only [List.length_cons]; omega
    rw [List.cons_append, tokenizeDbrAux_cons, ih (fun c h => hpre c (by simp [h])) (i + 1), e]
    cases h : Gr.tokenOf cls d with
    | some tk =>
      cases tokenizeDbrAux cls (i + (d :: ds).length) rest <;> simp [Gr.tokensOf, h] <;> rfl
    | none =>
      have : cls.isWs d = true := by simpa [Gr.ValidChar, h] using hpre d (by simp)
      simp [Gr.tokensOf, h, this]

theorem tokenizeDbrAux_invalid (cls : CharCls) (pre post : List Nat) (c i : Nat)
    (hpre : ∀ c' ∈ pre, Gr.ValidChar cls c') (hc : ¬ Gr.ValidChar cls c) :
    tokenizeDbrAux cls i (pre ++ c :: post) = .error (.InvalidCharacter (i + pre.length) c) := by
  simp only [Gr.ValidChar, not_or, Bool.not_eq_true, Option.isSome_eq_false_iff,
    Option.isNone_iff_eq_none] at hc
  rw [tokenizeDbrAux_valid cls pre _ hpre, tokenizeDbrAux_cons, hc.1]
  simp [hc.2]
  rfl

theorem tokenizeDbrAux_of_valid (cls : CharCls) (s : List Nat) (i : Nat)
    (hv : ∀ c ∈ s, Gr.ValidChar cls c) : tokenizeDbrAux cls i s = .ok (Gr.tokensOf cls s) := by
  have := tokenizeDbrAux_valid cls s [] hv i
  rw [List.append_nil, tokenizeDbrAux] at this
  rw [this]
  simp [Functor.map, Except.map]

theorem tokenizeDbrAux_ok_iff (cls : CharCls) (s : List Nat) (i : Nat) (toks : List Token) :
    tokenizeDbrAux cls i s = .ok toks ↔ (∀ c ∈ s, Gr.ValidChar cls c) ∧ toks = Gr.tokensOf cls s := by
  refine ⟨fun h => ?_, fun ⟨hv, e⟩ => e ▸ tokenizeDbrAux_of_valid cls s i hv⟩
  obtain ⟨pre, post, rfl, hpre, hpost⟩ := span_first (fun c => decide (Gr.ValidChar cls c)) s
  have hv : ∀ c ∈ pre, Gr.ValidChar cls c := fun c hc => of_decide_eq_true (hpre c hc)
  cases post with
  | nil =>
    rw [List.append_nil] at h ⊢
    rw [tokenizeDbrAux_of_valid cls pre i hv] at h
    exact ⟨hv, (Except.ok.inj h).symm⟩
  | cons c rest =>
    rw [tokenizeDbrAux_invalid cls pre rest c i hv (of_decide_eq_false (hpost c rest rfl))] at h
    cases h

theorem tokenizeDbrAux_error (cls : CharCls) (s : List Nat) (i : Nat) (e : ParseError)
    (h : tokenizeDbrAux cls i s = .error e) :
    ∃ pre c post, s = pre ++ c :: post ∧ (∀ c' ∈ pre, Gr.ValidChar cls c') ∧ ¬ Gr.ValidChar cls c ∧
      e = .InvalidCharacter (i + pre.length) c := by
  obtain ⟨pre, post, rfl, hpre, hpost⟩ := span_first (fun c => decide (Gr.ValidChar cls c)) s
  have hv : ∀ c ∈ pre, Gr.ValidChar cls c := fun c hc => of_decide_eq_true (hpre c hc)
  cases post with
  | nil =>
    rw [List.append_nil, tokenizeDbrAux_of_valid cls pre i hv] at h
    cases h
  | cons c rest =>
    have hc := of_decide_eq_false (hpost c rest rfl)
    rw [tokenizeDbrAux_invalid cls pre rest c i hv hc] at h
    exact ⟨pre, c, rest, rfl, hv, hc, (Except.error.inj h).symm⟩

theorem valid_insert (cls : CharCls) (pre post : List Nat) (w : Nat) (hv : Gr.ValidChar cls w) :
    (∀ c ∈ pre ++ w :: post, Gr.ValidChar cls c) ↔ (∀ c ∈ pre ++ post, Gr.ValidChar cls c) := by
  simp only [List.forall_mem_append, List.forall_mem_cons, hv, true_and]

theorem tokenizeDbrAux_char_congr (cls : CharCls) (pre post : List Nat) (c c' i : Nat)
    (h : Gr.tokenOf cls c = Gr.tokenOf cls c') (hsome : (Gr.tokenOf cls c).isSome = true) :
    tokenizeDbrAux cls i (pre ++ c :: post) = tokenizeDbrAux cls i (pre ++ c' :: post) := by
  induction pre generalizing i with
  | nil =>
    obtain ⟨tk, htk⟩ := Option.isSome_iff_exists.1 hsome
    simp only [List.nil_append, tokenizeDbrAux_cons, ← h, htk]
  | cons d ds ih =>
    simp only [List.cons_append, tokenizeDbrAux_cons, ih]

mutual
/-- the tokens an `Expression` was read from -/
def flat : Expression → List Token
  | .Abstraction => [.Lambda]
  | .Variable i => [.Number i]
  | .Sequence es => .Lparen :: (flatL es ++ [.Rparen])
def flatL : List Expression → List Token
  | [] => []
  | e :: es => flat e ++ flatL es
end

theorem flat_ne_nil (e : Expression) : flat e ≠ [] := by cases e <;> simp [flat]

theorem flatL_lambda {es : List Expression} {ts : List Token} (h : flatL es = Token.Lambda :: ts) :
    ∃ es', es = .Abstraction :: es' ∧ flatL es' = ts := by
  cases es with
  | nil => simp [flatL] at h
  | cons e es =>
    cases e with
    | Abstraction => exact ⟨es, rfl, by simpa [flatL, flat] using h⟩
    | Variable i => simp [flatL, flat] at h
    | Sequence fs => simp [flatL, flat] at h

theorem flatL_append (es fs : List Expression) : flatL (es ++ fs) = flatL es ++ flatL fs := by
  induction es with
  | nil => simp [flatL]
  | cons e es ih => simp [flatL, ih]

mutual
theorem astLoop_flat (e : Expression) (rest : List Token) (cur : List Expression) (st : List (List Expression)) :
    astLoop (flat e ++ rest) cur st = astLoop rest (e :: cur) st := by
  cases e with
  | Abstraction => simp [flat, astLoop]
  | Variable i => simp [flat, astLoop]
  | Sequence es =>
    simp only [flat, List.cons_append, List.append_assoc, astLoop]
    rw [astLoop_flatL es]
    simp [astLoop]
theorem astLoop_flatL (es : List Expression) (rest : List Token) (cur : List Expression) (st : List (List Expression)) :
    astLoop (flatL es ++ rest) cur st = astLoop rest (es.reverse ++ cur) st := by
  cases es with
  | nil => simp [flatL]
  | cons e es =>
    simp only [flatL, List.append_assoc]
    rw [astLoop_flat e, astLoop_flatL es]
    simp
end

/-- the tokens consumed so far by `astLoop`, reconstructed from its state -/
def consumed : List Expression → List (List Expression) → List Token
  | cur, [] => flatL cur.reverse
  | cur, parent :: st => consumed parent st ++ .Lparen :: flatL cur.reverse

theorem consumed_cons (x : Expression) (cur : List Expression) (st : List (List Expression)) :
    consumed (x :: cur) st = consumed cur st ++ flat x := by
  cases st <;> simp [consumed, flatL_append, flatL]

theorem astLoop_sound (ts : List Token) (cur : List Expression) (st : List (List Expression))
    (e : Expression) (h : astLoop ts cur st = .ok e) :
    ∃ es, e = .Sequence es ∧ flatL es = consumed cur st ++ ts := by
  induction ts generalizing cur st with
  | nil =>
    cases st with
    | nil => simp [astLoop] at h; exact ⟨_, h.symm, by simp [consumed]⟩
    | cons p st => simp [astLoop] at h
  | cons tk ts ih =>
    cases tk with
    | Lambda =>
      rw [astLoop] at h
      obtain ⟨es, h1, h2⟩ := ih _ _ h
      exact ⟨es, h1, by rw [h2, consumed_cons]; simp [flat]⟩
    | Number i =>
      rw [astLoop] at h
      obtain ⟨es, h1, h2⟩ := ih _ _ h
      exact ⟨es, h1, by rw [h2, consumed_cons]; simp [flat]⟩
    | Lparen =>
      rw [astLoop] at h
      obtain ⟨es, h1, h2⟩ := ih _ _ h
      exact ⟨es, h1, by rw [h2]; simp [consumed, flatL]⟩
    | Rparen =>
      cases st with
      | nil => simp [astLoop] at h
      | cons p st =>
        rw [astLoop] at h
        obtain ⟨es, h1, h2⟩ := ih _ _ h
        exact ⟨es, h1, by rw [h2, consumed_cons]; simp [consumed, flat]⟩

theorem astLoop_iff (ts : List Token) (e : Expression) :
    astLoop ts [] [] = .ok e ↔ ∃ es, e = .Sequence es ∧ flatL es = ts := by
  constructor
  · intro h
    simpa [consumed, flatL] using astLoop_sound ts [] [] e h
  · rintro ⟨es, rfl, rfl⟩
    have := astLoop_flatL es [] [] []
    simpa [astLoop] using this

/-- `astLoop` inverts `flatL` (`astLoop_iff`), so `flatL` is injective -/
theorem flatL_injective {es fs : List Expression} (h : flatL es = flatL fs) : es = fs := by
  have h1 := (astLoop_iff (flatL es) (.Sequence es)).2 ⟨es, rfl, rfl⟩
  have h2 := (astLoop_iff (flatL es) (.Sequence fs)).2 ⟨fs, rfl, h.symm⟩
  rw [h1] at h2
  simpa using h2

/- `foldList` recurses through the nested `Expression` and is compiled by well-founded recursion: `rfl` and `decide` do
not unfold it.  Proofs use its equations (`rw [foldList]`, `fun_induction foldList`); a concrete token list is
evaluated by the cursor model (`parseTokens_of_cur`). -/

theorem foldList_abs_ok (rest : List Expression) (l : List Term) :
    foldList (.Abstraction :: rest) = .ok l ↔
      ∃ ts b, foldList rest = .ok ts ∧ foldTerms ts = .ok b ∧ l = [abs b] := by
  rw [foldList]
  cases h1 : foldList rest with
  | error e => simp
  | ok ts =>
    cases h2 : foldTerms ts with
    | error e => simp [h2]
    | ok b => simp [h2, eq_comm]

theorem foldList_var_ok (i : Nat) (rest : List Expression) (l : List Term) :
    foldList (.Variable i :: rest) = .ok l ↔ ∃ ts, foldList rest = .ok ts ∧ l = var i :: ts := by
  rw [foldList]
  cases h1 : foldList rest with
  | error e => simp
  | ok ts => simp [eq_comm]

theorem foldList_seq_ok (es rest : List Expression) (l : List Term) :
    foldList (.Sequence es :: rest) = .ok l ↔
      ∃ us t ts, foldList es = .ok us ∧ foldTerms us = .ok t ∧ foldList rest = .ok ts ∧ l = t :: ts := by
  rw [foldList]
  cases h1 : foldList es with
  | error e => simp
  | ok us =>
    cases h2 : foldTerms us with
    | error e => simp [h2]
    | ok t =>
      cases h3 : foldList rest with
      | error e => simp [h2]
      | ok ts => simp [h2, eq_comm]

theorem foldTerms_ok (l : List Term) (t : Term) :
    foldTerms l = .ok t ↔ ∃ h tl, l = h :: tl ∧ t = tl.foldl app h := by
  cases l with
  | nil => simp [foldTerms]
  | cons h tl =>
    simp only [foldTerms, Except.ok.injEq, List.cons.injEq]
    constructor
    · rintro rfl; exact ⟨_, _, ⟨rfl, rfl⟩, rfl⟩
    · rintro ⟨_, _, ⟨rfl, rfl⟩, rfl⟩; rfl

/-- the common step of the `Variable` and `Sequence` cases of `foldList_sound`: an atom `as` in front of a group
`rs` whose folding is already known to be sound -/
theorem sound_step {as : List Token} {a : Term} (ha : Gr.DAtom as a) {rs : List Token}
    {l' : List Term} (ih : ∀ pre f, Gr.DAtoms pre f → Gr.DExpr (pre ++ rs) (l'.foldl app f)) :
    (∀ pre f, Gr.DAtoms pre f → Gr.DExpr (pre ++ (as ++ rs)) ((a :: l').foldl app f)) ∧
    (∀ t, foldTerms (a :: l') = .ok t → Gr.DExpr (as ++ rs) t) := by
  constructor
  · intro pre f hf
    rw [← List.append_assoc]
    exact ih _ _ (.snoc hf ha)
  · intro t ht
    simp only [foldTerms, Except.ok.injEq] at ht
    subst ht
    exact ih _ _ (.one ha)

/-- soundness of the folding stage w.r.t. the grammar, for a group continuing a spine `pre`
(first part) and for a whole group (second part) -/
theorem foldList_sound (es : List Expression) :
    ∀ l, foldList es = .ok l →
      (∀ pre f, Gr.DAtoms pre f → Gr.DExpr (pre ++ flatL es) (l.foldl app f)) ∧
      (∀ t, foldTerms l = .ok t → Gr.DExpr (flatL es) t) := by
  fun_induction foldList es
  case case1 =>  -- `[]`
    intro l h
    simp only [Except.ok.injEq] at h
    subst h
    exact ⟨fun pre f hf => by simpa [flatL] using Gr.DExpr.atoms hf, fun t ht => by simp [foldTerms] at ht⟩
  case case2 rest ts hts b hb ih =>  -- `Abstraction :: rest`, the rest folds to `ts`, `ts` to the body `b`
    intro l h
    simp only [Except.ok.injEq] at h
    subst h
    have hb' := (ih ts hts).2 b hb
    refine ⟨fun pre f hf => ?_, fun t ht => ?_⟩
    · simpa [flatL, flat] using Gr.DExpr.tailLam hf hb'
    · simp only [foldTerms, List.foldl_nil, Except.ok.injEq] at ht
      subst ht
      simpa [flatL, flat] using Gr.DExpr.lam hb'
  case case5 i rest ts hts ih =>  -- `Variable i :: rest`
    intro l h
    simp only [Except.ok.injEq] at h
    subst h
    simpa [flatL, flat] using sound_step (Gr.DAtom.idx i) (ih ts hts).1
  case case7 es rest us hus b hb ts hts ih2 ih1 =>  -- `Sequence es :: rest`, all three folds succeed
    intro l h
    simp only [Except.ok.injEq] at h
    subst h
    have := sound_step (Gr.DAtom.paren ((ih2 us hus).2 b hb)) (ih1 ts hts).1
    simpa [flatL, flat] using this
  -- the other four cases are the branches in which `foldList es` is an error
  all_goals (intro l h; simp at h)

/-- completeness of the folding stage: every derivation of the grammar is the flattening of an
`Expression` list which `foldList`/`foldTerms` fold to the denoted term -/
theorem foldList_complete {ts : List Token} {t : Term} (h : Gr.DExpr ts t) :
    ∃ es, flatL es = ts ∧ ∃ l, foldList es = .ok l ∧ foldTerms l = .ok t := by
  -- `foldList` folds the rest of a group before the item in front of it, so a spine and an atom are described by what
  -- they put in front of ANY folded continuation `es2`
  refine Gr.DExpr.rec
    (motive_1 := fun ts t _ => ∃ es, flatL es = ts ∧ ∃ l, foldList es = .ok l ∧ foldTerms l = .ok t)
    (motive_2 := fun ts f _ => ∃ es, flatL es = ts ∧ ∃ h l, l.foldl app h = f ∧
      ∀ es2 l2, foldList es2 = .ok l2 → foldList (es ++ es2) = .ok (h :: l ++ l2))
    (motive_3 := fun ts a _ => ∃ e, flat e = ts ∧
      ∀ es2 l2, foldList es2 = .ok l2 → foldList (e :: es2) = .ok (a :: l2))
    ?lam ?atoms ?tailLam ?one ?snoc ?idx ?paren h
  case lam =>
    rintro ts b _ ⟨es, rfl, l, h1, h2⟩
    refine ⟨.Abstraction :: es, by simp [flatL, flat], [abs b], ?_, by simp [foldTerms]⟩
    exact (foldList_abs_ok _ _).2 ⟨l, b, h1, h2, rfl⟩
  case atoms =>
    rintro ts t _ ⟨es, rfl, h, l, rfl, h2⟩
    refine ⟨es, rfl, h :: l, ?_, by simp [foldTerms]⟩
    simpa using h2 [] [] (by simp [foldList])
  case tailLam =>
    rintro ts us f b _ _ ⟨es, rfl, h, l, rfl, h2⟩ ⟨es', rfl, l', h1', h2'⟩
    refine ⟨es ++ .Abstraction :: es', by simp [flatL_append, flatL, flat], h :: l ++ [abs b], ?_, by simp [foldTerms]⟩
    exact h2 _ _ ((foldList_abs_ok _ _).2 ⟨l', b, h1', h2', rfl⟩)
  case one =>
    rintro ts t _ ⟨e, rfl, h2⟩
    exact ⟨[e], by simp [flatL], t, [], rfl, fun es2 l2 h => by simpa using h2 es2 l2 h⟩
  case snoc =>
    rintro ts us f a _ _ ⟨es, rfl, h, l, rfl, h2⟩ ⟨e, rfl, h3⟩
    refine ⟨es ++ [e], by simp [flatL_append, flatL], h, l ++ [a], by simp, fun es2 l2 h4 => ?_⟩
    simpa using h2 _ _ (h3 es2 l2 h4)
  case idx =>
    intro n
    exact ⟨.Variable n, by simp [flat], fun es2 l2 h => (foldList_var_ok _ _ _).2 ⟨l2, h, rfl⟩⟩
  case paren =>
    rintro ts t _ ⟨es, rfl, l, h1, h2⟩
    exact ⟨.Sequence es, by simp [flat], fun es2 l2 h => (foldList_seq_ok _ _ _).2 ⟨l, t, l2, h1, h2, h, rfl⟩⟩

end C09D


/-- the token-to-term stage of `parse`: `getAst`, then `foldExprs` of the top-level `Sequence` -/
def parseTokens (ts : List Token) : Except ParseError Term :=
  match getAst ts with
  | .error e => .error e
  | .ok (.Sequence es) => foldExprs es
  | .ok _ => .error .InvalidExpression

namespace C09D

theorem foldExprs_ok (es : List Expression) (t : Term) :
    foldExprs es = .ok t ↔ ∃ l, foldList es = .ok l ∧ foldTerms l = .ok t := by
  rw [foldExprs]
  cases foldList es <;> simp

theorem flatL_eq_nil {es : List Expression} (h : flatL es = []) : es = [] :=
  flatL_injective (fs := []) (by simpa [flatL] using h)

theorem parseTokens_ok_iff (ts : List Token) (t : Term) :
    parseTokens ts = .ok t ↔ ∃ es, flatL es = ts ∧ foldExprs es = .ok t := by
  cases ts with
  | nil =>
    constructor
    · intro h; simp [parseTokens, getAst] at h
    · rintro ⟨es, h1, h2⟩
      rw [flatL_eq_nil h1] at h2
      simp [foldExprs, foldList, foldTerms] at h2
  | cons tk ts =>
    have hne : getAst (tk :: ts) = astLoop (tk :: ts) [] [] := by simp [getAst]
    rw [parseTokens, hne]
    cases h : astLoop (tk :: ts) [] [] with
    | error e =>
      constructor
      · intro h'; simp at h'
      · rintro ⟨es, h1, _⟩
        rw [(astLoop_iff _ (.Sequence es)).2 ⟨es, rfl, h1⟩] at h
        simp at h
    | ok e =>
      obtain ⟨es, rfl, h1⟩ := (astLoop_iff _ _).1 h
      constructor
      · intro h'; exact ⟨es, h1, h'⟩
      · rintro ⟨es', h1', h2'⟩
        rw [flatL_injective (h1.trans h1'.symm)]
        exact h2'

end C09D

theorem parseTokens_iff (ts : List Token) (t : Term) : parseTokens ts = .ok t ↔ Gr.DExpr ts t := by
  rw [C09D.parseTokens_ok_iff]
  constructor
  · rintro ⟨es, rfl, h⟩
    obtain ⟨l, h1, h2⟩ := (C09D.foldExprs_ok _ _).1 h
    exact (C09D.foldList_sound es l h1).2 t h2
  · intro h
    obtain ⟨es, h1, l, h2, h3⟩ := C09D.foldList_complete h
    exact ⟨es, h1, (C09D.foldExprs_ok _ _).2 ⟨l, h2, h3⟩⟩

/-- ill-formed token lists are rejected (there is no third possibility, in particular no parse of
a proper prefix), and an error means that the token list is not derivable in the grammar -/
theorem parseTokens_rejects_iff (ts : List Token) :
    (∃ e, parseTokens ts = .error e) ↔ ¬ ∃ t, Gr.DExpr ts t := by
  constructor
  · rintro ⟨e, he⟩ ⟨t, ht⟩
    rw [(parseTokens_iff ts t).2 ht] at he
    simp at he
  · intro h
    cases h' : parseTokens ts with
    | error e => exact ⟨e, rfl⟩
    | ok t => exact absurd ⟨t, (parseTokens_iff ts t).1 h'⟩ h

theorem Spec.Gr.DExpr.unambiguous {ts : List Token} {t t' : Term}
    (h : Gr.DExpr ts t) (h' : Gr.DExpr ts t') : t = t' := by
  have h1 := (parseTokens_iff ts t).2 h
  have h2 := (parseTokens_iff ts t').2 h'
  rw [h1] at h2
  simpa using h2


theorem tokenizeDbr_spec (cls : CharCls) (s : List Nat) (toks : List Token) :
    tokenizeDbr cls s = .ok toks ↔
      (∀ c ∈ s, Gr.ValidChar cls c) ∧ toks = Gr.tokensOf cls s :=
  C09D.tokenizeDbrAux_ok_iff cls s 0 toks

theorem tokenizeDbr_invalid (cls : CharCls) (pre post : List Nat) (c : Nat)
    (hpre : ∀ c' ∈ pre, Gr.ValidChar cls c') (hc : ¬ Gr.ValidChar cls c) :
    tokenizeDbr cls (pre ++ c :: post) = .error (.InvalidCharacter pre.length c) := by
  simpa [tokenizeDbr] using C09D.tokenizeDbrAux_invalid cls pre post c 0 hpre hc

theorem tokenizeDbr_error_iff (cls : CharCls) (s : List Nat) (e : ParseError) :
    tokenizeDbr cls s = .error e ↔
      ∃ pre c post, s = pre ++ c :: post ∧ (∀ c' ∈ pre, Gr.ValidChar cls c') ∧
        ¬ Gr.ValidChar cls c ∧ e = .InvalidCharacter pre.length c := by
  constructor
  · intro h
    simpa [tokenizeDbr] using C09D.tokenizeDbrAux_error cls s 0 e h
  · rintro ⟨pre, c, post, rfl, hpre, hc, rfl⟩
    exact tokenizeDbr_invalid cls pre post c hpre hc


/-- the Rust `Result` of `parse` as an `Outcome`: never a panic -/
def Parser.Outcome.ofResult : Except ParseError Term → Outcome
  | .ok t => .ok t
  | .error e => .err e

open Parser.Outcome (ofResult)

theorem ofResult_ok {x : Except ParseError Term} {t : Term} : ofResult x = .ok t ↔ x = .ok t := by
  cases x <;> simp [ofResult]

theorem ofResult_err {x : Except ParseError Term} {e : ParseError} :
    ofResult x = .err e ↔ x = .error e := by
  cases x <;> simp [ofResult]

theorem ofResult_ne_panic (x : Except ParseError Term) : ofResult x ≠ .panic := by
  cases x <;> simp [ofResult]

/-- the token-level stage as `parse` has it (`Cl.tokenStage`, an `Outcome`) is `parseTokens` (an `Except`) -/
theorem tokenStage_ofResult (ts : List Token) : Cl.tokenStage ts = ofResult (parseTokens ts) := by
  unfold Cl.tokenStage parseTokens
  cases getAst ts with
  | error e => rfl
  | ok x =>
    cases x with
    | Abstraction => rfl
    | Variable i => rfl
    | Sequence es => cases h : foldExprs es <;> simp only [h] <;> rfl

/-- `parse` in De Bruijn notation: the lexer, then the token-level stage, composed as in `Except` (a lexical
error wins) -/
theorem parse_dbr_eq (cls : CharCls) (s : List Nat) :
    parse cls s .DeBruijn = ofResult (tokenizeDbr cls s >>= parseTokens) := by
  simp only [parse]
  cases tokenizeDbr cls s with
  | error e => rfl
  | ok ts => exact tokenStage_ofResult ts

theorem dbr_stages {cls : CharCls} {s : List Nat} {ts : List Token} {r : Outcome}
    (h1 : tokenizeDbr cls s = .ok ts) (h2 : ofResult (parseTokens ts) = r) :
    parse cls s .DeBruijn = r := by
  rw [parse_dbr_eq, h1]
  exact h2

theorem parse_dbr_invalid (cls : CharCls) (pre post : List Nat) (c : Nat)
    (hpre : ∀ c' ∈ pre, Gr.ValidChar cls c') (hc : ¬ Gr.ValidChar cls c) :
    parse cls (pre ++ c :: post) .DeBruijn = .err (.InvalidCharacter pre.length c) := by
  rw [parse_dbr_eq, tokenizeDbr_invalid cls pre post c hpre hc]
  rfl


/-- invariance: inserting or removing a white-space character `w` anywhere does not change the
result of a successful lexing -/
theorem tokenizeDbr_ws_invariant (cls : CharCls) (pre post : List Nat) (w : Nat)
    (hw : cls.isWs w = true) (hn : Gr.tokenOf cls w = none) (toks : List Token) :
    tokenizeDbr cls (pre ++ w :: post) = .ok toks ↔ tokenizeDbr cls (pre ++ post) = .ok toks := by
  rw [tokenizeDbr_spec, tokenizeDbr_spec, C09D.valid_insert cls pre post w (Or.inr hw)]
  simp [Gr.tokensOf, List.filterMap_append, hn]

theorem tokenOf_glyph (cls : CharCls) :
    Gr.tokenOf cls 955 = some Token.Lambda ∧ Gr.tokenOf cls 92 = some Token.Lambda := by
  simp [Gr.tokenOf]

theorem Spec.Gr.DExpr.paren_whole {ts : List Token} {t : Term} (h : Gr.DExpr ts t) :
    Gr.DExpr (Token.Lparen :: ts ++ [Token.Rparen]) t :=
  .atoms (.one (.paren h))

theorem Spec.Gr.DAtom.paren_atom {ts : List Token} {t : Term} (h : Gr.DAtom ts t) :
    Gr.DAtom (Token.Lparen :: ts ++ [Token.Rparen]) t :=
  .paren (.atoms (.one h))

namespace C09D


theorem foldList_cons_congr (x : Expression) {l l' : List Expression} (h : foldList l = foldList l') :
    foldList (x :: l) = foldList (x :: l') := by
  cases x <;> simp only [foldList, h]

theorem foldList_seq_congr {es es' l l' : List Expression} (h1 : foldList es = foldList es')
    (h2 : foldList l = foldList l') :
    foldList (.Sequence es :: l) = foldList (.Sequence es' :: l') := by
  simp only [foldList, h1, h2]

theorem foldList_wrap (e : Expression) (he : e ≠ .Abstraction) (l : List Expression) :
    foldList (.Sequence [e] :: l) = foldList (e :: l) := by
  cases e with
  | Abstraction => exact absurd rfl he
  | Variable i => simp [foldList, foldTerms]
  | Sequence es =>
    simp only [foldList]
    cases foldList es with
    | error e => rfl
    | ok us =>
      cases h : foldTerms us with
      | error e => simp only [h]
      | ok t => simp only [h]; simp [foldTerms]

/-- `cur` (reversed) components of two `astLoop` states that fold alike in every continuation -/
def EqP (c c' : List Expression) : Prop :=
  ∀ rest rest', foldList rest = foldList rest' →
    foldList (c.reverse ++ rest) = foldList (c'.reverse ++ rest')

def EqS : List (List Expression) → List (List Expression) → Prop
  | [], [] => True
  | p :: s, p' :: s' => EqP p p' ∧ EqS s s'
  | _, _ => False

theorem EqP.push {c c' : List Expression} (h : EqP c c') {x x' : Expression}
    (hx : ∀ rest rest', foldList rest = foldList rest' → foldList (x :: rest) = foldList (x' :: rest')) :
    EqP (x :: c) (x' :: c') := by
  intro rest rest' hr
  simpa using h _ _ (hx rest rest' hr)

theorem EqP.push_same {c c' : List Expression} (h : EqP c c') (x : Expression) :
    EqP (x :: c) (x :: c') :=
  h.push fun _ _ hr => foldList_cons_congr x hr

theorem EqP.nil : EqP [] [] := fun _ _ h => by simpa using h

theorem EqP.refl (c : List Expression) : EqP c c := by
  induction c with
  | nil => exact EqP.nil
  | cons x c ih => exact ih.push_same x

theorem EqS.refl (s : List (List Expression)) : EqS s s := by
  induction s with
  | nil => trivial
  | cons p s ih => exact ⟨EqP.refl p, ih⟩

/-- what `parseTokens` does with the result of `getAst` (`parseTokens_eq_finish`) -/
def finish : Except ParseError Expression → Except ParseError Term
  | .error e => .error e
  | .ok (.Sequence es) => foldExprs es
  | .ok _ => .error .InvalidExpression

theorem astLoop_congr (ts : List Token) {c c' : List Expression} {s s' : List (List Expression)}
    (hc : EqP c c') (hs : EqS s s') :
    finish (astLoop ts c s) = finish (astLoop ts c' s') := by
  induction ts generalizing c c' s s' with
  | nil =>
    cases s with
    | nil =>
      cases s' with
      | nil =>
        have := hc [] [] rfl
        simp only [List.append_nil] at this
        simp [astLoop, finish, foldExprs, this]
      | cons p' s' => exact absurd hs (by simp [EqS])
    | cons p s =>
      cases s' with
      | nil => exact absurd hs (by simp [EqS])
      | cons p' s' => simp [astLoop, finish]
  | cons tk ts ih =>
    cases tk with
    | Lambda => simp only [astLoop]; exact ih (hc.push_same _) hs
    | Number i => simp only [astLoop]; exact ih (hc.push_same _) hs
    | Lparen => simp only [astLoop]; exact ih EqP.nil ⟨hc, hs⟩
    | Rparen =>
      cases s with
      | nil =>
        cases s' with
        | nil => simp [astLoop, finish]
        | cons p' s' => exact absurd hs (by simp [EqS])
      | cons p s =>
        cases s' with
        | nil => exact absurd hs (by simp [EqS])
        | cons p' s' =>
          simp only [astLoop]
          refine ih (hs.1.push fun rest rest' hr => foldList_seq_congr ?_ hr) hs.2
          simpa using hc [] [] rfl

/-- a prefix of the token list either makes `astLoop` fail whatever follows (an unmatched `)`), or
brings it to a state from which it goes on with what follows -/
theorem astLoop_append (pre : List Token) : ∀ (c : List Expression) (s : List (List Expression)),
    (∀ y, astLoop (pre ++ y) c s = .error .InvalidExpression) ∨
      ∃ c' s', ∀ y, astLoop (pre ++ y) c s = astLoop y c' s' := by
  induction pre with
  | nil => intro c s; exact .inr ⟨c, s, fun _ => rfl⟩
  | cons tk pre ih =>
    intro c s
    cases tk with
    | Lambda => simpa only [List.cons_append, astLoop] using ih _ _
    | Number i => simpa only [List.cons_append, astLoop] using ih _ _
    | Lparen => simpa only [List.cons_append, astLoop] using ih _ _
    | Rparen =>
      cases s with
      | nil => exact .inl fun _ => rfl
      | cons p s => simpa only [List.cons_append, astLoop] using ih _ _

theorem astLoop_wrap (e : Expression) (he : e ≠ .Abstraction) (pre post : List Token)
    (c : List Expression) (s : List (List Expression)) :
    finish (astLoop (pre ++ (Token.Lparen :: flat e ++ [Token.Rparen]) ++ post) c s) =
      finish (astLoop (pre ++ flat e ++ post) c s) := by
  simp only [List.append_assoc, List.cons_append, List.nil_append]
  rcases astLoop_append pre c s with h | ⟨c', s', h⟩
  · rw [h, h]
  · have h1 := astLoop_flat (.Sequence [e]) post c' s'
    simp only [flat, flatL, List.append_nil, List.append_assoc, List.cons_append,
      List.nil_append] at h1
    rw [h, h, h1, astLoop_flat]
    exact astLoop_congr post ((EqP.refl c').push fun rest rest' hr =>
      (foldList_wrap e he rest).trans (foldList_cons_congr e hr)) (EqS.refl s')

theorem parseTokens_eq_finish (ts : List Token) (h : ts ≠ []) :
    parseTokens ts = finish (astLoop ts [] []) := by
  have : getAst ts = astLoop ts [] [] := by simp [getAst, h]
  rw [parseTokens, this]
  cases astLoop ts [] [] with
  | error e => rfl
  | ok e => cases e <;> rfl

theorem atom_flat {us : List Token} {a : Term} (h : Gr.DAtom us a) :
    ∃ e, e ≠ .Abstraction ∧ flat e = us := by
  cases h with
  | idx n => exact ⟨.Variable n, by simp, by simp [flat]⟩
  | paren h =>
    obtain ⟨es, h1, _⟩ := foldList_complete h
    exact ⟨.Sequence es, by simp, by simp [flat, h1]⟩

end C09D

/-- redundant parentheses around an atom, wherever it occurs: if `us` is an atom (an index or a
parenthesised expression), replacing an occurrence of `us` by `(us)` in ANY token list changes
nothing: the same term, or the same error -/
theorem parseTokens_paren_atom (pre us post : List Token) (a : Term) (hu : Gr.DAtom us a) :
    parseTokens (pre ++ (Token.Lparen :: us ++ [Token.Rparen]) ++ post) =
      parseTokens (pre ++ us ++ post) := by
  obtain ⟨e, he, rfl⟩ := C09D.atom_flat hu
  rw [C09D.parseTokens_eq_finish _ (by simp), C09D.parseTokens_eq_finish _ (by cases e <;> simp [C09D.flat] at he ⊢)]
  exact C09D.astLoop_wrap e he pre post [] []

theorem Spec.Gr.DAtom.paren_in_context {us : List Token} {a : Term} (hu : Gr.DAtom us a)
    (pre post : List Token) (t : Term) :
    Gr.DExpr (pre ++ (Token.Lparen :: us ++ [Token.Rparen]) ++ post) t ↔
      Gr.DExpr (pre ++ us ++ post) t := by
  rw [← parseTokens_iff, ← parseTokens_iff, parseTokens_paren_atom pre us post a hu]


/-- parenthesis counter: `balAux d ts` — reading `ts` at nesting depth `d` never closes an unopened
parenthesis and ends at depth `0` -/
def C09D.balAux : Nat → List Token → Bool
  | d, [] => d == 0
  | d, .Lparen :: ts => balAux (d + 1) ts
  | 0, .Rparen :: _ => false
  | d + 1, .Rparen :: ts => balAux d ts
  | d, .Lambda :: ts => balAux d ts
  | d, .Number _ :: ts => balAux d ts

theorem Spec.Gr.DExpr.ne_nil_balanced {ts : List Token} {t : Term} (h : Gr.DExpr ts t) :
    ts ≠ [] ∧ ∀ d rest, C09D.balAux d (ts ++ rest) = C09D.balAux d rest := by
  let P : List Token → Prop := fun ts =>
    ts ≠ [] ∧ ∀ d rest, C09D.balAux d (ts ++ rest) = C09D.balAux d rest
  refine Gr.DExpr.rec (motive_1 := fun ts _ _ => P ts) (motive_2 := fun ts _ _ => P ts)
    (motive_3 := fun ts _ _ => P ts) ?lam ?atoms ?tailLam ?one ?snoc ?idx ?paren h
  case lam => rintro ts b _ ⟨_, h⟩; exact ⟨by simp, fun d rest => by simp [C09D.balAux, h]⟩
  case atoms => exact fun _ h => h
  case tailLam =>
    rintro ts us f b _ _ ⟨_, h1⟩ ⟨_, h2⟩
    exact ⟨by simp, fun d rest => by simp [C09D.balAux, h1, h2]⟩
  case one => exact fun _ h => h
  case snoc =>
    rintro ts us f a _ _ ⟨h0, h1⟩ ⟨_, h2⟩
    exact ⟨by simp [h0], fun d rest => by simp [h1, h2]⟩
  case idx => intro n; exact ⟨by simp, fun d rest => by simp [C09D.balAux]⟩
  case paren =>
    rintro ts t _ ⟨_, h⟩
    exact ⟨by simp, fun d rest => by simp [C09D.balAux, h]⟩

theorem Spec.Gr.DExpr.ne_nil {ts : List Token} {t : Term} (h : Gr.DExpr ts t) : ts ≠ [] :=
  h.ne_nil_balanced.1

theorem Spec.Gr.DExpr.balanced {ts : List Token} {t : Term} (h : Gr.DExpr ts t) :
    C09D.balAux 0 ts = true := by
  simpa [C09D.balAux] using h.ne_nil_balanced.2 0 []

/-- abstraction bodies are maximal: an expression that starts with `λ` is an abstraction whose body
is the WHOLE rest of the token list -/
theorem Spec.Gr.DExpr.lam_inv {ts : List Token} {t : Term} (h : Gr.DExpr (Token.Lambda :: ts) t) :
    ∃ b, t = abs b ∧ Gr.DExpr ts b := by
  obtain ⟨es, h1, l, h2, h3⟩ := C09D.foldList_complete h
  obtain ⟨es', rfl, rfl⟩ := C09D.flatL_lambda h1
  obtain ⟨l', b, h4, h5, rfl⟩ := (C09D.foldList_abs_ok _ _).1 h2
  simp only [foldTerms, List.foldl_nil, Except.ok.injEq] at h3
  exact ⟨b, h3.symm, (C09D.foldList_sound es' l' h4).2 b h5⟩


namespace C09D

theorem foldList_append_error (l : List Expression) {l2 : List Expression} {e : ParseError}
    (h : foldList l2 = .error e) : ∃ e', foldList (l ++ l2) = .error e' := by
  induction l with
  | nil => exact ⟨e, h⟩
  | cons x l ih =>
    obtain ⟨e', ih⟩ := ih
    cases x with
    | Abstraction => exact ⟨e', by simp [foldList, ih]⟩
    | Variable i => exact ⟨e', by simp [foldList, ih]⟩
    | Sequence es =>
      simp only [List.cons_append, foldList, ih]
      cases foldList es with
      | error e1 => exact ⟨e1, rfl⟩
      | ok us =>
        cases h2 : foldTerms us with
        | error e2 => exact ⟨e2, by simp only [h2]⟩
        | ok t => exact ⟨e', by simp only [h2]⟩

/-- a `cur` component (reversed) that makes every group it ends up in fail -/
def Bad (c : List Expression) : Prop := ∀ rest, ∃ e, foldList (c.reverse ++ rest) = .error e

theorem Bad.push {c : List Expression} (h : Bad c) (x : Expression) : Bad (x :: c) := by
  intro rest; simpa using h (x :: rest)

theorem Bad.of_head {x : Expression} (hx : ∀ rest, ∃ e, foldList (x :: rest) = .error e)
    (c : List Expression) : Bad (x :: c) := by
  intro rest
  obtain ⟨e, he⟩ := hx rest
  simpa using foldList_append_error c.reverse he

theorem seq_error {es : List Expression} (h : ∃ e, foldExprs es = .error e) (rest : List Expression) :
    ∃ e, foldList (.Sequence es :: rest) = .error e := by
  obtain ⟨e, he⟩ := h
  simp only [foldList]
  simp only [foldExprs] at he
  cases h1 : foldList es with
  | error e1 => exact ⟨e1, rfl⟩
  | ok us =>
    simp only [h1] at he
    simp only [he]
    exact ⟨e, rfl⟩

theorem Bad.foldExprs_error {c : List Expression} (h : Bad c) : ∃ e, foldExprs c.reverse = .error e := by
  obtain ⟨e, he⟩ := h []
  simp only [List.append_nil] at he
  exact ⟨e, by simp [foldExprs, he]⟩

theorem astLoop_bad (ts : List Token) (c : List Expression) (s : List (List Expression))
    (h : Bad c ∨ ∃ p ∈ s, Bad p) : ∃ e, finish (astLoop ts c s) = .error e := by
  induction ts generalizing c s with
  | nil =>
    cases s with
    | nil =>
      rcases h with h | ⟨p, hp, _⟩
      · simpa [astLoop, finish] using h.foldExprs_error
      · simp at hp
    | cons p s => exact ⟨.InvalidExpression, by simp [astLoop, finish]⟩
  | cons tk ts ih =>
    cases tk with
    | Lambda => simp only [astLoop]; exact ih _ _ (h.imp_left fun h => h.push _)
    | Number i => simp only [astLoop]; exact ih _ _ (h.imp_left fun h => h.push _)
    | Lparen =>
      simp only [astLoop]
      refine ih _ _ (.inr ?_)
      rcases h with h | ⟨p, hp, hb⟩
      · exact ⟨c, by simp, h⟩
      · exact ⟨p, by simp [hp], hb⟩
    | Rparen =>
      cases s with
      | nil => exact ⟨.InvalidExpression, by simp [astLoop, finish]⟩
      | cons p s =>
        simp only [astLoop]
        rcases h with h | ⟨q, hq, hb⟩
        · exact ih _ _ (.inl (Bad.of_head (seq_error h.foldExprs_error) p))
        · rcases List.mem_cons.1 hq with rfl | hq
          · exact ih _ _ (.inl (hb.push _))
          · exact ih _ _ (.inr ⟨q, hq, hb⟩)

theorem parseTokens_error_of_suffix (suffix : List Token) (hne : suffix ≠ [])
    (h : ∀ c s, ∃ e, finish (astLoop suffix c s) = .error e) (pre : List Token) :
    ∃ e, parseTokens (pre ++ suffix) = .error e := by
  rw [parseTokens_eq_finish _ (by simp [hne])]
  rcases astLoop_append pre [] [] with h' | ⟨c', s', h'⟩
  · exact ⟨_, by rw [h']; rfl⟩
  · rw [h']; exact h c' s'

end C09D

theorem parseTokens_empty_group (pre post : List Token) :
    ∃ e, parseTokens (pre ++ Token.Lparen :: Token.Rparen :: post) = .error e := by
  refine C09D.parseTokens_error_of_suffix _ (by simp) (fun c s => ?_) pre
  simp only [astLoop, List.reverse_nil]
  refine C09D.astLoop_bad _ _ _ (.inl (C09D.Bad.of_head (C09D.seq_error ?_) c))
  exact ⟨.EmptyExpression, by simp [foldExprs, foldList, foldTerms]⟩

theorem parseTokens_empty_body (pre post : List Token) :
    ∃ e, parseTokens (pre ++ Token.Lambda :: Token.Rparen :: post) = .error e := by
  refine C09D.parseTokens_error_of_suffix _ (by simp) (fun c s => ?_) pre
  cases s with
  | nil => exact ⟨.InvalidExpression, by simp [astLoop, C09D.finish]⟩
  | cons p s =>
    simp only [astLoop]
    refine C09D.astLoop_bad _ _ _ (.inl (C09D.Bad.of_head (C09D.seq_error ?_) p))
    obtain ⟨e, he⟩ := C09D.foldList_append_error c.reverse
      (show foldList [.Abstraction] = .error .EmptyExpression by simp [foldList, foldTerms])
    exact ⟨e, by simp [foldExprs, he]⟩

theorem parseTokens_empty_body_end (pre : List Token) :
    ∃ e, parseTokens (pre ++ [Token.Lambda]) = .error e := by
  refine C09D.parseTokens_error_of_suffix _ (by simp) (fun c s => ?_) pre
  cases s with
  | cons p s => exact ⟨.InvalidExpression, by simp [astLoop, C09D.finish]⟩
  | nil =>
    obtain ⟨e, he⟩ := C09D.foldList_append_error c.reverse
      (show foldList [.Abstraction] = .error .EmptyExpression by simp [foldList, foldTerms])
    exact ⟨e, by simp [astLoop, C09D.finish, foldExprs, he]⟩

theorem not_DExpr_empty (pre post : List Token) (t : Term) :
    ¬ Gr.DExpr (pre ++ Token.Lparen :: Token.Rparen :: post) t ∧
    ¬ Gr.DExpr (pre ++ Token.Lambda :: Token.Rparen :: post) t ∧
    ¬ Gr.DExpr (pre ++ [Token.Lambda]) t :=
  ⟨fun h => (parseTokens_rejects_iff _).1 (parseTokens_empty_group pre post) ⟨t, h⟩,
   fun h => (parseTokens_rejects_iff _).1 (parseTokens_empty_body pre post) ⟨t, h⟩,
   fun h => (parseTokens_rejects_iff _).1 (parseTokens_empty_body_end pre) ⟨t, h⟩⟩


namespace C09D

theorem astLoop_bal (ts : List Token) :
    ∀ (cur : List Expression) (st : List (List Expression)),
      (∀ e, astLoop ts cur st = .error e →
        e = .InvalidExpression ∧ balAux st.length ts = false) ∧
      (∀ x, astLoop ts cur st = .ok x → balAux st.length ts = true) := by
  induction ts with
  | nil =>
    intro cur st
    cases st with
    | nil => simp [astLoop, balAux]
    | cons p st => simp [astLoop, balAux]
  | cons tk ts ih =>
    intro cur st
    cases tk with
    | Lambda => simpa [astLoop, balAux] using ih (.Abstraction :: cur) st
    | Number i => simpa [astLoop, balAux] using ih (.Variable i :: cur) st
    | Lparen => simpa [astLoop, balAux] using ih [] (cur :: st)
    | Rparen =>
      cases st with
      | nil => simp [astLoop, balAux]
      | cons p st => simpa [astLoop, balAux] using ih (.Sequence cur.reverse :: p) st

theorem foldTerms_error {l : List Term} {e : ParseError} (h : foldTerms l = .error e) :
    e = .EmptyExpression := by
  cases l with
  | nil => simpa [foldTerms, eq_comm] using h
  | cons t ts => simp [foldTerms] at h

/-- every error of `foldList` is handed up from a recursive call or originates in `foldTerms []` -/
theorem foldList_error (es : List Expression) :
    ∀ e, foldList es = .error e → e = .EmptyExpression := by
  -- handed up: by the induction hypothesis (`simp_all`); the remaining goals are the two `foldTerms` branches
  fun_induction foldList es <;> intro e h <;> simp_all
  all_goals exact foldTerms_error ‹_›

theorem foldExprs_error {es : List Expression} {e : ParseError} (h : foldExprs es = .error e) :
    e = .EmptyExpression := by
  unfold foldExprs at h
  cases h1 : foldList es with
  | error e' => rw [h1] at h; cases h; exact foldList_error es _ h1
  | ok l => rw [h1] at h; exact foldTerms_error h

/-- TOKEN LEVEL, which error: `InvalidExpression` iff the parentheses are unbalanced, otherwise
`EmptyExpression` (an empty input, group or abstraction body); never `InvalidCharacter` -/
theorem parseTokens_error_eq {ts : List Token} {e : ParseError} (h : parseTokens ts = .error e) :
    e = if balAux 0 ts = true then .EmptyExpression else .InvalidExpression := by
  cases ts with
  | nil =>
    simp only [parseTokens, getAst, List.isEmpty_nil, if_true] at h
    cases h; simp [balAux]
  | cons tk ts =>
    rw [parseTokens_eq_finish _ (by simp)] at h
    have hb := astLoop_bal (tk :: ts) [] []
    cases h1 : astLoop (tk :: ts) [] [] with
    | error e' =>
      rw [h1] at h; cases h
      obtain ⟨rfl, hb'⟩ := hb.1 _ h1
      simp only [List.length_nil] at hb'
      simp [hb']
    | ok x =>
      have hb' := hb.2 _ h1
      simp only [List.length_nil] at hb'
      obtain ⟨es, rfl, _⟩ := (astLoop_iff _ _).1 h1
      rw [h1] at h
      simp only [hb', if_true]
      exact foldExprs_error h

/-- TOKEN LEVEL, which error, exactly: `InvalidExpression` iff the parentheses are unbalanced,
`EmptyExpression` iff they are balanced but the token list is not a well-formed expression -/
theorem parseTokens_error_iff (ts : List Token) (e : ParseError) :
    parseTokens ts = .error e ↔
      (balAux 0 ts = false ∧ e = .InvalidExpression) ∨
      (balAux 0 ts = true ∧ (¬ ∃ t, Gr.DExpr ts t) ∧ e = .EmptyExpression) := by
  constructor
  · intro h
    have he := parseTokens_error_eq h
    cases hb : balAux 0 ts with
    | false => exact .inl ⟨rfl, by simpa [hb] using he⟩
    | true => exact .inr ⟨rfl, (parseTokens_rejects_iff ts).1 ⟨e, h⟩, by simpa [hb] using he⟩
  · intro h
    have hn : ¬ ∃ t, Gr.DExpr ts t := by
      rcases h with ⟨hb, _⟩ | ⟨_, hn, _⟩
      · rintro ⟨t, ht⟩
        rw [ht.balanced] at hb; cases hb
      · exact hn
    obtain ⟨e', he'⟩ := (parseTokens_rejects_iff ts).2 hn
    rw [he', parseTokens_error_eq he']
    rcases h with ⟨hb, rfl⟩ | ⟨hb, _, rfl⟩ <;> simp [hb]


/-- Equality of two results of the lexers or of the parser is decidable.  Not an instance: the ground examples, which the
kernel evaluates, switch it on where they stand (`attribute [local instance]`). -/
@[reducible] def decEqResult {α : Type} [DecidableEq α] : DecidableEq (Except ParseError α)
  | .ok a, .ok b => if h : a = b then isTrue (by rw [h]) else isFalse (by intro e; cases e; exact h rfl)
  | .error a, .error b => if h : a = b then isTrue (by rw [h]) else isFalse (by intro e; cases e; exact h rfl)
  | .ok _, .error _ => isFalse (by intro e; cases e)
  | .error _, .ok _ => isFalse (by intro e; cases e)

attribute [local instance] decEqResult

/-- The cursor model as the evaluator of the token stage on a concrete token list: its loops recurse on the fuel, so the
kernel runs it (`by decide +kernel`); `foldList` of the single-pass model is compiled by well-founded recursion. -/
theorem parseTokens_of_cur {ts : List Token} {r : Except ParseError Term} (h : Cursor.tokenStageCur ts = some r) :
    parseTokens ts = r := by
  rw [Cursor.tokenStageCur_eq] at h
  exact Option.some.inj h

theorem parse_dbr_of_cur {cls : CharCls} {s : List Nat} {r : Except ParseError Term}
    (h : (tokenizeDbr cls s).toOption.bind Cursor.tokenStageCur = some r) : parse cls s .DeBruijn = ofResult r := by
  rw [parse_dbr_eq]
  cases hl : tokenizeDbr cls s with
  | error e => rw [hl] at h; cases h
  | ok ts =>
    rw [hl] at h
    exact congrArg ofResult (parseTokens_of_cur h)

open Token in
example : parseTokens [Lambda, Lambda, Lambda, Number 3, Number 1, Lparen, Number 2, Number 1, Rparen]
    = .ok (abs (abs (abs (app (app (var 3) (var 1)) (app (var 2) (var 1)))))) := parseTokens_of_cur (by decide +kernel)

open Token in
example : Gr.DExpr [Lambda, Lambda, Lambda, Number 3, Number 1, Lparen, Number 2, Number 1, Rparen]
    (abs (abs (abs (app (app (var 3) (var 1)) (app (var 2) (var 1)))))) :=
  (parseTokens_iff _ _).1 (parseTokens_of_cur (by decide +kernel))

open Token Gr in
example : Gr.DExpr [Lambda, Lambda, Lambda, Number 3, Number 1, Lparen, Number 2, Number 1, Rparen]
    (abs (abs (abs (app (app (var 3) (var 1)) (app (var 2) (var 1)))))) :=
  .lam (.lam (.lam (.atoms
    (.snoc (ts := [Number 3, Number 1]) (.snoc (ts := [Number 3]) (.one (.idx 3)) (.idx 1))
      (.paren (ts := [Number 2, Number 1]) (.atoms (.snoc (ts := [Number 2]) (.one (.idx 2)) (.idx 1))))))))

open Token Gr in
example : Gr.DExpr [Number 1, Lambda, Number 2] (app (var 1) (abs (var 2))) :=
  .tailLam (ts := [Number 1]) (.one (.idx 1)) (.atoms (.one (.idx 2)))

open Token in
example : parseTokens [Lparen, Number 1] = .error .InvalidExpression := parseTokens_of_cur (by decide +kernel)
open Token in
example : parseTokens [Number 1, Rparen, Number 2] = .error .InvalidExpression := parseTokens_of_cur (by decide +kernel)
open Token in
example : ¬ ∃ t, Gr.DExpr [Number 1, Rparen, Number 2] t :=
  (parseTokens_rejects_iff _).1 ⟨.InvalidExpression, parseTokens_of_cur (by decide +kernel)⟩
open Token in
example : parseTokens [] = .error .EmptyExpression ∧ parseTokens [Lambda] = .error .EmptyExpression ∧
    parseTokens [Lparen, Rparen] = .error .EmptyExpression ∧
    parseTokens [Number 1, Lambda] = .error .EmptyExpression := by
  refine ⟨?_, ?_, ?_, ?_⟩ <;> exact parseTokens_of_cur (by decide +kernel)

def asciiCls : CharCls where
  isWs c := c == 32 || c == 9 || c == 10
  isAlpha c := (65 ≤ c && c ≤ 90) || (97 ≤ c && c ≤ 122)
  isAlnum c := (65 ≤ c && c ≤ 90) || (97 ≤ c && c ≤ 122) || (48 ≤ c && c ≤ 57)
  digit16 c :=
    if 48 ≤ c ∧ c ≤ 57 then some (c - 48) else if 97 ≤ c ∧ c ≤ 102 then some (c - 87)
    else if 65 ≤ c ∧ c ≤ 70 then some (c - 55) else none

-- `λλλ31(21)`
example : parse asciiCls [955, 955, 955, 51, 49, 40, 50, 49, 41] .DeBruijn
    = .ok (abs (abs (abs (app (app (var 3) (var 1)) (app (var 2) (var 1)))))) :=
  parse_dbr_of_cur (r := .ok _) (by decide +kernel)
-- ` \ \λ (3 1)((2) 1) `: white space, glyphs and redundant parentheses change nothing
example : parse asciiCls [32, 92, 32, 92, 955, 32, 40, 51, 32, 49, 41, 40, 40, 50, 41, 32, 49, 41, 32] .DeBruijn
    = .ok (abs (abs (abs (app (app (var 3) (var 1)) (app (var 2) (var 1)))))) :=
  parse_dbr_of_cur (r := .ok _) (by decide +kernel)
-- `1λ2`, `1 2 3`, `1(2 3)`
example : parse asciiCls [49, 955, 50] .DeBruijn = .ok (app (var 1) (abs (var 2))) :=
  parse_dbr_of_cur (r := .ok _) (by decide +kernel)
example : parse asciiCls [49, 32, 50, 32, 51] .DeBruijn = .ok (app (app (var 1) (var 2)) (var 3)) :=
  parse_dbr_of_cur (r := .ok _) (by decide +kernel)
example : parse asciiCls [49, 40, 50, 32, 51, 41] .DeBruijn = .ok (app (var 1) (app (var 2) (var 3))) :=
  parse_dbr_of_cur (r := .ok _) (by decide +kernel)
-- `λ1x2`: `x` (120) is not a token character; it is character number 2
example : parse asciiCls [955, 49, 120, 50] .DeBruijn = .err (.InvalidCharacter 2 120) := rfl
example : parse asciiCls [955, 49, 120, 50] .DeBruijn = .err (.InvalidCharacter 2 120) :=
  parse_dbr_invalid asciiCls [955, 49] [50] 120 (by decide) (by decide)

end C09D

end LC
