/-
What the De Bruijn parser reads from the Debug output of a `UD`-free term, whatever its indices.

* `readBack t`: the term that the Debug output of `t` denotes for the De Bruijn parser (one token per character):
  every index is read as the string of its digits, each digit an index of its own (`0` = `UD`), and the string is
  spliced into the enclosing application spine; its token printing is the digit-wise token printing `toksH t`
  (`toks_readBack`);
* `digitCount`: `readBack t` has one variable occurrence per digit (`numVars_readBack`), more than `t` as soon as an
  index is ≥ 16 (`digitCount_gt`);
* with all indices in 1..=15 every index is its own digit, `readBack t = t` (`readBack_small`), and the lexer returns
  the token printing of `t` itself (`C11.lex_debug`).
-/
import LC.Proofs.Syntax.DebugFormat

namespace LC
open Term Parser Display
open Spec (hasUD)

namespace C11S


def appVars (f : Term) (ds : List Nat) : Term := ds.foldl (fun acc d => app acc (var d)) f

/-- the term denoted by a non-empty string of digits: the left-nested application of the digits,
each read as an index (`0` = `UD`) -/
def digitsTerm : List Nat → Term
  | [] => var 0
  | d :: ds => appVars (var d) ds

/-- what the De Bruijn parser reads from the Debug output of `t`: an index is the string of its hexadecimal
digits, each digit an index of its own.  As the whole term, as the body of an abstraction or as an operator the
string is the left-nested application of its digits; as an OPERAND (the only unparenthesised operand is a
variable) it continues the application spine it stands in: `f 1A` is `(f 1) A`. -/
def readBack : Term → Term
  | var i => digitsTerm (hexDigits i)
  | abs b => abs (readBack b)
  | app l (var i) => appVars (readBack l) (hexDigits i)
  | app l (abs b) => app (readBack l) (abs (readBack b))
  | app l (app r₁ r₂) => app (readBack l) (readBack (app r₁ r₂))

theorem appVars_nil (f : Term) : appVars f [] = f := rfl

theorem appVars_cons (f : Term) (d : Nat) (ds : List Nat) :
    appVars f (d :: ds) = appVars (app f (var d)) ds := rfl

theorem appVars_single (f : Term) (d : Nat) : appVars f [d] = app f (var d) := rfl

theorem readBack_app_nonvar (l r : Term) (h : ∀ i, r ≠ var i) :
    readBack (app l r) = app (readBack l) (readBack r) := by
  cases r with
  | var i => exact absurd rfl (h i)
  | abs b => simp [readBack]
  | app r₁ r₂ => simp [readBack]


theorem toks_appVars (ds : List Nat) (hds : ds ≠ []) : ∀ (f : Term) (ctx : Nat),
    Spec.Cl.printD (appVars f ds) ctx = Spec.Cl.parenD (Spec.Cl.printD f 2 ++ ds.map Token.Number) (ctx == 3) := by
  induction ds with
  | nil => exact absurd rfl hds
  | cons d ds ih =>
    intro f ctx
    cases ds with
    | nil => simp [appVars_single, Spec.Cl.printD]
    | cons d' ds' =>
      rw [appVars_cons, ih (by simp)]
      simp [Spec.Cl.printD, Spec.Cl.parenD]

theorem toks_digitsTerm (ds : List Nat) (hds : ds ≠ []) (ctx : Nat) (hctx : (ctx == 3) = false) :
    Spec.Cl.printD (digitsTerm ds) ctx = ds.map Token.Number := by
  cases ds with
  | nil => exact absurd rfl hds
  | cons d ds =>
    cases ds with
    | nil => simp [digitsTerm, appVars_nil, Spec.Cl.printD]
    | cons d' ds' =>
      rw [digitsTerm, toks_appVars _ (by simp), hctx]
      simp [Spec.Cl.printD, Spec.Cl.parenD]

/-- the token printing of `readBack t` is the digit-wise token printing of `t`, except for a variable in operand
position (where the digits continue the enclosing spine) -/
theorem toks_readBack (t : Term) : ∀ ctx, ((ctx == 3) = false ∨ ∀ i, t ≠ var i) →
    Spec.Cl.printD (readBack t) ctx = toksH t ctx := by
  induction t with
  | var i =>
    intro ctx h
    rcases h with h | h
    · rw [readBack, toksH, toks_digitsTerm _ (hexDigits_ne_nil i) ctx h]
    · exact absurd rfl (h i)
  | abs b ih =>
    intro ctx _
    rw [readBack, Spec.Cl.printD, toksH, ih 0 (.inl rfl)]
  | app l r ihl ihr =>
    intro ctx _
    cases r with
    | var i =>
      rw [readBack, toks_appVars _ (hexDigits_ne_nil i), toksH, ihl 2 (.inl rfl)]
      rfl
    | abs b =>
      rw [readBack_app_nonvar _ _ (by intro i; simp), Spec.Cl.printD, toksH, ihl 2 (.inl rfl),
        ihr 3 (.inr (by intro i; simp))]
    | app r₁ r₂ =>
      rw [readBack_app_nonvar _ _ (by intro i; simp), Spec.Cl.printD, toksH, ihl 2 (.inl rfl),
        ihr 3 (.inr (by intro i; simp))]

theorem toks_readBack_top (t : Term) : Spec.Cl.printD (readBack t) 0 = toksH t 0 :=
  toks_readBack t 0 (.inl rfl)


def digitCount : Term → Nat
  | var i => (hexDigits i).length
  | abs b => digitCount b
  | app l r => digitCount l + digitCount r

theorem numVars_appVars (ds : List Nat) : ∀ f, C11.numVars (appVars f ds) = C11.numVars f + ds.length := by
  induction ds with
  | nil => intro f; simp [appVars_nil]
  | cons d ds ih => intro f; rw [appVars_cons, ih]; simp [C11.numVars]; omega

theorem numVars_digitsTerm (ds : List Nat) (h : ds ≠ []) : C11.numVars (digitsTerm ds) = ds.length := by
  cases ds with
  | nil => exact absurd rfl h
  | cons d ds => rw [digitsTerm, numVars_appVars]; simp [C11.numVars]; omega

theorem numVars_readBack (t : Term) : C11.numVars (readBack t) = digitCount t := by
  induction t with
  | var i => rw [readBack, numVars_digitsTerm _ (hexDigits_ne_nil i), digitCount]
  | abs b ih => rw [readBack, C11.numVars, ih, digitCount]
  | app l r ihl ihr =>
    cases r with
    | var i => rw [readBack, numVars_appVars, ihl, digitCount, digitCount]
    | abs b =>
      rw [readBack_app_nonvar _ _ (by intro i; simp), C11.numVars, ihl, ihr]; rfl
    | app r₁ r₂ =>
      rw [readBack_app_nonvar _ _ (by intro i; simp), C11.numVars, ihl, ihr]; rfl

theorem digitCount_ge (t : Term) : C11.numVars t ≤ digitCount t := by
  induction t with
  | var i => have := hexDigits_length_pos i; simpa [C11.numVars, digitCount] using this
  | abs b ih => simpa [C11.numVars, digitCount] using ih
  | app l r ihl ihr => simp only [C11.numVars, digitCount]; omega

theorem digitCount_gt (t : Term) (hu : hasUD t = false) (hs : smallIdx t = false) :
    C11.numVars t < digitCount t := by
  induction t with
  | var i =>
    simp only [hasUD, beq_eq_false_iff_ne, ne_eq] at hu
    have h16 : 16 ≤ i := by
      simp only [smallIdx, Bool.and_eq_false_iff, decide_eq_false_iff_not] at hs
      omega
    have := hexDigits_large i h16
    simp only [C11.numVars, digitCount]; omega
  | abs b ih =>
    simp only [hasUD] at hu
    simp only [smallIdx] at hs
    simpa [C11.numVars, digitCount] using ih hu hs
  | app l r ihl ihr =>
    simp only [hasUD, Bool.or_eq_false_iff] at hu
    simp only [smallIdx, Bool.and_eq_false_iff] at hs
    have h1 := digitCount_ge l
    have h2 := digitCount_ge r
    simp only [C11.numVars, digitCount]
    rcases hs with hs | hs
    · have := ihl hu.1 hs; omega
    · have := ihr hu.2 hs; omega

theorem smallIdx_noUD (t : Term) (h : smallIdx t = true) : hasUD t = false := by
  induction t with
  | var i =>
    simp only [smallIdx, Bool.and_eq_true, decide_eq_true_eq] at h
    simp only [hasUD, beq_eq_false_iff_ne, ne_eq]
    omega
  | abs b ih => exact ih h
  | app l r ihl ihr =>
    simp only [smallIdx, Bool.and_eq_true] at h
    simp only [hasUD, ihl h.1, ihr h.2, Bool.or_self]

/-- with indices in 1..=15 every index is its own single digit: nothing is read differently -/
theorem readBack_small (t : Term) (h : smallIdx t = true) : readBack t = t := by
  induction t with
  | var i =>
    simp only [smallIdx, Bool.and_eq_true, decide_eq_true_eq] at h
    rw [readBack, hexDigits_small i (by omega)]; rfl
  | abs b ih =>
    simp only [smallIdx] at h
    rw [readBack, ih h]
  | app l r ihl ihr =>
    simp only [smallIdx, Bool.and_eq_true] at h
    cases r with
    | var i =>
      have hi := h.2
      simp only [smallIdx, Bool.and_eq_true, decide_eq_true_eq] at hi
      rw [readBack, hexDigits_small i (by omega), ihl h.1]; rfl
    | abs b => rw [readBack_app_nonvar _ _ (by intro i; simp), ihl h.1, ihr h.2]
    | app r₁ r₂ => rw [readBack_app_nonvar _ _ (by intro i; simp), ihl h.1, ihr h.2]

theorem map_error {ε α β : Type} (f : α → β) (e : ε) :
    f <$> (Except.error e : Except ε α) = Except.error e := rfl

end C11S

/-- the De Bruijn lexer on the Debug output of a term with indices in 1..=15: its token printing (the case
`readBack t = t` of `C11S.lex_debugH`) -/
theorem C11.lex_debug (cls : CharCls) (hx : C11.HexOk cls) (lam : Nat) (hl : lam = 955 ∨ lam = 92)
    (t : Term) (h : smallIdx t = true) :
    tokenizeDbr cls (debug lam t) = .ok (Spec.Cl.printD t 0) := by
  rw [C11S.lex_debugH cls hx lam hl t (C11S.smallIdx_noUD t h), ← C11S.toks_readBack_top,
    C11S.readBack_small t h]

end LC
