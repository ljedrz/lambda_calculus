/-
Renaming UNREFERENCED binders does not change name resolution.

`renameB f` renames the binders of a named term (the variable occurrences are left alone), `renameTok f` the binder
tokens of a token list.  If every binder name `n` is either kept (`f n = n`) or is not the name of any variable
occurrence and is sent to a name that is not the name of any variable occurrence either (`V` = the variable names),
then the specification's scoped resolution (`Cl.resolve`, `Cl.resolveAll` on tokens; `Cl.toDB`, `Cl.toDeBruijn` on
named terms — `LC/Spec/ClassicSpec.lean`) returns the same De Bruijn tokens / term: in every scope the lookup
`idxOf?` of a variable name finds the same position, i.e. no variable occurrence ever resolved to a renamed binder.
-/
import LC.Spec.ClassicAllSpec

namespace LC.Spec.Cl
open LC LC.Parser LC.Parser.CToken LC.Parser.Token NTerm Term

def renameB (f : Name → Name) : NTerm → NTerm
  | nvar n => nvar n
  | nlam n b => nlam (f n) (renameB f b)
  | napp a b => napp (renameB f a) (renameB f b)

def varNames : NTerm → List Name
  | nvar n => [n]
  | nlam _ b => varNames b
  | napp a b => varNames a ++ varNames b

def binderNames : NTerm → List Name
  | nvar _ => []
  | nlam n b => n :: binderNames b
  | napp a b => binderNames a ++ binderNames b

def renameTok (f : Name → Name) : CToken → CToken
  | CLambda n => CLambda (f n)
  | t => t

def RenamesOutside (f : Name → Name) (V : Name → Prop) : Prop := ∀ n, f n = n ∨ (¬ V n ∧ ¬ V (f n))

/-- the lookup the specification uses finds, when it finds something, a binder with exactly the name looked up:
the binder a variable occurrence resolves to is named like the variable -/
theorem idxOf?_some_getElem? {bs : List Name} {x : Name} {p : Nat} (h : bs.idxOf? x = some p) :
    bs[p]? = some x := by
  obtain ⟨hp, hx, _⟩ := List.idxOf?_eq_some_iff.1 h
  rw [List.getElem?_eq_getElem hp, hx]

theorem idxOf?_map_rename {f : Name → Name} {V : Name → Prop} (hf : RenamesOutside f V) {x : Name}
    (hx : V x) (bs : List Name) : (bs.map f).idxOf? x = bs.idxOf? x := by
  induction bs with
  | nil => rfl
  | cons b bs ih =>
    rw [List.map_cons, List.idxOf?_cons, List.idxOf?_cons, ih]
    rcases hf b with e | ⟨h1, h2⟩
    · rw [e]
    · have n1 : (b == x) = false := by
        simp only [beq_eq_false_iff_ne, ne_eq]; rintro rfl; exact h1 hx
      have n2 : (f b == x) = false := by
        simp only [beq_eq_false_iff_ne, ne_eq]; intro e; rw [e] at h2; exact h2 hx
      simp [n1, n2]

/-- named terms: the translation is unchanged (in every scope, with every list of free names) -/
theorem toDB_renameB {f : Name → Name} {V : Name → Prop} (hf : RenamesOutside f V) :
    ∀ (t : NTerm), (∀ x ∈ varNames t, V x) → ∀ (bs free : List Name),
      toDB (bs.map f) free (renameB f t) = toDB bs free t := by
  intro t
  induction t with
  | nvar n =>
    intro hV bs free
    have hn : V n := hV n (by simp [varNames])
    simp only [renameB, toDB, idxOf?_map_rename hf hn, List.length_map]
  | nlam n b ih =>
    intro hV bs free
    have := ih (fun x hx => hV x (by simpa [varNames] using hx)) (n :: bs) free
    rw [List.map_cons] at this
    simp only [renameB, toDB, this]
  | napp a b iha ihb =>
    intro hV bs free
    have ha := iha (fun x hx => hV x (by simp [varNames, hx])) bs free
    simp only [renameB, toDB, ha]
    have hb := ihb (fun x hx => hV x (by simp [varNames, hx])) bs (toDB bs free a).2
    rw [hb]

theorem toDeBruijn_renameB {f : Name → Name} {V : Name → Prop} (hf : RenamesOutside f V) (t : NTerm)
    (hV : ∀ x ∈ varNames t, V x) : toDeBruijn (renameB f t) = toDeBruijn t := by
  have := toDB_renameB hf t hV [] []
  simp only [List.map_nil] at this
  simp only [toDeBruijn, this]

/-- tokens: the scoped resolution is unchanged (in every state: the scopes are renamed along) -/
theorem resolve_rename {f : Name → Name} {V : Name → Prop} (hf : RenamesOutside f V) :
    ∀ (cts : List CToken), (∀ x, CName x ∈ cts → V x) → ∀ (scs : List (List Name)) (free : List Name),
      resolve (cts.map (renameTok f)) (scs.map (·.map f)) free = resolve cts scs free := by
  intro cts
  induction cts with
  | nil => intro _ scs free; simp [resolve]
  | cons c cts ih =>
    intro hV scs free
    have hV' : ∀ x, CName x ∈ cts → V x := fun x hx => hV x (List.mem_cons_of_mem _ hx)
    cases scs with
    | nil => simp [resolve]
    | cons sc scs =>
      cases c with
      | CLambda n =>
        have := ih hV' ((n :: sc) :: scs) free
        simp only [List.map_cons] at this
        simp only [List.map_cons, renameTok, resolve, this]
      | CLparen =>
        have := ih hV' ([] :: sc :: scs) free
        simp only [List.map_cons, List.map_nil] at this
        simp only [List.map_cons, renameTok, resolve, this]
      | CRparen =>
        cases scs with
        | nil => simp [renameTok, resolve]
        | cons sc2 scs =>
          have := ih hV' (sc2 :: scs) free
          simp only [List.map_cons] at this
          simp only [List.map_cons, renameTok, resolve, this]
      | CName n =>
        have hn : V n := hV n (by simp)
        have hfl : ((sc :: scs).map (·.map f)).flatten = ((sc :: scs).flatten).map f := by
          rw [List.map_flatten]
        have hidx := idxOf?_map_rename hf hn (sc :: scs).flatten
        have h1 := ih hV' (sc :: scs) free
        have h2 := ih hV' (sc :: scs) (free ++ [n])
        simp only [List.map_cons] at h1 h2 hfl
        simp only [List.map_cons, renameTok, resolve, hfl, hidx, List.length_map, h1, h2]

theorem resolveAll_rename {f : Name → Name} {V : Name → Prop} (hf : RenamesOutside f V) (cts : List CToken)
    (hV : ∀ x, CName x ∈ cts → V x) : resolveAll (cts.map (renameTok f)) = resolveAll cts := by
  have := resolve_rename hf cts hV [[]] []
  simpa [resolveAll] using this

theorem printsN_rename (f : Name → Name) {t : NTerm} {arg fin : Bool} {cts : List CToken}
    (h : PrintsN t arg fin cts) : PrintsN (renameB f t) arg fin (cts.map (renameTok f)) := by
  induction h with
  | var => exact .var
  | lam _ ih => exact .lam ih
  | app _ _ ih1 ih2 => rw [List.map_append]; exact .app ih1 ih2
  | paren _ ih =>
    rw [List.map_cons, List.map_append]
    exact .paren ih

theorem printsN_varNames {t : NTerm} {arg fin : Bool} {cts : List CToken} (h : PrintsN t arg fin cts) :
    ∀ x, x ∈ varNames t ↔ CName x ∈ cts := by
  induction h with
  | var => intro x; simp [varNames, eq_comm]
  | lam _ ih => intro x; simp [varNames, ih]
  | app _ _ ih1 ih2 => intro x; simp [varNames, ih1, ih2]
  | paren _ ih => intro x; simp [ih]

theorem printsN_binderNames {t : NTerm} {arg fin : Bool} {cts : List CToken} (h : PrintsN t arg fin cts) :
    ∀ x, x ∈ binderNames t ↔ CLambda x ∈ cts := by
  induction h with
  | var => intro x; simp [binderNames]
  | lam _ ih => intro x; simp [binderNames, ih, eq_comm]
  | app _ _ ih1 ih2 => intro x; simp [binderNames, ih1, ih2]
  | paren _ ih => intro x; simp [ih]

end LC.Spec.Cl
