/-
C09, Classic half: the SHAPE of named tokens (`Cl.cshape`: names forgotten).  The parenthesis balance of the
resolved tokens is that of the shape (`balAux_resolve`); a shape is a well-formed expression of the grammar exactly
when the named tokens are an admissible printing of a named term (`prints_of_DExpr`, `printsD_of_printsN`).
-/
import LC.Proofs.Syntax.Classic

namespace LC
open Term Parser Spec

namespace C09

theorem balAux_shape (ts : List Token) :
    ∀ d, C09D.balAux d (ts.map Cl.shape) = C09D.balAux d ts := by
  induction ts with
  | nil => intro d; rfl
  | cons tk ts ih =>
    intro d
    cases tk with
    | Lambda => simp [Cl.shape, C09D.balAux, ih]
    | Lparen => simp [Cl.shape, C09D.balAux, ih]
    | Rparen => cases d <;> simp [Cl.shape, C09D.balAux, ih]
    | Number n => simp [Cl.shape, C09D.balAux, ih]

/-- the part of the named tokens that the conversion looks at (everything up to and including the
first unmatched `)`, if there is one) is balanced iff all of them are -/
theorem balAux_scopedPrefix (cts : List CToken) :
    ∀ d, C09D.balAux d ((cts.take (Cl.scopedPrefix cts d)).map Cl.cshape)
      = C09D.balAux d (cts.map Cl.cshape) := by
  induction cts with
  | nil => intro d; rfl
  | cons c cts ih =>
    intro d
    cases c with
    | CLambda n => simpa [Cl.scopedPrefix, Cl.cshape, C09D.balAux] using ih d
    | CLparen => simpa [Cl.scopedPrefix, Cl.cshape, C09D.balAux] using ih (d + 1)
    | CRparen =>
      cases d with
      | zero => simp [Cl.scopedPrefix, Cl.cshape, C09D.balAux]
      | succ d => simpa [Cl.scopedPrefix, Cl.cshape, C09D.balAux] using ih d
    | CName n => simpa [Cl.scopedPrefix, Cl.cshape, C09D.balAux] using ih d

/-- the parenthesis balance of the resolved tokens is that of the named tokens (also when the
conversion stops at an unmatched `)`: both are then unbalanced) -/
theorem balAux_resolve {cts : List CToken} {ts : List Token} (h : Cl.resolveAll cts = some ts) :
    C09D.balAux 0 ts = C09D.balAux 0 (cts.map Cl.cshape) := by
  obtain ⟨toks, h1, h2⟩ := convert_structure cts
  rw [convert_eq_resolve, h] at h1
  cases h1
  rw [← balAux_shape, h2, balAux_scopedPrefix]

theorem closesOk_of_balAux (cts : List CToken) :
    ∀ d, C09D.balAux d (cts.map Cl.cshape) = true → Cl.closesOk cts d = true := by
  induction cts with
  | nil => intro d _; rfl
  | cons c cts ih =>
    intro d h
    cases c with
    | CLambda n => simp only [Cl.closesOk]; exact ih d (by simpa [Cl.cshape, C09D.balAux] using h)
    | CLparen => simp only [Cl.closesOk]; exact ih (d + 1) (by simpa [Cl.cshape, C09D.balAux] using h)
    | CRparen =>
      cases d with
      | zero => simp [Cl.cshape, C09D.balAux] at h
      | succ d => simp only [Cl.closesOk]; exact ih d (by simpa [Cl.cshape, C09D.balAux] using h)
    | CName n => simp only [Cl.closesOk]; exact ih d (by simpa [Cl.cshape, C09D.balAux] using h)

/-- an unmatched `)` in the named tokens: the resolved token list is unbalanced, so it is not
derivable in the grammar -/
theorem unmatched_not_DExpr (cts : List CToken) (ts : List Token)
    (h : Cl.resolveAll cts = some ts) (hc : Cl.closesOk cts 0 = false) (t : Term) :
    ¬ Gr.DExpr ts t := by
  intro hd
  have hb := hd.balanced
  rw [balAux_resolve h] at hb
  rw [closesOk_of_balAux cts 0 hb] at hc
  cases hc

theorem map_shape_cshape (l : List CToken) : (l.map Cl.cshape).map Cl.shape = l.map Cl.cshape := by
  rw [List.map_map]
  apply List.map_congr_left
  intro x _
  cases x <;> rfl

theorem cshape_lambda {c : CToken} (h : Cl.cshape c = Token.Lambda) : ∃ n, c = CToken.CLambda n := by
  cases c <;> simp_all [Cl.cshape]

theorem cshape_lparen {c : CToken} (h : Cl.cshape c = Token.Lparen) : c = CToken.CLparen := by
  cases c <;> simp_all [Cl.cshape]

theorem cshape_rparen {c : CToken} (h : Cl.cshape c = Token.Rparen) : c = CToken.CRparen := by
  cases c <;> simp_all [Cl.cshape]

theorem cshape_number {c : CToken} {n : Nat} (h : Cl.cshape c = Token.Number n) :
    ∃ nm, c = CToken.CName nm := by
  cases c <;> simp_all [Cl.cshape]

/-- named tokens whose shape is that of a well-formed expression are an admissible printing of some
named term (an expression prints a term at a non-argument, final position; a sequence of atoms at any
non-argument position; an atom anywhere) -/
theorem prints_of_DExpr {ts : List Token} {u : Term} (h : Gr.DExpr ts u) :
    ∀ cts : List CToken, cts.map Cl.cshape = ts.map Cl.shape → ∃ t, Cl.PrintsN t false true cts := by
  refine Gr.DExpr.rec
    (motive_1 := fun ts _ _ => ∀ cts : List CToken, cts.map Cl.cshape = ts.map Cl.shape →
      ∃ t, Cl.PrintsN t false true cts)
    (motive_2 := fun ts _ _ => ∀ cts : List CToken, cts.map Cl.cshape = ts.map Cl.shape →
      ∀ fin, ∃ t, Cl.PrintsN t false fin cts)
    (motive_3 := fun ts _ _ => ∀ cts : List CToken, cts.map Cl.cshape = ts.map Cl.shape →
      ∀ arg fin, ∃ t, Cl.PrintsN t arg fin cts)
    ?lam ?atoms ?tailLam ?one ?snoc ?idx ?paren h
  case lam =>
    intro ts b _ ih cts h'
    rw [List.map_cons, List.map_eq_cons_iff] at h'
    obtain ⟨c, r, rfl, hc, hr⟩ := h'
    obtain ⟨n, rfl⟩ := cshape_lambda hc
    obtain ⟨b', hb'⟩ := ih r hr
    exact ⟨.nlam n b', .lam hb'⟩
  case atoms =>
    intro ts t _ ih cts h'
    exact ih cts h' true
  case tailLam =>
    intro ts us f b _ _ ih1 ih2 cts h'
    rw [List.map_append, List.map_cons, List.map_eq_append_iff] at h'
    obtain ⟨l1, l2, rfl, h1, h2⟩ := h'
    rw [List.map_eq_cons_iff] at h2
    obtain ⟨c, r, rfl, hc, hr⟩ := h2
    obtain ⟨n, rfl⟩ := cshape_lambda hc
    obtain ⟨f', hf'⟩ := ih1 l1 h1 false
    obtain ⟨b', hb'⟩ := ih2 r hr
    exact ⟨.napp f' (.nlam n b'), .app hf' (.lam hb')⟩
  case one =>
    intro ts t _ ih cts h' fin
    exact ih cts h' false fin
  case snoc =>
    intro ts us f a _ _ ih1 ih2 cts h' fin
    rw [List.map_append, List.map_eq_append_iff] at h'
    obtain ⟨l1, l2, rfl, h1, h2⟩ := h'
    obtain ⟨f', hf'⟩ := ih1 l1 h1 false
    obtain ⟨a', ha'⟩ := ih2 l2 h2 true fin
    exact ⟨.napp f' a', .app hf' ha'⟩
  case idx =>
    intro n cts h' arg fin
    rw [List.map_cons, List.map_nil, List.map_eq_cons_iff] at h'
    obtain ⟨c, r, rfl, hc, hr⟩ := h'
    obtain ⟨nm, rfl⟩ := cshape_number hc
    rw [List.map_eq_nil_iff] at hr
    subst hr
    exact ⟨.nvar nm, .var⟩
  case paren =>
    intro ts t _ ih cts h' arg fin
    rw [List.cons_append, List.map_cons, List.map_append, List.map_eq_cons_iff] at h'
    obtain ⟨c, r, rfl, hc, hr⟩ := h'
    rw [List.map_eq_append_iff] at hr
    obtain ⟨l1, l2, rfl, h1, h2⟩ := hr
    rw [List.map_cons, List.map_nil, List.map_eq_cons_iff] at h2
    obtain ⟨c', r', rfl, hc', hr'⟩ := h2
    rw [List.map_eq_nil_iff] at hr'
    subst hr'
    obtain ⟨t', ht'⟩ := ih l1 h1
    rw [cshape_lparen hc, cshape_rparen hc']
    exact ⟨t', .paren ht'⟩

/-- conversely the shape of an admissible printing of a named term is an admissible printing of a
De Bruijn term (hence, by `C09C.dexpr_of_printsD`, a well-formed expression) -/
theorem printsD_of_printsN {nt : Cl.NTerm} {arg fin : Bool} {cts : List CToken}
    (h : Cl.PrintsN nt arg fin cts) : ∃ u, Cl.PrintsD u arg fin (cts.map Cl.cshape) := by
  induction h with
  | var => exact ⟨var 0, .var⟩
  | lam _ ih =>
    obtain ⟨u, hu⟩ := ih
    exact ⟨abs u, .lam hu⟩
  | app _ _ ihf iha =>
    obtain ⟨u₁, h₁⟩ := ihf
    obtain ⟨u₂, h₂⟩ := iha
    rw [List.map_append]
    exact ⟨app u₁ u₂, .app h₁ h₂⟩
  | paren _ ih =>
    obtain ⟨u, hu⟩ := ih
    rw [List.map_cons, List.map_append]
    exact ⟨u, .paren hu⟩

end C09

end LC
