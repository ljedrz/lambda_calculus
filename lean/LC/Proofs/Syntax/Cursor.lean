/-
C09, "no string whatsoever makes parse panic": a SECOND, cursor-faithful executable model of the recursive functions
of `src/parser.rs` and its refinement to the single-pass model `LC/Model/Parser.lean`.

That model turns `_convert_classic_tokens` and `_get_ast` (loops over `tokens.get(*pos)` that
call themselves at `(` and return at `)`) into single passes with an explicit stack.  Here the Rust
recursion is kept: a loop function over `(tokens, pos)` that calls itself for the recursive call and
RETURNS THE NEW `pos` with its result.  EVERY partial operation of the Rust text is a checked
operation returning `none` (= panic):

* `tokens.len() - *pos`            (`Vec::with_capacity(..)`, first statement of every call) — `subChk`
* `stack.len() - inner_stack_count`                                                          — `subChk`
* `&exprs[i + 1..]`                (`fold_exprs`)                                            — `sliceFrom`
* `terms.remove(0)`                (`fold_terms`)                                            — `removeAt`

(`tokens.get(*pos)`, `VecDeque::truncate`, `Iterator::position`, `?` are total.)  The recursion is on
a fuel argument; running out of fuel is ALSO `none`, so "never `none`" below means: no panic and the
recursion ends within the stated fuel (`tokens.length + 1 - pos` loop iterations on every path).

`usize` additions (`*pos += 1`, `inner_stack_count += 1`, `index + 1`) are over `Nat`; the bounds
proved here (`pos' ≤ 2 * tokens.length`, `inner ≤ stack.len()`) are what keeps them below
`usize::MAX` (a slice has at most `isize::MAX / size_of::<T>()` elements).
-/
import LC.Model.Parser

namespace LC
namespace Cursor
open Parser Term


/-- `a - b` on `usize`: panics (debug) / wraps (release) when `b > a` -/
def subChk (a b : Nat) : Option Nat := if b ≤ a then some (a - b) else none

theorem subChk_of_le {a b : Nat} (h : b ≤ a) : subChk a b = some (a - b) := if_pos h

/-- `&v[k..]`: panics when `k > v.len()` -/
def sliceFrom {α : Type} (v : List α) (k : Nat) : Option (List α) :=
  if k ≤ v.length then some (v.drop k) else none

/-- `v.remove(k)`: panics when `k >= v.len()`; returns the element and the shortened vector -/
def removeAt {α : Type} (v : List α) (k : Nat) : Option (α × List α) :=
  match v[k]? with
  | some x => some (x, v.eraseIdx k)
  | none => none

/-! ## `_convert_classic_tokens`

The `VecDeque<&str>` is a list in FRONT-TO-BACK order: `push_back n` = `stack ++ [n]`,
`push_front n` = `n :: stack`, `truncate k` = `stack.take k`, `iter().rev().position(..)` =
`indexOf? · stack.reverse`.  (The single-pass model keeps the deque reversed.) -/

/-- the `while let Some(token) = tokens.get(*pos)` loop of `_convert_classic_tokens`, with the
local variables `output`, `inner_stack_count` and the `&mut` arguments `stack`, `pos` as state.
Result: the returned `output` and the final values of `*stack` and `*pos`. -/
def convLoopC (tokens : List CToken) :
    Nat → List (List Nat) → Nat → List Token → Nat → Option (List Token × List (List Nat) × Nat)
  | 0, _, _, _, _ => none
  | fuel + 1, stack, pos, output, inner =>
    match tokens[pos]? with
    | none => some (output, stack, pos)                       -- loop ends; `output`
    | some (.CLambda name) =>
      -- output.push(Lambda); stack.push_back(name); inner_stack_count += 1;   *pos += 1
      convLoopC tokens fuel (stack ++ [name]) (pos + 1) (output ++ [.Lambda]) (inner + 1)
    | some .CLparen =>
      -- output.push(Lparen); *pos += 1; output.append(&mut _convert_classic_tokens(tokens, stack, pos));
      -- the callee starts with `Vec::with_capacity(tokens.len() - *pos)`, `inner_stack_count = 0`
      match subChk tokens.length (pos + 1) with
      | none => none
      | some _capacity =>
        match convLoopC tokens fuel stack (pos + 1) [] 0 with
        | none => none
        | some (out', stack', pos') =>
          --                                                                   *pos += 1
          convLoopC tokens fuel stack' (pos' + 1) (output ++ [.Lparen] ++ out') inner
    | some .CRparen =>
      -- output.push(Rparen); stack.truncate(stack.len() - inner_stack_count); return output;
      match subChk stack.length inner with
      | none => none
      | some k => some (output ++ [.Rparen], stack.take k, pos)
    | some (.CName name) =>
      match indexOf? name stack.reverse with
      | some index =>
        -- output.push(Number(index + 1));                                     *pos += 1
        convLoopC tokens fuel stack (pos + 1) (output ++ [.Number (index + 1)]) inner
      | none =>
        -- stack.push_front(name); output.push(Number(stack.len()));           *pos += 1
        convLoopC tokens fuel (name :: stack) (pos + 1)
          (output ++ [.Number ((name :: stack).length)]) inner

/-- `_convert_classic_tokens(tokens, stack, pos)`: `Vec::with_capacity(tokens.len() - *pos)`,
`inner_stack_count = 0`, then the loop -/
def convCall (tokens : List CToken) (fuel : Nat) (stack : List (List Nat)) (pos : Nat) :
    Option (List Token × List (List Nat) × Nat) :=
  match subChk tokens.length pos with
  | none => none
  | some _capacity => convLoopC tokens fuel stack pos [] 0

/-- `convert_classic_tokens(tokens)` = `_convert_classic_tokens(tokens, &mut VecDeque::new(), &mut 0)`; every path makes
at most `tokens.length + 1` loop iterations (`convCall_spec`) -/
def convertCur (tokens : List CToken) : Option (List Token) :=
  (convCall tokens (tokens.length + 1) [] 0).map (·.1)

theorem convLoopC_lparen (tokens : List CToken) (fuel : Nat) (stack : List (List Nat)) (pos : Nat)
    (output : List Token) (inner : Nat) (h : tokens[pos]? = some .CLparen) :
    convLoopC tokens (fuel + 1) stack pos output inner =
      match convCall tokens fuel stack (pos + 1) with
      | none => none
      | some (out', stack', pos') =>
        convLoopC tokens fuel stack' (pos' + 1) (output ++ [.Lparen] ++ out') inner := by
  rw [convLoopC]
  simp only [h, convCall]
  cases subChk tokens.length (pos + 1) <;> rfl

/-- what the single-pass model still has to do after the cursor call returned at `pos'` with
deque `stack'`, when the suspended callers have the counters `cs` -/
def convRest (tokens : List CToken) (stack' : List (List Nat)) (pos' : Nat) :
    List Nat → Option (List Token)
  | [] => some []
  | c :: cs => convLoop (tokens.drop (pos' + 1)) stack'.reverse (c :: cs)

theorem convRest_cons (tokens : List CToken) (stack' : List (List Nat)) (pos' c : Nat) (cs : List Nat) :
    convRest tokens stack' pos' (c :: cs) =
      convLoop (tokens.drop (pos' + 1)) stack'.reverse (c :: cs) := rfl

theorem drop_of_getElem? {α : Type} {l : List α} {i : Nat} {a : α} (h : l[i]? = some a) :
    i < l.length ∧ l.drop i = a :: l.drop (i + 1) := by
  obtain ⟨hlt, ha⟩ := List.getElem?_eq_some_iff.mp h
  exact ⟨hlt, by rw [List.drop_eq_getElem_cons hlt, ha]⟩

theorem fuel_det {α : Type} {f : Nat → Option α} (h : ∀ n r, f n = some r → f (n + 1) = some r)
    {n m : Nat} {r₁ r₂ : α} (h₁ : f n = some r₁) (h₂ : f m = some r₂) : r₁ = r₂ := by
  have mono : ∀ {n k : Nat} {r : α}, n ≤ k → f n = some r → f k = some r := by
    intro n k r hle hr
    induction hle with
    | refl => exact hr
    | step _ ih => exact h _ _ ih
  have a := mono (Nat.le_max_left n m) h₁
  rw [mono (Nat.le_max_right n m) h₂] at a
  exact (Option.some.inj a).symm

/-- what holds when a run of the loop of `_convert_classic_tokens`, started in the state `(stack, pos, _, inner)`, has
appended `Δ` to its `output` and returned with the deque `stack'` and the cursor at `pos'` -/
structure ConvPost (tokens : List CToken) (stack : List (List Nat)) (pos inner : Nat) (Δ : List Token)
    (stack' : List (List Nat)) (pos' : Nat) : Prop where
  le : pos ≤ pos'
  bound : pos ≤ tokens.length → pos' + pos ≤ 2 * tokens.length
  beyond : tokens.length < pos → pos' = pos
  at_rparen : pos' < tokens.length → tokens[pos']? = some .CRparen
  deque : stack.length ≤ stack'.length + inner
  /-- the single-pass `convLoop` produces `Δ` and goes on as `convRest` says -/
  refines : ∀ cs, convLoop (tokens.drop pos) stack.reverse (inner :: cs) =
    (fun r => Δ ++ r) <$> convRest tokens stack' pos' cs

def ConvRet (tokens : List CToken) (stack : List (List Nat)) (pos : Nat) (output : List Token) (inner : Nat)
    (r : Option (List Token × List (List Nat) × Nat)) : Prop :=
  ∃ Δ stack' pos', r = some (output ++ Δ, stack', pos') ∧ ConvPost tokens stack pos inner Δ stack' pos'

/-- The cursor loop never panics, never runs out of the stated fuel, keeps the cursor within the
stated bounds, and computes what the single-pass `convLoop` computes (`ConvRet`, `ConvPost`).  The bound is
`pos' ≤ 2 * tokens.length - pos`, NOT `≤ tokens.length`: after a callee ran into the end of the input, every
suspended caller still executes its `*pos += 1`. -/
theorem convLoopC_spec (tokens : List CToken) :
    ∀ (fuel : Nat) (stack : List (List Nat)) (pos : Nat) (output : List Token) (inner : Nat),
      1 ≤ fuel → tokens.length + 1 ≤ fuel + pos → inner ≤ stack.length →
      ConvRet tokens stack pos output inner (convLoopC tokens fuel stack pos output inner) := by
  intro fuel
  induction fuel with
  | zero => intro _ _ _ _ h; omega
  | succ fuel ih =>
    intro stack pos output inner _ hfuel hinner
    rw [convLoopC]
    cases htok : tokens[pos]? with
    | none =>
      have hle : tokens.length ≤ pos := List.getElem?_eq_none_iff.mp htok
      refine ⟨[], stack, pos, by simp, Nat.le_refl _, by omega, fun _ => rfl, by omega, by omega, ?_⟩
      intro cs
      rw [List.drop_eq_nil_of_le hle]
      cases cs with
      | nil => simp [convLoop, convRest]
      | cons c cs =>
        simp [convLoop, convRest, List.drop_eq_nil_of_le (show tokens.length ≤ pos + 1 by omega)]
    | some tok =>
      obtain ⟨hlt, hdrop⟩ := drop_of_getElem? htok
      have hf1 : 1 ≤ fuel := by omega
      -- a token that is converted to `tk` by one loop iteration without call or return
      have step : ∀ (tk : Token) (stack₁ : List (List Nat)) (inner₁ : Nat),
          inner₁ ≤ stack₁.length → stack.length + inner₁ ≤ stack₁.length + inner →
          (∀ cs, convLoop (tokens.drop pos) stack.reverse (inner :: cs) =
            (tk :: ·) <$> convLoop (tokens.drop (pos + 1)) stack₁.reverse (inner₁ :: cs)) →
          ConvRet tokens stack pos output inner
            (convLoopC tokens fuel stack₁ (pos + 1) (output ++ [tk]) inner₁) := by
        intro tk stack₁ inner₁ hin hlen hconv
        obtain ⟨Δ, s', p', he, h⟩ := ih stack₁ (pos + 1) (output ++ [tk]) inner₁ hf1 (by omega) hin
        have := h.le
        have := h.deque
        refine ⟨tk :: Δ, s', p', by simp [he], by omega, fun _ => ?_, by omega, h.at_rparen, by omega,
          fun cs => ?_⟩
        · have := h.bound (by omega); omega
        · rw [hconv, h.refines]
          generalize convRest tokens s' p' cs = x
          cases x <;> rfl
      cases tok with
      | CLambda name =>
        refine step .Lambda (stack ++ [name]) (inner + 1) (by simp; omega) (by simp; omega) fun cs => ?_
        rw [hdrop]
        simp [convLoop]
      | CLparen =>
        have hsub := subChk_of_le (show pos + 1 ≤ tokens.length by omega)
        -- the callee `1`, then the rest of this activation `2`
        obtain ⟨Δ1, s1, p1, he1, h1⟩ := ih stack (pos + 1) [] 0 hf1 (by omega) (Nat.zero_le _)
        have := h1.le
        have := h1.deque
        obtain ⟨Δ2, s2, p2, he2, h2⟩ :=
          ih s1 (p1 + 1) (output ++ [.Lparen] ++ Δ1) inner hf1 (by omega) (by omega)
        have := h2.le
        have := h2.deque
        simp only [List.nil_append] at he1
        refine ⟨.Lparen :: (Δ1 ++ Δ2), s2, p2, ?_, by omega, ?_, by omega, h2.at_rparen, by omega, ?_⟩
        · simp only [hsub, he1, he2]; simp
        · intro _
          have a := h1.bound (by omega)
          -- a callee that returned at a `)` leaves the cursor within the tokens and the rest is bounded as usual; one that
          -- ran into the end returns beyond it (after `*pos += 1`), and from there nothing moves: the overshoot
          by_cases hp : p1 + 1 ≤ tokens.length
          · have := h2.bound hp; omega
          · have := h2.beyond (by omega); omega
        · intro cs
          rw [hdrop]
          simp only [convLoop]
          rw [h1.refines (inner :: cs), convRest_cons, h2.refines cs]
          generalize convRest tokens s2 p2 cs = x
          cases x <;> simp
      | CRparen =>
        have hsub := subChk_of_le hinner
        refine ⟨[.Rparen], stack.take (stack.length - inner), pos, by simp [hsub], Nat.le_refl _,
          by omega, fun _ => rfl, fun _ => htok, ?_, ?_⟩
        · simp only [List.length_take]; omega
        · intro cs
          rw [hdrop]
          have hrev : (stack.take (stack.length - inner)).reverse = stack.reverse.drop inner := by
            rw [List.reverse_take]
            congr 1; omega
          cases cs with
          | nil => simp [convLoop, convRest, hinner]
          | cons c cs =>
            simp only [convLoop, convRest, List.length_reverse, hinner, if_true, hrev]
            cases convLoop (tokens.drop (pos + 1)) (stack.reverse.drop inner) (c :: cs) <;> simp
      | CName name =>
        simp only []
        cases hidx : indexOf? name stack.reverse with
        | some index =>
          refine step (.Number (index + 1)) stack inner hinner (Nat.le_refl _) fun cs => ?_
          rw [hdrop]
          simp [convLoop, hidx]
        | none =>
          refine step (.Number ((name :: stack).length)) (name :: stack) inner (by simp; omega)
            (by simp) fun cs => ?_
          rw [hdrop]
          simp [convLoop, hidx]

theorem convCall_spec (tokens : List CToken) (fuel : Nat) (stack : List (List Nat)) (pos : Nat)
    (hpos : pos ≤ tokens.length) (hfuel : tokens.length + 1 ≤ fuel + pos) :
    ∃ out stack' pos',
      convCall tokens fuel stack pos = some (out, stack', pos') ∧ ConvPost tokens stack pos 0 out stack' pos' := by
  obtain ⟨Δ, s', p', he, h⟩ := convLoopC_spec tokens fuel stack pos [] 0 (by omega) hfuel (Nat.zero_le _)
  refine ⟨Δ, s', p', ?_, h⟩
  unfold convCall
  rw [subChk_of_le hpos]
  simpa using he

/-- a call with the cursor beyond the end WOULD panic (`tokens.len() - *pos` underflows): the entry
check of the model is not vacuous -/
theorem convCall_beyond (tokens : List CToken) (fuel : Nat) (stack : List (List Nat)) (pos : Nat)
    (hpos : tokens.length < pos) : convCall tokens fuel stack pos = none := by
  unfold convCall subChk
  rw [if_neg (by omega)]

theorem convLoopC_mono (tokens : List CToken) :
    ∀ (fuel : Nat) (stack : List (List Nat)) (pos : Nat) (output : List Token) (inner : Nat)
      (r : List Token × List (List Nat) × Nat),
      convLoopC tokens fuel stack pos output inner = some r →
      convLoopC tokens (fuel + 1) stack pos output inner = some r := by
  intro fuel
  induction fuel with
  | zero => intro _ _ _ _ _ h; simp [convLoopC] at h
  | succ fuel ih =>
    intro stack pos output inner r h
    rw [convLoopC] at h
    rw [convLoopC]
    cases htok : tokens[pos]? with
    | none => simpa [htok] using h
    | some tok =>
      rw [htok] at h
      cases tok with
      | CLambda name => exact ih _ _ _ _ _ h
      | CLparen =>
        simp only at h ⊢
        cases hs : subChk tokens.length (pos + 1) with
        | none => simp [hs] at h
        | some c =>
          simp only [hs] at h ⊢
          cases h1 : convLoopC tokens fuel stack (pos + 1) [] 0 with
          | none => simp [h1] at h
          | some r1 =>
            obtain ⟨o1, s1, p1⟩ := r1
            simp only [h1] at h
            rw [ih _ _ _ _ _ h1]
            exact ih _ _ _ _ _ h
      | CRparen => simpa using h
      | CName name =>
        simp only at h ⊢
        cases hidx : indexOf? name stack.reverse with
        | some index => simp only [hidx] at h ⊢; exact ih _ _ _ _ _ h
        | none => simp only [hidx] at h ⊢; exact ih _ _ _ _ _ h

theorem convCall_det (tokens : List CToken) {f1 f2 : Nat} {stack : List (List Nat)} {pos : Nat}
    {r1 r2 : List Token × List (List Nat) × Nat}
    (h1 : convCall tokens f1 stack pos = some r1) (h2 : convCall tokens f2 stack pos = some r2) :
    r1 = r2 := by
  unfold convCall at h1 h2
  cases hs : subChk tokens.length pos with
  | none => simp [hs] at h1
  | some c =>
    simp only [hs] at h1 h2
    exact fuel_det (fun n r => convLoopC_mono tokens n stack pos [] 0 r) h1 h2

theorem convertCur_eq (tokens : List CToken) : convertCur tokens = convertClassicTokens tokens := by
  obtain ⟨out, s', p', he, h⟩ := convCall_spec tokens (tokens.length + 1) [] 0 (Nat.zero_le _) (by omega)
  have := h.refines []
  simp only [List.drop_zero, List.reverse_nil, convRest] at this
  unfold convertCur convertClassicTokens
  rw [he, this]
  simp

/-- `ConvLoopAt tokens stack pos output inner`: while `convert_classic_tokens(tokens)` runs, some
activation of `_convert_classic_tokens` is at its loop head (about to evaluate
`tokens.get(*pos)`) with these values of `*stack`, `*pos`, `output`, `inner_stack_count`.
`call` is the first loop head of a callee (so it records every recursive CALL, made with cursor
`pos + 1`), `back` the loop head of the caller after a callee RETURNED `(out', stack', pos')`. -/
inductive ConvLoopAt (tokens : List CToken) : List (List Nat) → Nat → List Token → Nat → Prop
  | top : ConvLoopAt tokens [] 0 [] 0
  | lambda {stack pos output inner name} :
    ConvLoopAt tokens stack pos output inner → tokens[pos]? = some (.CLambda name) →
    ConvLoopAt tokens (stack ++ [name]) (pos + 1) (output ++ [.Lambda]) (inner + 1)
  | call {stack pos output inner} :
    ConvLoopAt tokens stack pos output inner → tokens[pos]? = some .CLparen →
    ConvLoopAt tokens stack (pos + 1) [] 0
  | back {stack pos output inner fuel out' stack' pos'} :
    ConvLoopAt tokens stack pos output inner → tokens[pos]? = some .CLparen →
    convCall tokens fuel stack (pos + 1) = some (out', stack', pos') →
    ConvLoopAt tokens stack' (pos' + 1) (output ++ [.Lparen] ++ out') inner
  | bound {stack pos output inner name index} :
    ConvLoopAt tokens stack pos output inner → tokens[pos]? = some (.CName name) →
    indexOf? name stack.reverse = some index →
    ConvLoopAt tokens stack (pos + 1) (output ++ [.Number (index + 1)]) inner
  | free {stack pos output inner name} :
    ConvLoopAt tokens stack pos output inner → tokens[pos]? = some (.CName name) →
    indexOf? name stack.reverse = none →
    ConvLoopAt tokens (name :: stack) (pos + 1) (output ++ [.Number ((name :: stack).length)]) inner

theorem ConvLoopAt.inv {tokens : List CToken} {stack : List (List Nat)} {pos : Nat}
    {output : List Token} {inner : Nat} (h : ConvLoopAt tokens stack pos output inner) :
    inner ≤ stack.length ∧ pos ≤ 2 * tokens.length := by
  induction h with
  | top => simp
  | lambda _ ht ih => have := (drop_of_getElem? ht).1; simp; omega
  | call _ ht ih => have := (drop_of_getElem? ht).1; simp; omega
  | @back stack pos output inner fuel out' stack' pos' _ ht hc ih =>
    have hlt := (drop_of_getElem? ht).1
    obtain ⟨o, s, p, he, h⟩ :=
      convCall_spec tokens (tokens.length + 1) stack (pos + 1) (by omega) (by omega)
    have := convCall_det tokens hc he
    simp only [Prod.mk.injEq] at this
    obtain ⟨_, rfl, rfl⟩ := this
    have := h.bound (by omega)
    have := h.deque
    omega
  | bound _ ht _ ih => have := (drop_of_getElem? ht).1; omega
  | free _ ht _ ih => have := (drop_of_getElem? ht).1; simp; omega


/-- the loop of `_get_ast(tokens, pos, nested)` with the local `expr` as state; result: the returned
`Result` and the final value of `*pos` (it is a `&mut`, so it has one on `Err` too).  There is NO
partial operation in this function (`tokens.get` is total, `?` propagates): `none` = out of fuel. -/
def astLoopC (tokens : List Token) :
    Nat → Nat → Bool → List Expression → Option (Except ParseError Expression × Nat)
  | 0, _, _, _ => none
  | fuel + 1, pos, nested, expr =>
    match tokens[pos]? with
    | none =>
      some (if nested then .error .InvalidExpression else .ok (.Sequence expr), pos)
    | some .Lambda => astLoopC tokens fuel (pos + 1) nested (expr ++ [.Abstraction])
    | some (.Number i) => astLoopC tokens fuel (pos + 1) nested (expr ++ [.Variable i])
    | some .Lparen =>
      -- *pos += 1; let subtree = _get_ast(tokens, pos, true)?; expr.push(subtree);
      -- the callee starts with `if tokens.is_empty() { return Err(EmptyExpression) }`, `expr = []`
      if tokens.isEmpty then some (.error .EmptyExpression, pos + 1)
      else
        match astLoopC tokens fuel (pos + 1) true [] with
        | none => none
        | some (.error e, pos') => some (.error e, pos')
        | some (.ok subtree, pos') =>
          --                                                                   *pos += 1
          astLoopC tokens fuel (pos' + 1) nested (expr ++ [subtree])
    | some .Rparen =>
      some (if nested then .ok (.Sequence expr) else .error .InvalidExpression, pos)

def astCall (tokens : List Token) (fuel : Nat) (pos : Nat) (nested : Bool) :
    Option (Except ParseError Expression × Nat) :=
  if tokens.isEmpty then some (.error .EmptyExpression, pos)
  else astLoopC tokens fuel pos nested []

/-- `get_ast(tokens)` = `_get_ast(tokens, &mut 0, false)`; fuel as for `convertCur` (`astCall_spec`) -/
def getAstCur (tokens : List Token) : Option (Except ParseError Expression) :=
  (astCall tokens (tokens.length + 1) 0 false).map (·.1)

theorem astLoopC_lparen (tokens : List Token) (fuel pos : Nat) (nested : Bool)
    (expr : List Expression) (h : tokens[pos]? = some .Lparen) :
    astLoopC tokens (fuel + 1) pos nested expr =
      match astCall tokens fuel (pos + 1) true with
      | none => none
      | some (.error e, pos') => some (.error e, pos')
      | some (.ok subtree, pos') => astLoopC tokens fuel (pos' + 1) nested (expr ++ [subtree]) := by
  rw [astLoopC]
  simp only [h, astCall]
  cases tokens.isEmpty <;> simp

/-- what the single-pass `astLoop` still has to do after the cursor call returned `r` at
`pos'`, when the suspended callers hold the partial vectors `st` (innermost first, reversed) -/
def astRest (tokens : List Token) (r : Except ParseError Expression) (pos' : Nat) :
    List (List Expression) → Except ParseError Expression
  | [] => r
  | parent :: st =>
    match r with
    | .ok e => astLoop (tokens.drop (pos' + 1)) (e :: parent) st
    | .error err => .error err

/-- what holds when a run of the loop of `_get_ast`, started in the state `(pos, nested, expr)`, has returned `r` with
the cursor at `pos'` -/
structure AstPost (tokens : List Token) (pos : Nat) (nested : Bool) (expr : List Expression)
    (r : Except ParseError Expression) (pos' : Nat) : Prop where
  le : pos ≤ pos'
  within : pos ≤ tokens.length → pos' ≤ tokens.length
  beyond : tokens.length < pos → pos' = pos
  at_rparen : ∀ e, r = .ok e → nested = true → tokens[pos']? = some .Rparen
  at_end : ∀ e, r = .ok e → nested = false → tokens.length ≤ pos'
  /-- the single-pass `astLoop` goes on as `astRest` says (`nested` = "there is a suspended caller") -/
  refines : ∀ st, nested = !st.isEmpty →
    astLoop (tokens.drop pos) expr.reverse st = astRest tokens r pos' st

def AstRet (tokens : List Token) (pos : Nat) (nested : Bool) (expr : List Expression)
    (res : Option (Except ParseError Expression × Nat)) : Prop :=
  ∃ r pos', res = some (r, pos') ∧ AstPost tokens pos nested expr r pos'

/-- The cursor loop of `_get_ast` ends within the stated fuel, keeps `pos ≤ tokens.length`, returns
`Ok` of a nested call only AT a `)`, and computes what the single-pass `astLoop` computes (`nested` =
"there is a suspended caller"). -/
theorem astLoopC_spec (tokens : List Token) :
    ∀ (fuel pos : Nat) (nested : Bool) (expr : List Expression),
      1 ≤ fuel → tokens.length + 1 ≤ fuel + pos →
      AstRet tokens pos nested expr (astLoopC tokens fuel pos nested expr) := by
  intro fuel
  induction fuel with
  | zero => intro _ _ _ h; omega
  | succ fuel ih =>
    intro pos nested expr _ hfuel
    rw [astLoopC]
    cases htok : tokens[pos]? with
    | none =>
      have hle : tokens.length ≤ pos := List.getElem?_eq_none_iff.mp htok
      refine ⟨_, pos, rfl, Nat.le_refl _, by omega, fun _ => rfl, ?_, ?_, ?_⟩
      · intro e he hn; simp [hn] at he
      · intro _ _ _; exact hle
      · intro st hst
        rw [List.drop_eq_nil_of_le hle]
        cases st with
        | nil => simp at hst; simp [hst, astLoop, astRest]
        | cons parent st => simp at hst; simp [hst, astLoop, astRest]
    | some tok =>
      obtain ⟨hlt, hdrop⟩ := drop_of_getElem? htok
      have hf1 : 1 ≤ fuel := by omega
      -- a token `tk` that pushes the item `x` on the current vector
      have step : ∀ (x : Expression) (tk : Token),
          (∀ ts cur st, astLoop (tk :: ts) cur st = astLoop ts (x :: cur) st) →
          tokens.drop pos = tk :: tokens.drop (pos + 1) →
          AstRet tokens pos nested expr (astLoopC tokens fuel (pos + 1) nested (expr ++ [x])) := by
        intro x tk hast hd
        obtain ⟨r, p', he, h⟩ := ih (pos + 1) nested (expr ++ [x]) hf1 (by omega)
        have := h.le
        refine ⟨r, p', he, by omega, fun _ => h.within (by omega), by omega, h.at_rparen, h.at_end,
          fun st hst => ?_⟩
        have := h.refines st hst
        simp only [List.reverse_append, List.reverse_cons, List.reverse_nil, List.nil_append,
          List.singleton_append] at this
        rw [hd, hast, this]
      cases tok with
      | Lambda => exact step .Abstraction .Lambda (fun _ _ _ => by simp only [astLoop]) hdrop
      | Number i => exact step (.Variable i) (.Number i) (fun _ _ _ => by simp only [astLoop]) hdrop
      | Lparen =>
        have hne : tokens.isEmpty = false :=
          List.isEmpty_eq_false_iff.2 (List.ne_nil_of_length_pos (by omega))
        simp only [hne]
        obtain ⟨r1, p1, he1, h1⟩ := ih (pos + 1) true [] hf1 (by omega)
        have := h1.le
        have hp1 := h1.within (by omega)
        cases r1 with
        | error err =>
          refine ⟨.error err, p1, by simp [he1], by omega, fun _ => hp1, by omega, ?_, ?_, ?_⟩
          · intro e he; cases he
          · intro e he; cases he
          · intro st hst
            rw [hdrop]; simp only [astLoop]
            have hcallee := h1.refines (expr.reverse :: st) (by simp)
            simp only [List.reverse_nil] at hcallee
            rw [hcallee]
            cases st <;> simp [astRest]
        | ok e1 =>
          have hr := h1.at_rparen e1 rfl rfl
          have hp1lt : p1 < tokens.length := (List.getElem?_eq_some_iff.mp hr).1
          obtain ⟨r2, p2, he2, h2⟩ := ih (p1 + 1) nested (expr ++ [e1]) hf1 (by omega)
          have := h2.le
          refine ⟨r2, p2, by simp [he1, he2], by omega, fun _ => h2.within (by omega), by omega,
            h2.at_rparen, h2.at_end, ?_⟩
          intro st hst
          rw [hdrop]; simp only [astLoop]
          have hcallee := h1.refines (expr.reverse :: st) (by simp)
          simp only [List.reverse_nil] at hcallee
          rw [hcallee]
          have := h2.refines st hst
          simp only [List.reverse_append, List.reverse_cons, List.reverse_nil, List.nil_append,
            List.singleton_append] at this
          simp only [astRest, this]
      | Rparen =>
        refine ⟨_, pos, rfl, Nat.le_refl _, fun h => h, fun _ => rfl, ?_, ?_, ?_⟩
        · intro _ _ _; exact htok
        · intro e he hn; simp [hn] at he
        · intro st hst
          rw [hdrop]
          cases st with
          | nil => simp at hst; simp [hst, astLoop, astRest]
          | cons parent st => simp at hst; simp [hst, astLoop, astRest]

theorem astCall_spec (tokens : List Token) (fuel pos : Nat) (nested : Bool)
    (hpos : pos ≤ tokens.length) (hfuel : tokens.length + 1 ≤ fuel + pos) :
    ∃ r pos',
      astCall tokens fuel pos nested = some (r, pos') ∧
      (tokens = [] → r = .error .EmptyExpression ∧ pos' = pos) ∧
      (tokens ≠ [] → AstPost tokens pos nested [] r pos') := by
  cases htk : tokens with
  | nil => exact ⟨_, pos, rfl, fun _ => ⟨rfl, rfl⟩, fun h => absurd rfl h⟩
  | cons t ts =>
    rw [← htk]
    have hne : tokens.isEmpty = false := by rw [htk]; rfl
    obtain ⟨r, p', he, h⟩ := astLoopC_spec tokens fuel pos nested [] (by omega) hfuel
    exact ⟨r, p', by simp [astCall, hne, he], by simp [htk], fun _ => h⟩

theorem astLoopC_mono (tokens : List Token) :
    ∀ (fuel pos : Nat) (nested : Bool) (expr : List Expression)
      (r : Except ParseError Expression × Nat),
      astLoopC tokens fuel pos nested expr = some r →
      astLoopC tokens (fuel + 1) pos nested expr = some r := by
  intro fuel
  induction fuel with
  | zero => intro _ _ _ _ h; simp [astLoopC] at h
  | succ fuel ih =>
    intro pos nested expr r h
    rw [astLoopC] at h
    rw [astLoopC]
    cases htok : tokens[pos]? with
    | none => simpa [htok] using h
    | some tok =>
      rw [htok] at h
      cases tok with
      | Lambda => exact ih _ _ _ _ h
      | Number i => exact ih _ _ _ _ h
      | Lparen =>
        simp only at h ⊢
        cases hemp : tokens.isEmpty with
        | true => simpa [hemp] using h
        | false =>
          simp only [hemp] at h ⊢
          cases h1 : astLoopC tokens fuel (pos + 1) true [] with
          | none => simp [h1] at h
          | some r1 =>
            obtain ⟨x1, p1⟩ := r1
            rw [ih _ _ _ _ h1]
            cases x1 with
            | error e => simpa [h1] using h
            | ok e1 =>
              simp only [h1] at h
              exact ih _ _ _ _ h
      | Rparen => simpa using h

theorem astCall_det (tokens : List Token) {f1 f2 pos : Nat} {nested : Bool}
    {r1 r2 : Except ParseError Expression × Nat}
    (h1 : astCall tokens f1 pos nested = some r1) (h2 : astCall tokens f2 pos nested = some r2) :
    r1 = r2 := by
  unfold astCall at h1 h2
  cases hemp : tokens.isEmpty with
  | true =>
    simp only [hemp, if_true, Option.some.injEq] at h1 h2
    rw [← h1, ← h2]
  | false =>
    simp only [hemp] at h1 h2
    exact fuel_det (fun n r => astLoopC_mono tokens n pos nested [] r) h1 h2

theorem getAstCur_eq (tokens : List Token) : getAstCur tokens = some (getAst tokens) := by
  obtain ⟨r, p', he, hnil, h⟩ :=
    astCall_spec tokens (tokens.length + 1) 0 false (Nat.zero_le _) (by omega)
  unfold getAstCur getAst
  rw [he]
  cases htk : tokens with
  | nil => simp [(hnil htk).1]
  | cons t ts =>
    have := (h (by simp [htk])).refines [] (by simp)
    simp only [List.drop_zero, List.reverse_nil, astRest] at this
    rw [htk] at this
    simp [this]

/-- `AstLoopAt tokens pos nested expr`: while `get_ast(tokens)` runs, some activation of `_get_ast`
is at its loop head with these values of `*pos`, `nested`, `expr`.  `call` is the first loop head
of a callee (cursor `pos + 1`, `nested = true`), `back` the loop head of the caller after a callee
returned `Ok(subtree)` with the cursor at `pos'` (on `Err` the caller returns at once). -/
inductive AstLoopAt (tokens : List Token) : Nat → Bool → List Expression → Prop
  | top : AstLoopAt tokens 0 false []
  | lambda {pos nested expr} :
    AstLoopAt tokens pos nested expr → tokens[pos]? = some .Lambda →
    AstLoopAt tokens (pos + 1) nested (expr ++ [.Abstraction])
  | number {pos nested expr i} :
    AstLoopAt tokens pos nested expr → tokens[pos]? = some (.Number i) →
    AstLoopAt tokens (pos + 1) nested (expr ++ [.Variable i])
  | call {pos nested expr} :
    AstLoopAt tokens pos nested expr → tokens[pos]? = some .Lparen →
    AstLoopAt tokens (pos + 1) true []
  | back {pos nested expr fuel subtree pos'} :
    AstLoopAt tokens pos nested expr → tokens[pos]? = some .Lparen →
    astCall tokens fuel (pos + 1) true = some (.ok subtree, pos') →
    AstLoopAt tokens (pos' + 1) nested (expr ++ [subtree])

theorem AstLoopAt.inv {tokens : List Token} {pos : Nat} {nested : Bool} {expr : List Expression}
    (h : AstLoopAt tokens pos nested expr) : pos ≤ tokens.length := by
  induction h with
  | top => simp
  | lambda _ ht ih => exact (drop_of_getElem? ht).1
  | number _ ht ih => exact (drop_of_getElem? ht).1
  | call _ ht ih => exact (drop_of_getElem? ht).1
  | @back pos nested expr fuel subtree pos' _ ht hc ih =>
    have hlt := (drop_of_getElem? ht).1
    obtain ⟨r, p, he, _, h⟩ :=
      astCall_spec tokens (tokens.length + 1) (pos + 1) true (by omega) (by omega)
    have := astCall_det tokens hc he
    simp only [Prod.mk.injEq] at this
    obtain ⟨rfl, rfl⟩ := this
    exact (drop_of_getElem? ((h (List.ne_nil_of_length_pos (by omega))).at_rparen subtree rfl rfl)).1


mutual
/-- number of `Expression` nodes (fuel measure for `fold_exprs`) -/
def esize : Expression → Nat
  | .Abstraction => 1
  | .Variable _ => 1
  | .Sequence es => esizeL es + 1
def esizeL : List Expression → Nat
  | [] => 0
  | e :: es => esize e + esizeL es
end

/-- `fold_terms(terms)`: `terms.remove(0)` is the partial operation -/
def foldTermsC (terms : List Term) : Option (Except ParseError Term) :=
  if terms.isEmpty then some (.error .EmptyExpression)
  else
    match removeAt terms 0 with
    | none => none
    | some (fst, rest) =>
      if rest.isEmpty then some (.ok fst) else some (.ok (rest.foldl app fst))

/-- the `for (i, expr) in exprs.iter().enumerate()` loop of `fold_exprs(exprs)`, followed by
`fold_terms(output)`; `&exprs[i + 1..]` is the partial operation -/
def foldLoopC : Nat → List Expression → Nat → List Term → Option (Except ParseError Term)
  | 0, _, _, _ => none
  | fuel + 1, exprs, i, output =>
    match exprs[i]? with
    | none => foldTermsC output
    | some .Abstraction =>
      -- output.push(abs(fold_exprs(&exprs[i + 1..])?)); break;
      match sliceFrom exprs (i + 1) with
      | none => none
      | some slice =>
        match foldLoopC fuel slice 0 [] with
        | none => none
        | some (.error e) => some (.error e)
        | some (.ok body) => foldTermsC (output ++ [abs body])
    | some (.Variable k) => foldLoopC fuel exprs (i + 1) (output ++ [var k])
    | some (.Sequence es) =>
      -- output.push(fold_exprs(exprs)?)
      match foldLoopC fuel es 0 [] with
      | none => none
      | some (.error e) => some (.error e)
      | some (.ok t) => foldLoopC fuel exprs (i + 1) (output ++ [t])

/-- `fold_exprs(exprs)`; the recursion descends into one `Expression` node per call (`foldLoopC_spec`) -/
def foldExprsCur (exprs : List Expression) : Option (Except ParseError Term) :=
  foldLoopC (esizeL exprs + 1) exprs 0 []

theorem foldTermsC_eq (terms : List Term) : foldTermsC terms = some (foldTerms terms) := by
  cases terms with
  | nil => rfl
  | cons t ts =>
    cases ts with
    | nil => rfl
    | cons u us => rfl

theorem esizeL_drop {exprs : List Expression} {i : Nat} {e : Expression} (h : exprs[i]? = some e) :
    esizeL (exprs.drop i) = esize e + esizeL (exprs.drop (i + 1)) := by
  rw [(drop_of_getElem? h).2, esizeL]

/-- the cursor loop of `fold_exprs` never panics (the slice `&exprs[i + 1..]` is in bounds, the
vector given to `remove(0)` is not empty), ends within the stated fuel and computes the
single-pass model's result -/
theorem foldLoopC_spec :
    ∀ (fuel : Nat) (exprs : List Expression) (i : Nat) (output : List Term),
      esizeL (exprs.drop i) + 1 ≤ fuel →
      foldLoopC fuel exprs i output =
        some (match foldList (exprs.drop i) with
              | .ok ts => foldTerms (output ++ ts)
              | .error e => .error e) := by
  intro fuel
  induction fuel with
  | zero => intro _ _ _ h; omega
  | succ fuel ih =>
    intro exprs i output hfuel
    rw [foldLoopC]
    cases hex : exprs[i]? with
    | none =>
      have hle : exprs.length ≤ i := List.getElem?_eq_none_iff.mp hex
      rw [List.drop_eq_nil_of_le hle]
      simp [foldList, foldTermsC_eq]
    | some e =>
      obtain ⟨hlt, hdrop⟩ := drop_of_getElem? hex
      have hsz := esizeL_drop hex
      cases e with
      | Abstraction =>
        have hsl : sliceFrom exprs (i + 1) = some (exprs.drop (i + 1)) := by
          unfold sliceFrom; rw [if_pos (by omega)]
        simp only [hsl]
        rw [ih (exprs.drop (i + 1)) 0 [] (by simp only [List.drop_zero]; simp only [esize] at hsz; omega)]
        rw [hdrop, foldList]
        simp only [List.drop_zero, List.nil_append]
        cases foldList (exprs.drop (i + 1)) with
        | error err => rfl
        | ok ts =>
          simp only []
          cases hft : foldTerms ts with
          | error err => rfl
          | ok b => simp only [foldTermsC_eq]
      | Variable k =>
        simp only []
        rw [ih exprs (i + 1) (output ++ [var k]) (by simp only [esize] at hsz; omega)]
        rw [hdrop, foldList]
        cases foldList (exprs.drop (i + 1)) with
        | error err => rfl
        | ok ts => simp
      | Sequence es =>
        simp only [esize] at hsz
        simp only []
        rw [ih es 0 [] (by simp only [List.drop_zero]; omega)]
        rw [hdrop, foldList]
        simp only [List.drop_zero, List.nil_append]
        cases foldList es with
        | error err => rfl
        | ok us =>
          simp only []
          cases hft : foldTerms us with
          | error err => rfl
          | ok t =>
            simp only []
            rw [ih exprs (i + 1) (output ++ [t]) (by omega)]
            cases foldList (exprs.drop (i + 1)) with
            | error err => rfl
            | ok ts => simp

theorem foldExprsCur_eq (exprs : List Expression) : foldExprsCur exprs = some (foldExprs exprs) := by
  unfold foldExprsCur
  rw [foldLoopC_spec _ exprs 0 [] (by simp)]
  simp only [List.drop_zero, List.nil_append, foldExprs]
  cases foldList exprs <;> rfl


/-- `get_ast(&tokens)?`, the `if let Sequence(exprs) = ast` test and `fold_exprs(&exprs?)` of `parse` -/
def tokenStageCur (toks : List Token) : Option (Except ParseError Term) :=
  match getAstCur toks with
  | none => none
  | some (.error e) => some (.error e)
  | some (.ok (.Sequence es)) => foldExprsCur es
  | some (.ok _) => some (.error .InvalidExpression)

/-- `parse(input, notation)` with the three recursive stages replaced by their cursor models;
`none` = panic (or out of fuel) -/
def parseCur (cls : CharCls) (input : List Nat) (n : Notation) : Option (Except ParseError Term) :=
  let tokens : Except ParseError (Option (List Token)) :=
    match n with
    | .DeBruijn => some <$> tokenizeDbr cls input
    | .Classic => convertCur <$> tokenizeCla cls input
  match tokens with
  | .error e => some (.error e)
  | .ok none => none
  | .ok (some toks) => tokenStageCur toks

/-- the Rust `Result` (or panic) as an `Outcome` of the single-pass model -/
def toOutcome : Option (Except ParseError Term) → Outcome
  | none => .panic
  | some (.ok t) => .ok t
  | some (.error e) => .err e

theorem tokenStageCur_eq (toks : List Token) :
    tokenStageCur toks =
      some (match getAst toks with
            | .error e => .error e
            | .ok (.Sequence es) => foldExprs es
            | .ok _ => .error .InvalidExpression) := by
  unfold tokenStageCur
  rw [getAstCur_eq]
  cases getAst toks with
  | error e => rfl
  | ok x =>
    cases x with
    | Abstraction => rfl
    | Variable i => rfl
    | Sequence es => simp only [foldExprsCur_eq]

end Cursor
end LC
