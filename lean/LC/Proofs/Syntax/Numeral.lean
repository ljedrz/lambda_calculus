/-
Positional numerals.  The digit loops of the printers (`base26Loop`, `hexLoop` of
`LC/Model/Display.lean`, and their counterparts on digit values) all have the shape

    L 0 acc = acc        L n acc = L (step n) (dig n :: acc)   for n ≠ 0, where step n < n

(`IsDigitLoop`).  What follows from the shape alone — the accumulator is a suffix, the last digit
is `dig n`, every digit is some `dig m`, the value of the numeral is `n` — is proved here once.
(Also here, for want of a better place below both printers: the word `undefined`.)
-/
import LC.Model.Display

namespace LC

/-- `L` produces the digits of `n` in front of `acc`, least significant digit `dig n` first,
continuing with `step n` -/
structure IsDigitLoop {α : Type} (L : Nat → List α → List α) (step : Nat → Nat) (dig : Nat → α) :
    Prop where
  zero : ∀ acc, L 0 acc = acc
  pos : ∀ n, n ≠ 0 → ∀ acc, L n acc = L (step n) (dig n :: acc)
  lt : ∀ n, n ≠ 0 → step n < n

namespace IsDigitLoop

variable {α : Type} {L : Nat → List α → List α} {step : Nat → Nat} {dig : Nat → α}

theorem acc (h : IsDigitLoop L step dig) (n : Nat) : ∀ acc, L n acc = L n [] ++ acc := by
  induction n using Nat.strongRecOn with
  | _ n ih =>
    intro acc
    by_cases hn : n = 0
    · subst hn; simp [h.zero]
    · rw [h.pos n hn, h.pos n hn [], ih _ (h.lt n hn), ih _ (h.lt n hn) [dig n]]
      simp

theorem snoc (h : IsDigitLoop L step dig) {n : Nat} (hn : n ≠ 0) :
    L n [] = L (step n) [] ++ [dig n] := by
  rw [h.pos n hn, h.acc]

/-- a property of every digit `dig m`, `m ≠ 0`, holds of every digit of the numeral -/
theorem forall_mem (h : IsDigitLoop L step dig) {P : α → Prop} (hP : ∀ m, m ≠ 0 → P (dig m))
    (n : Nat) : ∀ d ∈ L n [], P d := by
  induction n using Nat.strongRecOn with
  | _ n ih =>
    by_cases hn : n = 0
    · subst hn; simp [h.zero]
    · rw [h.snoc hn]
      intro d hd
      rcases List.mem_append.1 hd with hd | hd
      · exact ih _ (h.lt n hn) d hd
      · rw [List.mem_singleton.1 hd]; exact hP n hn

/-- the value of the numeral in base `b`, the digit `d` counting `v d`, is `n` -/
theorem value (h : IsDigitLoop L step dig) (b : Nat) (v : α → Nat)
    (hv : ∀ m, m ≠ 0 → b * step m + v (dig m) = m) (n : Nat) :
    (L n []).foldl (fun a d => b * a + v d) 0 = n := by
  induction n using Nat.strongRecOn with
  | _ n ih =>
    by_cases hn : n = 0
    · subst hn; simp [h.zero]
    · rw [h.snoc hn, List.foldl_append, ih _ (h.lt n hn)]
      exact hv n hn

/-- a loop that produces the images of the digits of another one -/
theorem map {β : Type} (h : IsDigitLoop L step dig) (f : α → β) {L' : Nat → List β → List β}
    (h' : IsDigitLoop L' step (fun n => f (dig n))) (n : Nat) :
    ∀ acc, L' n (acc.map f) = (L n acc).map f := by
  induction n using Nat.strongRecOn with
  | _ n ih =>
    intro acc
    by_cases hn : n = 0
    · subst hn; rw [h.zero, h'.zero]
    · rw [h.pos n hn, h'.pos n hn, ← ih _ (h.lt n hn)]
      rfl

end IsDigitLoop

open Display

theorem base26Loop_isDigitLoop :
    IsDigitLoop base26Loop (fun n => (n - 1) / 26)
      (fun n => (if n % 26 = 0 then 26 else n % 26) + 96) where
  zero acc := by rw [base26Loop]; simp
  pos n hn acc := by rw [base26Loop, dif_neg hn]; simp
  lt n hn := by omega

theorem hexLoop_isDigitLoop : IsDigitLoop hexLoop (· / 16) (fun n => hexDigit (n % 16)) where
  zero acc := by rw [hexLoop]; simp
  pos n hn acc := by rw [hexLoop, dif_neg hn]
  lt n hn := by omega

theorem base26_range (n : Nat) : ∀ c ∈ base26 n, 97 ≤ c ∧ c ≤ 122 :=
  base26Loop_isDigitLoop.forall_mem (fun m _ => by split <;> omega) (n + 1)


namespace C10S

def undefinedName : List Nat := [117, 110, 100, 101, 102, 105, 110, 101, 100]

theorem str_undefined : str "undefined" = undefinedName := by decide +kernel

/-- the word with its first letter `u` split off (the De Bruijn lexer stops at it) -/
theorem undefined_split (pre post : List Nat) :
    pre ++ undefinedName ++ post = pre ++ 117 :: (undefinedName.tail ++ post) := by
  simp [undefinedName]

end C10S

end LC
