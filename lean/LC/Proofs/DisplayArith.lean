/-
C10, arithmetic side conditions of the two printers of `src/term.rs` (`impl Display`, `impl Debug`):
a checked model of `base26_encode`, `show_precedence_cla`, `max_depth` in which every arithmetic
operation of the Rust text that can overflow, underflow or truncate is explicit.

* `+` on `u8` / `u32` / `u128` — `addChk bound`, `none` (= panic in a debug build, wrap-around in a
  release build) when the sum does not fit;
* `-` — `subChk`, `none` when it underflows;
* `x as u8`, `x as u128` — reduction modulo `2^8`, `2^128` (a cast never panics, it truncates);
* `u128::from(u32)` — the identity (lossless by type);
* `String::from_utf8(buf).expect(..)` — checked conservatively: `none` unless every byte is `< 128`
  (an all-ASCII buffer is valid UTF-8).

`show_precedence_dbr` (`Debug`) has no such operation (`format!("{:X}", i)` is total).
The model `LC/Model/Display.lean` does the same computations over `Nat`.
-/
import LC.Proofs.Syntax.Numeral

namespace LC
namespace DisplayChk
open Term Display

def U8 : Nat := 2 ^ 8
def U32 : Nat := 2 ^ 32
def U64 : Nat := 2 ^ 64
def U128 : Nat := 2 ^ 128

def addChk (bound a b : Nat) : Option Nat := if a + b < bound then some (a + b) else none

def subChk (a b : Nat) : Option Nat := if b ≤ a then some (a - b) else none

theorem addChk_of_lt {bound a b : Nat} (h : a + b < bound) : addChk bound a b = some (a + b) := if_pos h

theorem subChk_of_le {a b : Nat} (h : b ≤ a) : subChk a b = some (a - b) := if_pos h

/-- the `while n > 0` loop of `base26_encode`: `n : u128`, `buf : Vec<u8>` in push order -/
def base26LoopChk (n : Nat) (buf : List Nat) : Option (List Nat) :=
  if _h : n = 0 then some buf
  else
    let m := (n % 26) % U8                        -- let m = (n % 26) as u8;
    let m := if m == 0 then 26 else m             -- let m = if m == 0 { 26 } else { m };
    match addChk U8 m 97 with                     -- m + b'a'
    | none => none
    | some s =>
      match subChk s 1 with                       -- … - 1
      | none => none
      | some c =>
        if _h1 : 1 ≤ n then                       -- n - 1
          base26LoopChk ((n - 1) / 26) (buf ++ [c])   -- buf.push(c); n = (n - 1) / 26
        else none
termination_by n
decreasing_by omega

/-- `base26_encode(n)`: `n += 1`, the loop, `buf.reverse()`, `String::from_utf8(buf).expect(..)` -/
def base26Chk (n : Nat) : Option (List Nat) :=
  match addChk U128 n 1 with
  | none => none
  | some n1 =>
    match base26LoopChk n1 [] with
    | none => none
    | some buf =>
      let buf := buf.reverse
      if buf.all (· < 128) then some buf else none

/-- `show_precedence_cla(term, context_precedence, max_depth: u32, depth: u32)` -/
def showClaChk (lam maxDepth : Nat) : Term → Nat → Nat → Option (List Nat)
  | var 0, _, _ => some (str "undefined")
  | var (i + 1), _, depth =>
    let i := (i + 1) % U128                       -- *i as u128; u128::from(depth)
    if i ≤ depth then
      match subChk depth i with                   -- depth - i
      | none => none
      | some ix => base26Chk ix
    else
      match addChk U128 maxDepth i with           -- u128::from(max_depth) + i
      | none => none
      | some a =>
        match subChk a depth with                 -- … - depth
        | none => none
        | some b =>
          match subChk b 1 with                   -- … - 1
          | none => none
          | some ix => base26Chk ix
  | abs t, ctx, depth =>
    match base26Chk depth with                    -- base26_encode(u128::from(depth))
    | none => none
    | some name =>
      match addChk U32 depth 1 with               -- depth + 1   (u32)
      | none => none
      | some d1 =>
        match showClaChk lam maxDepth t 0 d1 with
        | none => none
        | some body => some (parenIf (lam :: (name ++ (46 :: body))) (decide (ctx > 1)))
  | app t1 t2, ctx, depth =>
    match showClaChk lam maxDepth t1 2 depth with
    | none => none
    | some a =>
      match showClaChk lam maxDepth t2 3 depth with
      | none => none
      | some b => some (parenIf (a ++ (32 :: b)) (ctx == 3))

/-- `Term::max_depth(&self) -> u32` -/
def maxDepthChk : Term → Option Nat
  | var _ => some 0
  | abs t =>
    match maxDepthChk t with
    | none => none
    | some d => addChk U32 d 1                    -- t.max_depth() + 1   (u32)
  | app l r =>
    match maxDepthChk l with
    | none => none
    | some d0 =>
      match maxDepthChk r with
      | none => none
      | some d1 => some (max d0 d1)

/-- `impl Display for Term`: `show_precedence_cla(self, 0, self.max_depth(), 0)` -/
def displayChk (lam : Nat) (t : Term) : Option (List Nat) :=
  match maxDepthChk t with
  | none => none
  | some md => showClaChk lam md t 0 0

def idxLt (B : Nat) : Term → Prop
  | var i => i < B
  | abs t => idxLt B t
  | app l r => idxLt B l ∧ idxLt B r

theorem U8_eq : U8 = 256 := by decide
theorem U32_eq : U32 = 4294967296 := by decide
theorem U64_eq : U64 = 18446744073709551616 := by decide
theorem U128_eq : U128 = 340282366920938463463374607431768211456 := by decide

/-- the checked loop pushes what the model's loop conses -/
theorem base26LoopChk_eq (n : Nat) : ∀ buf : List Nat,
    base26LoopChk n buf = some ((base26Loop n buf.reverse).reverse) := by
  induction n using Nat.strongRecOn with
  | _ n ih =>
    intro buf
    rw [base26LoopChk, base26Loop]
    by_cases h : n = 0
    · simp [h]
    · have hlt : (n - 1) / 26 < n := by omega
      have h1 : 1 ≤ n := by omega
      have hm : (n % 26) % U8 = n % 26 := by rw [U8_eq]; omega
      simp only [dif_neg h, hm, dif_pos h1]
      by_cases h0 : n % 26 = 0
      · simp only [h0, addChk, subChk, U8_eq]
        simp [ih _ hlt]
      · have hne : (n % 26 == 0) = false := by simpa using h0
        have hadd := addChk_of_lt (show n % 26 + 97 < U8 by rw [U8_eq]; omega)
        have hsub : subChk (n % 26 + 97) 1 = some (n % 26 + 96) := subChk_of_le (by omega)
        simp only [hne, Bool.false_eq_true, if_false]
        simp only [hadd, hsub]
        simp [ih _ hlt]

/-- `base26_encode(n)` for `n < u128::MAX`: no overflow, no underflow, valid UTF-8 -/
theorem base26Chk_eq (n : Nat) (h : n + 1 < U128) : base26Chk n = some (base26 n) := by
  unfold base26Chk addChk
  rw [if_pos h]
  simp only [base26LoopChk_eq, List.reverse_nil, List.reverse_reverse]
  have hall : (base26Loop (n + 1) []).all (· < 128) = true := by
    rw [List.all_eq_true]
    intro c hc
    have := base26_range n c hc
    simp; omega
  rw [if_pos hall]; rfl

/-- `n += 1` does overflow for `n = u128::MAX` (never reached from `show_precedence_cla`) -/
theorem base26Chk_overflow : base26Chk (U128 - 1) = none := by
  have h : ¬ (U128 - 1 + 1 < U128) := by rw [U128_eq]; omega
  unfold base26Chk addChk
  rw [if_neg h]

/-- invariant of the recursion of `show_precedence_cla`: `depth + (binder depth of the subterm) ≤
max_depth`; with `max_depth < 2^32` and indices `< 2^64` no operation overflows or underflows, and
the result is that of `LC/Model/Display.lean` -/
theorem showClaChk_eq (lam md : Nat) (hmd : md < U32) :
    ∀ (t : Term) (ctx depth : Nat), depth + t.maxDepth ≤ md → idxLt U64 t →
      showClaChk lam md t ctx depth = some (showCla lam md t ctx depth) := by
  intro t
  induction t with
  | var i =>
    intro ctx depth hd hi
    cases i with
    | zero => rfl
    | succ i =>
      simp only [idxLt] at hi
      rw [U32_eq] at hmd
      rw [U64_eq] at hi
      simp only [Term.maxDepth] at hd
      have hcast : (i + 1) % U128 = i + 1 := by rw [U128_eq]; omega
      simp only [showClaChk, showCla, hcast]
      by_cases hle : i + 1 ≤ depth
      · simp only [if_pos hle, subChk]
        rw [base26Chk_eq _ (by rw [U128_eq]; omega)]
      · have hadd := addChk_of_lt (show md + (i + 1) < U128 by rw [U128_eq]; omega)
        have hs1 := subChk_of_le (show depth ≤ md + (i + 1) by omega)
        have hs2 := subChk_of_le (show 1 ≤ md + (i + 1) - depth by omega)
        simp only [if_neg hle, hadd, hs1, hs2]
        rw [base26Chk_eq _ (by rw [U128_eq]; omega)]
  | abs t ih =>
    intro ctx depth hd hi
    simp only [Term.maxDepth] at hd
    simp only [idxLt] at hi
    have hb : base26Chk depth = some (base26 depth) :=
      base26Chk_eq _ (by rw [U128_eq]; rw [U32_eq] at hmd; omega)
    have hadd := addChk_of_lt (show depth + 1 < U32 by omega)
    simp only [showClaChk, showCla, hb, hadd, ih 0 (depth + 1) (by omega) hi]
  | app l r ihl ihr =>
    intro ctx depth hd hi
    simp only [Term.maxDepth] at hd
    simp only [idxLt] at hi
    simp only [showClaChk, showCla, ihl 2 depth (by omega) hi.1, ihr 3 depth (by omega) hi.2]

/-- `max_depth()` fits `u32` exactly when the binder depth is below `2^32` -/
theorem maxDepthChk_eq (t : Term) :
    maxDepthChk t = if t.maxDepth < U32 then some t.maxDepth else none := by
  induction t with
  | var i => simp [maxDepthChk, Term.maxDepth, U32_eq]
  | abs t ih =>
    have e : (abs t).maxDepth = t.maxDepth + 1 := rfl
    rw [maxDepthChk, ih, e]
    by_cases h : t.maxDepth < U32 <;> simp [h, addChk] <;> omega
  | app l r ihl ihr =>
    have e : (app l r).maxDepth = max l.maxDepth r.maxDepth := rfl
    rw [maxDepthChk, ihl, ihr, e]
    by_cases h1 : l.maxDepth < U32 <;> by_cases h2 : r.maxDepth < U32 <;> simp [h1, h2] <;> omega

end DisplayChk
end LC
