/-
Head-spine reduction (`stepHsp`) terminates whenever a head normal form is reachable.

Route: `stepHead` is true head reduction.  By standardisation, if a head normal form is reachable then
the `stepHead` run is finite (`Std.head_terminates`).  `stepHead` commutes with substitution, so a finite head run of
`contract b r` splits into a finite head run of `b` followed by a head run of the instantiated
head normal form (`head_subst_split`).  From this, by induction on the length of the head run:
the `stepHsp` run has the *same length and the same result* as the head run (`head_hsp`) —
head-spine reduction merely reorders the head steps.
-/
import LC.Proofs.Normalisation

namespace LC
open Term Spec

/-- head reduction: strip the leading abstractions, then contract the head redex -/
def Term.stepHead : Term → Option Term
  | var _ => none
  | abs b => (stepHead b).map abs
  | app l r => stepCbn (app l r)

theorem isHNF_app (l r : Term) : isHNF (app l r) = neutral l := rfl

theorem stepHead_none_iff (t : Term) : stepHead t = none ↔ isHNF t = true := by
  induction t with
  | var i => simp [stepHead, isHNF, neutral]
  | abs b ih => simp [stepHead, isHNF, ih]
  | app l r _ _ =>
    simp only [stepHead]
    rw [RL.stepCbn_none_iff]; simp [isWHNF, isHNF]

theorem stepCbn_stepHead {t u : Term} (h : stepCbn t = some u) : stepHead t = some u := by
  cases t with
  | var i => simp [stepCbn] at h
  | abs b => simp [stepCbn] at h
  | app l r => simpa [stepHead] using h

theorem Term.Iter.cbn_head {k : Nat} {t u : Term} (h : Iter stepCbn k t u) : Iter stepHead k t u :=
  h.map id (fun _ _ => stepCbn_stepHead)

theorem Term.Iter.head_abs {k : Nat} {b b' : Term} (h : Iter stepHead k b b') :
    Iter stepHead k (Term.abs b) (Term.abs b') :=
  h.map Term.abs (fun _ _ hs => by simp [stepHead, hs])

theorem Term.Iter.head_abs_inv {k : Nat} {b h : Term} (hi : Iter stepHead k (Term.abs b) h) :
    ∃ b', h = Term.abs b' ∧ Iter stepHead k b b' := by
  induction k generalizing b with
  | zero => cases hi; exact ⟨b, rfl, Iter.zero _⟩
  | succ k ih =>
    cases hi with
    | succ hs hi' =>
      simp [stepHead] at hs
      obtain ⟨b1, hb1, rfl⟩ := hs
      obtain ⟨b', rfl, hb'⟩ := ih hi'
      exact ⟨b', rfl, Iter.succ hb1 hb'⟩

theorem stepCbn_applyAux (r : Term) (e : Nat) (he : 1 ≤ e) {b b1 : Term} (h : stepCbn b = some b1) :
    stepCbn (applyAux r e b) = some (applyAux r e b1) :=
  (W_iff_stepCbn _ _).1 (((W_iff_stepCbn _ _).2 h).subst r e he)

theorem stepHead_applyAux (r : Term) (e : Nat) (he : 1 ≤ e) {b b1 : Term} (h : stepHead b = some b1) :
    stepHead (applyAux r e b) = some (applyAux r e b1) := by
  induction b generalizing e b1 with
  | var i => simp [stepHead] at h
  | abs b ih =>
    simp [stepHead] at h
    obtain ⟨b2, hb2, rfl⟩ := h
    simp [applyAux, stepHead, ih (e + 1) (by omega) hb2]
  | app l r' _ _ =>
    simp only [stepHead] at h
    have := stepCbn_applyAux r e he h
    simp only [applyAux] at this ⊢
    simpa [stepHead] using this

/-- a finite head run of an instance `b[r]` splits into a finite head run of `b` to a head normal
form `b'`, followed by the head run of `b'[r]` -/
theorem head_subst_split (r : Term) (e : Nat) (he : 1 ≤ e) :
    ∀ (k : Nat) (b h : Term), Iter stepHead k (applyAux r e b) h → isHNF h = true →
      ∃ m b', m ≤ k ∧ Iter stepHead m b b' ∧ isHNF b' = true ∧
        Iter stepHead (k - m) (applyAux r e b') h := by
  intro k
  induction k with
  | zero =>
    intro b h hi hh
    cases hb : stepHead b with
    | none => exact ⟨0, b, Nat.le_refl _, Iter.zero _, (stepHead_none_iff b).1 hb, hi⟩
    | some b1 =>
      have hc := stepHead_applyAux r e he hb
      cases hi
      rw [(stepHead_none_iff _).2 hh] at hc; cases hc
  | succ k ih =>
    intro b h hi hh
    cases hb : stepHead b with
    | none => exact ⟨0, b, Nat.zero_le _, Iter.zero _, (stepHead_none_iff b).1 hb, hi⟩
    | some b1 =>
      have hc := stepHead_applyAux r e he hb
      cases hi with
      | succ hs hi' =>
        rw [hc] at hs; cases hs
        obtain ⟨m, b', hm, h1, h2, h3⟩ := ih b1 h hi' hh
        exact ⟨m + 1, b', by omega, Iter.succ hb h1, h2, h3.cast (by omega)⟩

/-- shape of a head run of an application: either the operator only takes weak head steps, or
it reaches an abstraction, the root redex is contracted, and the run continues -/
theorem head_app_split (r : Term) : ∀ (n : Nat) (l h : Term), Iter stepHead n (app l r) h →
    (∃ l', Iter stepCbn n l l' ∧ h = app l' r) ∨
    (∃ j b, j < n ∧ Iter stepCbn j l (abs b) ∧ Iter stepHead (n - j - 1) (contract b r) h) := by
  intro n
  induction n with
  | zero => intro l h hi; cases hi; exact Or.inl ⟨l, Iter.zero _, rfl⟩
  | succ n ih =>
    intro l h hi
    cases hi with
    | succ hs hi' =>
      simp only [stepHead] at hs
      cases l with
      | var i => simp [stepCbn] at hs
      | abs b =>
        simp [stepCbn] at hs; subst hs
        exact Or.inr ⟨0, b, by omega, Iter.zero _, by simpa using hi'⟩
      | app l1 l2 =>
        simp [stepCbn] at hs
        obtain ⟨a, ha, rfl⟩ := hs
        rcases ih a h hi' with ⟨l', hl, rfl⟩ | ⟨j, b, hj, hl, hc⟩
        · exact Or.inl ⟨l', Iter.succ ha hl, rfl⟩
        · exact Or.inr ⟨j + 1, b, by omega, Iter.succ ha hl, hc.cast (by omega)⟩

theorem head_hsp (n : Nat) : ∀ (t h : Term), Iter stepHead n t h → isHNF h = true →
    Iter stepHsp n t h := by
  induction n using Nat.strongRecOn with
  | _ n IH =>
    intro t
    induction t with
    | var i =>
      intro h hi hh
      obtain ⟨rfl, rfl⟩ := hi.of_none (by simp [stepHead])
      exact Iter.zero _
    | abs b ihb =>
      intro h hi hh
      obtain ⟨b', rfl, hb'⟩ := hi.head_abs_inv
      exact (ihb b' hb' (by simpa [isHNF] using hh)).ord_abs (o := .HSP) rfl
    | app l r ihl _ =>
      intro h hi hh
      rcases head_app_split r n l h hi with ⟨l', hl, rfl⟩ | ⟨j, b, hj, hl, hc⟩
      · rw [isHNF_app] at hh
        exact (ihl l' hl.cbn_head (RL.isHNF_of_neutral hh)).ord_app_head (o := .HSP) r
      · obtain ⟨m, b', hm, hb, hb', hc'⟩ := head_subst_split r 1 (Nat.le_refl _) _ b h hc hh
        have h1 : Iter stepHead (j + m) l (abs b') := hl.cbn_head.trans hb.head_abs
        have h2 : Iter stepHsp (j + m) l (abs b') :=
          IH (j + m) (by omega) l (abs b') h1 (by simpa [isHNF] using hb')
        have h3 : stepHsp (app (abs b') r) = some (contract b' r) :=
          stepOrd_app_red (o := .HSP) ((RL.stepHsp_none_iff (abs b')).2 (by simpa [isHNF] using hb')) nofun
        have h4 : Iter stepHsp (n - j - 1 - m) (contract b' r) h :=
          IH (n - j - 1 - m) (by omega) _ h hc' hh
        exact ((h2.ord_app_head (o := .HSP) r).trans (Iter.succ h3 h4)).cast (by omega)

/-- a standard reduction to a head normal form starts with a finite head run to a head normal
form -/
theorem Spec.Std.head_terminates {t h : Term} (hs : Std t h) (hh : isHNF h = true) :
    ∃ n h', Iter stepHead n t h' ∧ isHNF h' = true := by
  induction hs with
  | @var L x hw =>
    obtain ⟨k, hk⟩ := hw.iter
    exact ⟨k, _, hk.cbn_head, rfl⟩
  | @abs L A B hw _ ih =>
    obtain ⟨k, hk⟩ := hw.iter
    obtain ⟨n, A', h1, h2⟩ := ih (by simpa [isHNF] using hh)
    exact ⟨k + n, Term.abs A', hk.cbn_head.trans h1.head_abs, by simpa [isHNF] using h2⟩
  | @app L A B C D hw ha hb _ _ =>
    obtain ⟨k, t', h1, h2, _⟩ := (Std.app hw ha hb).cbn_neutral (by simpa [isHNF] using hh)
    exact ⟨k, t', h1.cbn_head, RL.isHNF_of_neutral h2⟩

theorem head_terminates {t h : Term} (hs : Star t h) (hh : isHNF h = true) :
    ∃ n h', Iter stepHead n t h' ∧ stepHead h' = none := by
  obtain ⟨n, h', h1, h2⟩ := (standardisation hs).head_terminates hh
  exact ⟨n, h', h1, (stepHead_none_iff _).2 h2⟩

theorem hsp_terminates {t h : Term} (hs : Star t h) (hh : isHNF h = true) :
    ∃ k h', Iter stepHsp k t h' ∧ stepHsp h' = none := by
  obtain ⟨n, h', h1, h2⟩ := (standardisation hs).head_terminates hh
  exact ⟨n, h', head_hsp n t h' h1 h2, (RL.stepHsp_none_iff _).2 h2⟩

end LC
