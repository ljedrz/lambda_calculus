/-
The positional selections of all seven orders (`LC/Spec/Selection.lean`, `LC/Spec/SelectionAll.lean`) and the
executable selectors.

* `selNor … selHap : Term → Option Pos` (`sel o`): structurally recursive renderings used for `decide`-able examples;
  they are NOT the specification, they are proved equivalent to it (`sel_iff`).
* Proofs: each selector returns the position its positional definition describes (`selX_sound`); the eager orders APP
  and CBV through the order-theoretic reading "first redex in `cbvBefore`" (`lmi_of_first`).  HAP and the statements
  for all seven orders: `LC/Proofs/PositionsHap.lean`.
-/
import LC.Proofs.Positions
import LC.Spec.SelectionAll

namespace LC
namespace Spec
open Term

/-- the redex position each order selects (NOR, CBN, APP, CBV: `LC/Spec/Selection.lean`; HSP, HNO, HAP: `LC/Spec/SelectionAll.lean`) -/
def Sel : Order → Term → Pos → Prop
  | .NOR => isLMO
  | .CBN => fun t p => isLMO t p ∧ spineL p
  | .APP => isLMI
  | .CBV => isLMIW
  | .HSP => isHSP
  | .HNO => isHNO
  | .HAP => isHAP

def selCbn : Term → Option Pos
  | app (abs _) _ => some []
  | app l _ => (selCbn l).map (Dir.L :: ·)
  | _ => none

def selNor : Term → Option Pos
  | var _ => none
  | abs b => (selNor b).map (Dir.B :: ·)
  | app (abs _) _ => some []
  | app l r =>
    match selNor l with
    | some p => some (Dir.L :: p)
    | none => (selNor r).map (Dir.R :: ·)

def selCbv : Term → Option Pos
  | app l r =>
    match selCbv l with
    | some p => some (Dir.L :: p)
    | none =>
      match selCbv r with
      | some p => some (Dir.R :: p)
      | none => if isAbs l then some [] else none
  | _ => none

def selApp : Term → Option Pos
  | var _ => none
  | abs b => (selApp b).map (Dir.B :: ·)
  | app l r =>
    match selApp l with
    | some p => some (Dir.L :: p)
    | none =>
      match selApp r with
      | some p => some (Dir.R :: p)
      | none => if isAbs l then some [] else none

def selHsp : Term → Option Pos
  | var _ => none
  | abs b => (selHsp b).map (Dir.B :: ·)
  | app l _ =>
    match selHsp l with
    | some p => some (Dir.L :: p)
    | none => if isAbs l then some [] else none

def selHno : Term → Option Pos
  | var _ => none
  | abs b => (selHno b).map (Dir.B :: ·)
  | app l r =>
    match selHsp l with
    | some p => some (Dir.L :: p)
    | none =>
      if isAbs l then some []
      else
        match selHno l with
        | some p => some (Dir.L :: p)
        | none => (selHno r).map (Dir.R :: ·)

def selHap : Term → Option Pos
  | var _ => none
  | abs b => (selHap b).map (Dir.B :: ·)
  | app l r =>
    match selCbv l with
    | some p => some (Dir.L :: p)
    | none =>
      match selHap r with
      | some p => some (Dir.R :: p)
      | none => if isAbs l then some [] else (selHap l).map (Dir.L :: ·)

def sel : Order → Term → Option Pos
  | .NOR => selNor
  | .CBN => selCbn
  | .APP => selApp
  | .CBV => selCbv
  | .HSP => selHsp
  | .HNO => selHno
  | .HAP => selHap

theorem pos_append_cycle {p q s s' : Pos} (h1 : p = q ++ s) (h2 : q = p ++ s') : p = q := by
  have e1 := congrArg List.length h1
  have e2 := congrArg List.length h2
  simp only [List.length_append] at e1 e2
  have : s = [] := List.eq_nil_of_length_eq_zero (by omega)
  subst this
  simpa using h1

theorem not_leftOf_of_prefix_left {p q s : Pos} (h : p = q ++ s) : ¬ leftOf p q := by
  rintro ⟨r, p', q', hp, hq⟩
  subst hq
  rw [hp, List.append_assoc] at h
  have := List.append_cancel_left h
  simp at this

theorem not_leftOf_of_prefix_right {p q s : Pos} (h : q = p ++ s) : ¬ leftOf p q := by
  rintro ⟨r, p', q', hp, hq⟩
  subst hp
  rw [hq, List.append_assoc] at h
  have := List.append_cancel_left h
  simp at this

theorem spineL_cons {d : Dir} {p : Pos} : spineL (d :: p) ↔ d = Dir.L ∧ spineL p := by
  simp [spineL]

theorem spineL_noArg {p : Pos} (h : spineL p) : noArg p := by
  intro hm
  cases h Dir.R hm

theorem cbvBefore_nil_right {p : Pos} : cbvBefore p [] ↔ p ≠ [] := by
  constructor
  · rintro (h | ⟨s, hs, rfl⟩)
    · exact absurd h not_leftOf_nil_right
    · simpa using hs
  · intro h; exact Or.inr ⟨p, h, rfl⟩

theorem not_cbvBefore_nil_left {q : Pos} : ¬ cbvBefore [] q := by
  rintro (h | ⟨s, hs, h⟩)
  · exact not_leftOf_nil_left h
  · cases q with
    | nil => exact hs (by simpa using h.symm)
    | cons e q => simp at h

theorem cbvBefore_cons {d e : Dir} {p q : Pos} :
    cbvBefore (d :: p) (e :: q) ↔ (d = Dir.L ∧ e = Dir.R) ∨ (d = e ∧ cbvBefore p q) := by
  unfold cbvBefore
  rw [leftOf_cons]
  constructor
  · rintro ((h | ⟨h1, h2⟩) | ⟨s, hs, h⟩)
    · exact Or.inl h
    · exact Or.inr ⟨h1, Or.inl h2⟩
    · simp only [List.cons_append, List.cons.injEq] at h
      exact Or.inr ⟨h.1, Or.inr ⟨s, hs, h.2⟩⟩
  · rintro (h | ⟨h1, h2 | ⟨s, hs, h⟩⟩)
    · exact Or.inl (Or.inl h)
    · exact Or.inl (Or.inr ⟨h1, h2⟩)
    · exact Or.inr ⟨s, hs, by simp [h1, h]⟩

/-- "first in `cbvBefore`" passes under a common first step -/
theorem cbvFirst_cons (d : Dir) {p q : Pos} (h : q = p ∨ cbvBefore p q) :
    d :: q = d :: p ∨ cbvBefore (d :: p) (d :: q) :=
  h.imp (congrArg _) (fun h => cbvBefore_cons.2 (Or.inr ⟨rfl, h⟩))

theorem cbvBefore_asymm {p q : Pos} (h : cbvBefore p q) : ¬ cbvBefore q p := by
  rintro h'
  rcases h with h | ⟨s, hs, hp⟩
  · rcases h' with h' | ⟨s', _, hq⟩
    · exact leftOf_asymm h h'
    · exact not_leftOf_of_prefix_right hq h
  · rcases h' with h' | ⟨s', _, hq⟩
    · exact not_leftOf_of_prefix_right hp h'
    · have e := pos_append_cycle hp hq
      subst e
      exact hs (by simpa using hp)

/-- In the order "inner before outer, left before right" the first position of a class `R` is innermost in `R`, and it
lies to the left of every other innermost position of `R`: it is the leftmost of the innermost. -/
theorem lmi_of_first {R : Pos → Prop} {p : Pos} (hp : R p) (h : ∀ q, R q → q = p ∨ cbvBefore p q) :
    (∀ s, s ≠ [] → ¬ R (p ++ s)) ∧ ∀ q, R q → (∀ s, s ≠ [] → ¬ R (q ++ s)) → q = p ∨ leftOf p q := by
  constructor
  · intro s hs hr
    rcases h _ hr with e | hl | ⟨s', hs', e⟩
    · exact hs (by simpa using e)
    · exact not_leftOf_of_prefix_right rfl hl
    · exact hs (by simpa using pos_append_cycle e rfl)
  · intro q hq hin
    rcases h q hq with e | hl | ⟨s, hs, e⟩
    · exact Or.inl e
    · exact Or.inr hl
    · exact absurd (e ▸ hp) (hin s hs)

theorem isLMI_of_first {t : Term} {p : Pos} (h : redexAt t p ∧ ∀ q, redexAt t q → q = p ∨ cbvBefore p q) :
    isLMI t p :=
  have hl := lmi_of_first (R := redexAt t) h.1 h.2
  ⟨⟨h.1, hl.1⟩, fun q hq => hl.2 q hq.1 hq.2⟩

theorem isLMIW_of_first {t : Term} {p : Pos}
    (h : redexAt t p ∧ weak p ∧ ∀ q, redexAt t q → weak q → q = p ∨ cbvBefore p q) : isLMIW t p :=
  have hl := lmi_of_first (R := fun q => redexAt t q ∧ weak q) ⟨h.1, h.2.1⟩ (fun q hq => h.2.2 q hq.1 hq.2)
  ⟨⟨h.1, h.2.1, fun s hs hw hr => hl.1 s hs ⟨hr, hw⟩⟩,
    fun q hq => hl.2 q ⟨hq.1, hq.2.1⟩ (fun s hs hr => hq.2.2 s hs hr.2 hr.1)⟩

theorem isLMI_unique {t : Term} {p q : Pos} (hp : isLMI t p) (hq : isLMI t q) : p = q :=
  first_unique (R := innermost t) (lt := leftOf) leftOf_asymm hp hq

theorem isLMIW_unique {t : Term} {p q : Pos} (hp : isLMIW t p) (hq : isLMIW t q) : p = q :=
  first_unique (R := innermostW t) (lt := leftOf) leftOf_asymm hp hq

theorem spineInnermost_abs_B {b : Term} {p : Pos} :
    spineInnermost (abs b) (Dir.B :: p) ↔ spineInnermost b p := by
  simp only [spineInnermost, List.cons_append, redexAt_abs_B]

theorem spineInnermost_app_L {l r : Term} {p : Pos} :
    spineInnermost (app l r) (Dir.L :: p) ↔ spineInnermost l p := by
  simp only [spineInnermost, List.cons_append, redexAt_app_L]

theorem spineInnermost_app_R {l r : Term} {p : Pos} :
    spineInnermost (app l r) (Dir.R :: p) ↔ spineInnermost r p := by
  simp only [spineInnermost, List.cons_append, redexAt_app_R]

theorem spineInnermost_app_nil {l r : Term} :
    spineInnermost (app l r) [] ↔ isAbs l = true ∧ ∀ q, noArg q → ¬ redexAt l q := by
  simp only [spineInnermost, List.nil_append, redexAt_app_nil]
  constructor
  · rintro ⟨h1, h2⟩
    exact ⟨h1, fun q hq hr =>
      h2 (Dir.L :: q) (by simp) (noArg_cons.2 ⟨by simp, hq⟩) (redexAt_app_L.2 hr)⟩
  · rintro ⟨h1, h2⟩
    refine ⟨h1, fun s hs hn hr => ?_⟩
    rcases redexAt_app_iff.1 hr with ⟨rfl, _⟩ | ⟨q, rfl, hq⟩ | ⟨q, rfl, _⟩
    · exact hs rfl
    · exact h2 q (noArg_cons.1 hn).2 hq
    · exact absurd rfl (noArg_cons.1 hn).1

/-- two redexes on the head spine are nested -/
theorem spine_comparable (t : Term) : ∀ (p q : Pos), redexAt t p → redexAt t q → noArg p → noArg q →
    (∃ s, p = q ++ s) ∨ (∃ s, q = p ++ s) := by
  induction t with
  | var n => intro p q hp; exact absurd hp redexAt_var
  | abs b ih =>
    intro p q hp hq np nq
    obtain ⟨p', rfl, hp'⟩ := redexAt_abs_iff.1 hp
    obtain ⟨q', rfl, hq'⟩ := redexAt_abs_iff.1 hq
    rcases ih p' q' hp' hq' (noArg_cons.1 np).2 (noArg_cons.1 nq).2 with ⟨s, rfl⟩ | ⟨s, rfl⟩
    · exact Or.inl ⟨s, rfl⟩
    · exact Or.inr ⟨s, rfl⟩
  | app l r ihl _ =>
    intro p q hp hq np nq
    rcases redexAt_app_iff.1 hp with ⟨rfl, _⟩ | ⟨p', rfl, hp'⟩ | ⟨p', rfl, _⟩
    · exact Or.inr ⟨q, rfl⟩
    · rcases redexAt_app_iff.1 hq with ⟨rfl, _⟩ | ⟨q', rfl, hq'⟩ | ⟨q', rfl, _⟩
      · exact Or.inl ⟨_, rfl⟩
      · rcases ihl p' q' hp' hq' (noArg_cons.1 np).2 (noArg_cons.1 nq).2 with ⟨s, rfl⟩ | ⟨s, rfl⟩
        · exact Or.inl ⟨s, rfl⟩
        · exact Or.inr ⟨s, rfl⟩
      · exact absurd rfl (noArg_cons.1 nq).1
    · exact absurd rfl (noArg_cons.1 np).1

theorem spine_comparable_at (g : Pos) : ∀ (t : Term) (s s' : Pos), redexAt t (g ++ s) →
    redexAt t (g ++ s') → noArg s → noArg s' → (∃ x, s = s' ++ x) ∨ (∃ x, s' = s ++ x) := by
  induction g with
  | nil => intro t s s' h h'; exact spine_comparable t s s' h h'
  | cons d g ih =>
    intro t s s' h h' n n'
    cases t with
    | var k => exact absurd h redexAt_var
    | abs b =>
      obtain ⟨_, e, h⟩ := redexAt_abs_iff.1 h
      obtain ⟨_, e', h'⟩ := redexAt_abs_iff.1 h'
      cases e
      cases e'
      exact ih b s s' h h' n n'
    | app l r =>
      cases d with
      | B => exact absurd h redexAt_app_B
      | L => exact ih l s s' (redexAt_app_L.1 h) (redexAt_app_L.1 h') n n'
      | R => exact ih r s s' (redexAt_app_R.1 h) (redexAt_app_R.1 h') n n'

/-- every head-spine redex lies above (is a prefix of) the one HSP selects -/
theorem isHSP_prefix {t : Term} {p q : Pos} (h : isHSP t p) (hq : redexAt t q) (nq : noArg q) :
    ∃ s, p = q ++ s := by
  obtain ⟨np, hp, hdeep⟩ := h
  rcases spine_comparable t p q hp hq np nq with h | ⟨s, rfl⟩
  · exact h
  · by_cases hs : s = []
    · subst hs; exact ⟨[], by simp⟩
    · exact absurd hq (hdeep s hs (noArg_append.1 nq).2)

theorem isHSP_unique {t : Term} {p q : Pos} (hp : isHSP t p) (hq : isHSP t q) : p = q := by
  obtain ⟨s, h1⟩ := isHSP_prefix hp hq.2.1 hq.1
  obtain ⟨s', h2⟩ := isHSP_prefix hq hp.2.1 hp.1
  exact pos_append_cycle h1 h2

/-- a redex on the head spine lies on the head spine of the leftmost-outermost redex, which is then
itself on the head spine -/
theorem spine_redex_lmo (t : Term) : ∀ p, redexAt t p → noArg p →
    ∃ q s, isLMO t q ∧ p = q ++ s := by
  induction t with
  | var n => intro p hp; exact absurd hp redexAt_var
  | abs b ih =>
    intro p hp np
    obtain ⟨p', rfl, hp'⟩ := redexAt_abs_iff.1 hp
    obtain ⟨q, s, hq, rfl⟩ := ih p' hp' (noArg_cons.1 np).2
    exact ⟨Dir.B :: q, s, isLMO_abs_B.2 hq, rfl⟩
  | app l r ihl _ =>
    intro p hp np
    cases ha : isAbs l with
    | true => exact ⟨[], p, isLMO_root r ha, rfl⟩
    | false =>
      rcases redexAt_app_iff.1 hp with ⟨_, h⟩ | ⟨p', rfl, hp'⟩ | ⟨p', rfl, _⟩
      · rw [ha] at h; cases h
      · obtain ⟨q, s, hq, rfl⟩ := ihl p' hp' (noArg_cons.1 np).2
        exact ⟨Dir.L :: q, s, isLMO_app_L ha hq, rfl⟩
      · exact absurd rfl (noArg_cons.1 np).1

theorem isHSP_isHNO {t : Term} {p : Pos} (h : isHSP t p) : isHNO t p := by
  obtain ⟨q, s, hq, rfl⟩ := spine_redex_lmo t p h.2.1 h.1
  exact ⟨h.2, q, s, hq, rfl, (noArg_append.1 h.1).2⟩

theorem isHNO_unique {t : Term} {p p' : Pos} (hp : isHNO t p) (hp' : isHNO t p') : p = p' := by
  obtain ⟨⟨r1, d1⟩, q, s, hq, rfl, ns⟩ := hp
  obtain ⟨⟨r2, d2⟩, q', s', hq', rfl, ns'⟩ := hp'
  have := isLMO_unique hq hq'
  subst this
  rcases spine_comparable_at q t s s' r1 r2 ns ns' with ⟨x, rfl⟩ | ⟨x, rfl⟩
  · by_cases hx : x = []
    · subst hx; simp
    · rw [← List.append_assoc] at r1
      exact absurd r1 (d2 x hx (noArg_append.1 ns).2)
  · by_cases hx : x = []
    · subst hx; simp
    · rw [← List.append_assoc] at r2
      exact absurd r2 (d1 x hx (noArg_append.1 ns').2)

/-- the selector result `s` is right for the selection `P`: a selected position satisfies `P`, and `N` holds when
nothing is selected -/
def Selects (s : Option Pos) (P : Pos → Prop) (N : Prop) : Prop :=
  (∀ p, s = some p → P p) ∧ (s = none → N)

theorem Selects.some {P : Pos → Prop} {N : Prop} {p : Pos} (h : P p) : Selects (some p) P N :=
  ⟨fun _ e => Option.some.inj e ▸ h, nofun⟩

theorem Selects.none {P : Pos → Prop} {N : Prop} (h : N) : Selects none P N :=
  ⟨nofun, fun _ => h⟩

theorem Selects.cons {s : Option Pos} {P P' : Pos → Prop} {N N' : Prop} (d : Dir) (h : Selects s P N)
    (hP : ∀ p, P p → P' (d :: p)) (hN : N → N') : Selects (s.map (d :: ·)) P' N' := by
  cases s with
  | none => exact .none (hN (h.2 rfl))
  | some p => exact .some (hP p (h.1 p rfl))

theorem selCbn_app_abs {l : Term} (r : Term) (h : isAbs l = true) : selCbn (app l r) = some [] := by
  obtain ⟨b, rfl⟩ := isAbs_true h
  rfl

theorem selCbn_app_of_not_abs {l : Term} (r : Term) (h : isAbs l = false) :
    selCbn (app l r) = (selCbn l).map (Dir.L :: ·) := by
  cases l with
  | var n => rfl
  | abs b => cases h
  | app l1 l2 => simp [selCbn]

theorem selNor_app_abs {l : Term} (r : Term) (h : isAbs l = true) : selNor (app l r) = some [] := by
  obtain ⟨b, rfl⟩ := isAbs_true h
  rfl

theorem selNor_app_of_not_abs {l : Term} (r : Term) (h : isAbs l = false) :
    selNor (app l r) =
      match selNor l with
      | some p => some (Dir.L :: p)
      | none => (selNor r).map (Dir.R :: ·) := by
  cases l with
  | var n => simp [selNor]
  | abs b => cases h
  | app l1 l2 => simp only [selNor]

theorem selNor_sound (t : Term) : Selects (selNor t) (isLMO t) (∀ p, ¬ redexAt t p) := by
  induction t with
  | var n => exact .none fun _ => redexAt_var
  | abs b ih => exact ih.cons Dir.B (fun _ => isLMO_abs_B.2) no_redex_abs
  | app l r ihl ihr =>
    cases ha : isAbs l with
    | true =>
      rw [selNor_app_abs r ha]
      exact .some (isLMO_root r ha)
    | false =>
      rw [selNor_app_of_not_abs r ha]
      cases hsl : selNor l with
      | some p' => exact .some (isLMO_app_L ha (ihl.1 p' hsl))
      | none =>
        exact ihr.cons Dir.R (fun _ => isLMO_app_R ha (ihl.2 hsl)) (no_redex_app ha (ihl.2 hsl))

theorem selCbn_sound (t : Term) :
    Selects (selCbn t) (fun p => isLMO t p ∧ spineL p) (∀ p, isLMO t p → ¬ spineL p) := by
  induction t with
  | var n => exact .none fun p hp => absurd hp.1 redexAt_var
  | abs b _ =>
    refine .none fun p hp hs => ?_
    obtain ⟨p', rfl, _⟩ := redexAt_abs_iff.1 hp.1
    cases (spineL_cons.1 hs).1
  | app l r ihl _ =>
    cases ha : isAbs l with
    | true =>
      rw [selCbn_app_abs r ha]
      exact .some ⟨isLMO_root r ha, nofun⟩
    | false =>
      rw [selCbn_app_of_not_abs r ha]
      refine ihl.cons Dir.L (fun p hp => ⟨isLMO_app_L ha hp.1, spineL_cons.2 ⟨rfl, hp.2⟩⟩) ?_
      intro hn p hp hs
      cases p with
      | nil => rw [redexAt_app_nil.1 hp.1] at ha; cases ha
      | cons d p =>
        obtain ⟨rfl, hs'⟩ := spineL_cons.1 hs
        exact hn p (isLMO_of_app_L hp) hs'

theorem selApp_sound (t : Term) :
    Selects (selApp t) (fun p => redexAt t p ∧ ∀ q, redexAt t q → q = p ∨ cbvBefore p q) (∀ p, ¬ redexAt t p) := by
  induction t with
  | var n => exact .none fun _ => redexAt_var
  | abs b ih =>
    refine ih.cons Dir.B (fun p hp => ⟨redexAt_abs_B.2 hp.1, fun q hq => ?_⟩) no_redex_abs
    obtain ⟨q', rfl, hq'⟩ := redexAt_abs_iff.1 hq
    exact cbvFirst_cons _ (hp.2 q' hq')
  | app l r ihl ihr =>
    rw [selApp]
    cases hsl : selApp l with
    | some p' =>
      obtain ⟨h1, h2⟩ := ihl.1 p' hsl
      refine .some ⟨redexAt_app_L.2 h1, fun q hq => ?_⟩
      rcases redexAt_app_iff.1 hq with ⟨rfl, _⟩ | ⟨q, rfl, hq⟩ | ⟨q, rfl, _⟩
      · exact Or.inr (cbvBefore_nil_right.2 (List.cons_ne_nil _ _))
      · exact cbvFirst_cons _ (h2 q hq)
      · exact Or.inr (cbvBefore_cons.2 (Or.inl ⟨rfl, rfl⟩))
    | none =>
      have nl := ihl.2 hsl
      cases hsr : selApp r with
      | some p' =>
        obtain ⟨h1, h2⟩ := ihr.1 p' hsr
        refine .some ⟨redexAt_app_R.2 h1, fun q hq => ?_⟩
        rcases redexAt_app_iff.1 hq with ⟨rfl, _⟩ | ⟨q, _, hq⟩ | ⟨q, rfl, hq⟩
        · exact Or.inr (cbvBefore_nil_right.2 (List.cons_ne_nil _ _))
        · exact absurd hq (nl q)
        · exact cbvFirst_cons _ (h2 q hq)
      | none =>
        have nr := ihr.2 hsr
        cases ha : isAbs l with
        | false => exact .none (no_redex_app ha nl nr)
        | true =>
          refine .some ⟨redexAt_app_nil.2 ha, fun q hq => ?_⟩
          rcases redexAt_app_iff.1 hq with ⟨rfl, _⟩ | ⟨q, _, hq⟩ | ⟨q, _, hq⟩
          · exact Or.inl rfl
          · exact absurd hq (nl q)
          · exact absurd hq (nr q)

/-- CBV: the selected redex is the first of the redexes outside abstractions in the order `cbvBefore` (inner before
outer, left before right) -/
theorem selCbv_sound (t : Term) :
    Selects (selCbv t) (fun p => redexAt t p ∧ weak p ∧ ∀ q, redexAt t q → weak q → q = p ∨ cbvBefore p q)
      (∀ p, redexAt t p → ¬ weak p) := by
  induction t with
  | var n => exact .none fun p hp => absurd hp redexAt_var
  | abs b _ => exact .none fun p hp => not_weak_redexAt_abs hp
  | app l r ihl ihr =>
    rw [selCbv]
    cases hsl : selCbv l with
    | some p' =>
      obtain ⟨h1, h2, h3⟩ := ihl.1 p' hsl
      refine .some ⟨redexAt_app_L.2 h1, weak_cons.2 ⟨nofun, h2⟩, fun q hq wq => ?_⟩
      rcases redexAt_app_iff.1 hq with ⟨rfl, _⟩ | ⟨q, rfl, hq⟩ | ⟨q, rfl, _⟩
      · exact Or.inr (cbvBefore_nil_right.2 (List.cons_ne_nil _ _))
      · exact cbvFirst_cons _ (h3 q hq (weak_cons.1 wq).2)
      · exact Or.inr (cbvBefore_cons.2 (Or.inl ⟨rfl, rfl⟩))
    | none =>
      have nl := ihl.2 hsl
      cases hsr : selCbv r with
      | some p' =>
        obtain ⟨h1, h2, h3⟩ := ihr.1 p' hsr
        refine .some ⟨redexAt_app_R.2 h1, weak_cons.2 ⟨nofun, h2⟩, fun q hq wq => ?_⟩
        rcases redexAt_app_iff.1 hq with ⟨rfl, _⟩ | ⟨q, rfl, hq⟩ | ⟨q, rfl, hq⟩
        · exact Or.inr (cbvBefore_nil_right.2 (List.cons_ne_nil _ _))
        · exact absurd (weak_cons.1 wq).2 (nl q hq)
        · exact cbvFirst_cons _ (h3 q hq (weak_cons.1 wq).2)
      | none =>
        have nr := ihr.2 hsr
        cases ha : isAbs l with
        | false =>
          refine .none fun p hp hw => ?_
          rcases redexAt_app_iff.1 hp with ⟨_, h⟩ | ⟨q, rfl, hq⟩ | ⟨q, rfl, hq⟩
          · rw [ha] at h; cases h
          · exact nl q hq (weak_cons.1 hw).2
          · exact nr q hq (weak_cons.1 hw).2
        | true =>
          refine .some ⟨redexAt_app_nil.2 ha, weak_nil, fun q hq wq => ?_⟩
          rcases redexAt_app_iff.1 hq with ⟨rfl, _⟩ | ⟨q, rfl, hq⟩ | ⟨q, rfl, hq⟩
          · exact Or.inl rfl
          · exact absurd (weak_cons.1 wq).2 (nl q hq)
          · exact absurd (weak_cons.1 wq).2 (nr q hq)

theorem selHsp_sound (t : Term) : Selects (selHsp t) (isHSP t) (∀ q, noArg q → ¬ redexAt t q) := by
  induction t with
  | var n => exact .none fun _ _ => redexAt_var
  | abs b ih =>
    refine ih.cons Dir.B (fun p hp => ⟨noArg_cons.2 ⟨nofun, hp.1⟩, spineInnermost_abs_B.2 hp.2⟩) ?_
    intro hn q nq hq
    obtain ⟨q', rfl, hq'⟩ := redexAt_abs_iff.1 hq
    exact hn q' (noArg_cons.1 nq).2 hq'
  | app l r ihl _ =>
    rw [selHsp]
    cases hl : selHsp l with
    | some p' =>
      obtain ⟨np, hs⟩ := ihl.1 p' hl
      exact .some ⟨noArg_cons.2 ⟨nofun, np⟩, spineInnermost_app_L.2 hs⟩
    | none =>
      have nl := ihl.2 hl
      cases ha : isAbs l with
      | true => exact .some ⟨noArg_nil, spineInnermost_app_nil.2 ⟨ha, nl⟩⟩
      | false =>
        refine .none fun q nq hq => ?_
        rcases redexAt_app_iff.1 hq with ⟨_, h⟩ | ⟨q, rfl, hq⟩ | ⟨q, rfl, _⟩
        · rw [ha] at h; cases h
        · exact nl q (noArg_cons.1 nq).2 hq
        · exact absurd rfl (noArg_cons.1 nq).1

theorem isHNO_abs_B {b : Term} {p : Pos} (h : isHNO b p) : isHNO (abs b) (Dir.B :: p) := by
  obtain ⟨hs, q, s, hq, rfl, ns⟩ := h
  exact ⟨spineInnermost_abs_B.2 hs, Dir.B :: q, s, isLMO_abs_B.2 hq, rfl, ns⟩

theorem selHno_sound (t : Term) : Selects (selHno t) (isHNO t) (∀ q, ¬ redexAt t q) := by
  induction t with
  | var n => exact .none fun _ => redexAt_var
  | abs b ih => exact ih.cons Dir.B (fun _ => isHNO_abs_B) no_redex_abs
  | app l r ihl ihr =>
    have hsp := selHsp_sound (app l r)
    rw [selHsp] at hsp
    rw [selHno]
    cases hl : selHsp l with
    | some p' =>
      rw [hl] at hsp
      exact .some (isHSP_isHNO (hsp.1 _ rfl))
    | none =>
      rw [hl] at hsp
      cases ha : isAbs l with
      | true =>
        rw [ha] at hsp
        exact .some (isHSP_isHNO (hsp.1 _ rfl))
      | false =>
        cases hsl : selHno l with
        | some p' =>
          obtain ⟨hs, q, s, hq, rfl, ns⟩ := ihl.1 p' hsl
          exact .some ⟨spineInnermost_app_L.2 hs, Dir.L :: q, s, isLMO_app_L ha hq, rfl, ns⟩
        | none =>
          have nl := ihl.2 hsl
          refine ihr.cons Dir.R ?_ (no_redex_app ha nl)
          rintro _ ⟨hs, q, s, hq, rfl, ns⟩
          exact ⟨spineInnermost_app_R.2 hs, Dir.R :: q, s, isLMO_app_R ha nl hq, rfl, ns⟩

end Spec
end LC
