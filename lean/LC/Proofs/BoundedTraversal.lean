/-
The representation boundary of De Bruijn indices: the seven traversals with the checked `eval`.

`betaXChk M limit fuel t c` is `betaX limit fuel t c` of `Model/Reduce.lean` with the contraction made by
`contractChk M` (a panic of `eval` unwinds the whole call).  Answers: `ChkRes.fuel` (out of model fuel, never an
answer of the crate), `ChkRes.panic` ("De Bruijn index overflow"), `ChkRes.ret t' c'` (the term left in place and the
count).

This file: the definitions; the scheme the seven checked traversals are instances of (`visitChk`, `finishChk`,
`betaOrdChk_succ`) with its equations; and `Sim`, `betaOrdChk_sim`: a checked call that does not panic made the same
contractions as the unbounded call, whatever the term.  What a panic means, and that the returned terms are
representable, is in `Proofs/BoundedTraversalExact.lean` and `Proofs/BoundedTraversalExactAll.lean`.
-/
import LC.Proofs.BoundedStep
import LC.Proofs.Refine.All

namespace LC
namespace Term

inductive ChkRes where
  | fuel
  | panic
  | ret (t : Term) (c : Nat)
deriving DecidableEq, Repr

/-- `beta_cbn` with checked `eval` -/
def betaCbnChk (M limit : Nat) : Nat → Term → Nat → ChkRes
  | 0, _, _ => .fuel
  | fuel+1, t, c =>
    if gate limit c then .ret t c else
    match t with
    | app l r =>
      match betaCbnChk M limit fuel l c with
      | .fuel => .fuel
      | .panic => .panic
      | .ret l' c' =>
        match l' with
        | abs b =>
          if budget limit c' then
            match contractChk M b r with
            | none => .panic
            | some u => betaCbnChk M limit fuel u (c'+1)
          else .ret (app l' r) c'
        | _ => .ret (app l' r) c'
    | t => .ret t c

/-- `beta_nor` with checked `eval` -/
def betaNorChk (M limit : Nat) : Nat → Term → Nat → ChkRes
  | 0, _, _ => .fuel
  | fuel+1, t, c =>
    if gate limit c then .ret t c else
    match t with
    | abs b =>
      match betaNorChk M limit fuel b c with
      | .fuel => .fuel
      | .panic => .panic
      | .ret b' c1 => .ret (abs b') c1
    | app l r =>
      match betaCbnChk M limit fuel l c with
      | .fuel => .fuel
      | .panic => .panic
      | .ret l' c1 =>
        if isAbs l' && budget limit c1 then
          match l' with
          | abs b =>
            match contractChk M b r with
            | none => .panic
            | some u => betaNorChk M limit fuel u (c1+1)
          | _ => .fuel
        else
          match betaNorChk M limit fuel l' c1 with
          | .fuel => .fuel
          | .panic => .panic
          | .ret l2 c2 =>
            match betaNorChk M limit fuel r c2 with
            | .fuel => .fuel
            | .panic => .panic
            | .ret r' c3 => .ret (app l2 r') c3
    | t => .ret t c

/-- `beta_cbv` with checked `eval` -/
def betaCbvChk (M limit : Nat) : Nat → Term → Nat → ChkRes
  | 0, _, _ => .fuel
  | fuel+1, t, c =>
    if gate limit c then .ret t c else
    match t with
    | app l r =>
      match betaCbvChk M limit fuel l c with
      | .fuel => .fuel
      | .panic => .panic
      | .ret l' c1 =>
        match betaCbvChk M limit fuel r c1 with
        | .fuel => .fuel
        | .panic => .panic
        | .ret r' c2 =>
          match l' with
          | abs b =>
            if budget limit c2 then
              match contractChk M b r' with
              | none => .panic
              | some u => betaCbvChk M limit fuel u (c2+1)
            else .ret (app l' r') c2
          | _ => .ret (app l' r') c2
    | t => .ret t c

/-- `beta_app` with checked `eval` -/
def betaAppChk (M limit : Nat) : Nat → Term → Nat → ChkRes
  | 0, _, _ => .fuel
  | fuel+1, t, c =>
    if gate limit c then .ret t c else
    match t with
    | abs b =>
      match betaAppChk M limit fuel b c with
      | .fuel => .fuel
      | .panic => .panic
      | .ret b' c1 => .ret (abs b') c1
    | app l r =>
      match betaAppChk M limit fuel l c with
      | .fuel => .fuel
      | .panic => .panic
      | .ret l' c1 =>
        match betaAppChk M limit fuel r c1 with
        | .fuel => .fuel
        | .panic => .panic
        | .ret r' c2 =>
          match l' with
          | abs b =>
            if budget limit c2 then
              match contractChk M b r' with
              | none => .panic
              | some u => betaAppChk M limit fuel u (c2+1)
            else .ret (app l' r') c2
          | _ => .ret (app l' r') c2
    | t => .ret t c

/-- `beta_hap` with checked `eval` -/
def betaHapChk (M limit : Nat) : Nat → Term → Nat → ChkRes
  | 0, _, _ => .fuel
  | fuel+1, t, c =>
    if gate limit c then .ret t c else
    match t with
    | abs b =>
      match betaHapChk M limit fuel b c with
      | .fuel => .fuel
      | .panic => .panic
      | .ret b' c1 => .ret (abs b') c1
    | app l r =>
      match betaCbvChk M limit fuel l c with
      | .fuel => .fuel
      | .panic => .panic
      | .ret l' c1 =>
        match betaHapChk M limit fuel r c1 with
        | .fuel => .fuel
        | .panic => .panic
        | .ret r' c2 =>
          if isAbs l' && budget limit c2 then
            match l' with
            | abs b =>
              match contractChk M b r' with
              | none => .panic
              | some u => betaHapChk M limit fuel u (c2+1)
            | _ => .fuel
          else
            match betaHapChk M limit fuel l' c2 with
            | .fuel => .fuel
            | .panic => .panic
            | .ret l2 c3 => .ret (app l2 r') c3
    | t => .ret t c

/-- `beta_hsp` with checked `eval` -/
def betaHspChk (M limit : Nat) : Nat → Term → Nat → ChkRes
  | 0, _, _ => .fuel
  | fuel+1, t, c =>
    if gate limit c then .ret t c else
    match t with
    | abs b =>
      match betaHspChk M limit fuel b c with
      | .fuel => .fuel
      | .panic => .panic
      | .ret b' c1 => .ret (abs b') c1
    | app l r =>
      match betaHspChk M limit fuel l c with
      | .fuel => .fuel
      | .panic => .panic
      | .ret l' c1 =>
        match l' with
        | abs b =>
          if budget limit c1 then
            match contractChk M b r with
            | none => .panic
            | some u => betaHspChk M limit fuel u (c1+1)
          else .ret (app l' r) c1
        | _ => .ret (app l' r) c1
    | t => .ret t c

/-- `beta_hno` with checked `eval` -/
def betaHnoChk (M limit : Nat) : Nat → Term → Nat → ChkRes
  | 0, _, _ => .fuel
  | fuel+1, t, c =>
    if gate limit c then .ret t c else
    match t with
    | abs b =>
      match betaHnoChk M limit fuel b c with
      | .fuel => .fuel
      | .panic => .panic
      | .ret b' c1 => .ret (abs b') c1
    | app l r =>
      match betaHspChk M limit fuel l c with
      | .fuel => .fuel
      | .panic => .panic
      | .ret l' c1 =>
        if isAbs l' && budget limit c1 then
          match l' with
          | abs b =>
            match contractChk M b r with
            | none => .panic
            | some u => betaHnoChk M limit fuel u (c1+1)
          | _ => .fuel
        else
          match betaHnoChk M limit fuel l' c1 with
          | .fuel => .fuel
          | .panic => .panic
          | .ret l2 c2 =>
            match betaHnoChk M limit fuel r c2 with
            | .fuel => .fuel
            | .panic => .panic
            | .ret r' c3 => .ret (app l2 r') c3
    | t => .ret t c

def betaOrdChk (M : Nat) (o : Order) (limit fuel : Nat) (t : Term) (c : Nat) : ChkRes :=
  match o with
  | .CBN => betaCbnChk M limit fuel t c
  | .NOR => betaNorChk M limit fuel t c
  | .CBV => betaCbvChk M limit fuel t c
  | .APP => betaAppChk M limit fuel t c
  | .HSP => betaHspChk M limit fuel t c
  | .HNO => betaHnoChk M limit fuel t c
  | .HAP => betaHapChk M limit fuel t c

/-- `Term::reduce(order, limit)` on `usize`-like indices -/
def reduceChk (M : Nat) (o : Order) (limit fuel : Nat) (t : Term) : ChkRes :=
  betaOrdChk M o limit fuel t 0

def ChkRes.bind (x : ChkRes) (k : Term → Nat → ChkRes) : ChkRes :=
  match x with
  | .fuel => .fuel
  | .panic => .panic
  | .ret t c => k t c

def callIfChk (b : Bool) (f : Term → Nat → ChkRes) (t : Term) (c : Nat) : ChkRes :=
  if b then f t c else .ret t c

/-- `finish` with the checked contraction.  As there, the branch `| _ => .fuel` is never taken; it answers
`.fuel` because that is what the `betaXChk` above answer at this place, and `Sim` relates it to the `none`
of `finish`. -/
def finishChk (M L : Nat) (self : Order → Term → Nat → ChkRes) (o : Order) (l r : Term) (c : Nat) :
    ChkRes :=
  if isAbs l && budget L c then
    match l with
    | abs b =>
      match contractChk M b r with
      | none => .panic
      | some u => self o u (c + 1)
    | _ => .fuel
  else if o.deep then
    (self o l c).bind fun l' c1 =>
      (callIfChk (!o.eager) (self o) r c1).bind fun r' c2 => .ret (app l' r') c2
  else .ret (app l r) c

/-- one level of the checked traversal of order `o`; `self` stands for the recursive calls -/
def visitChk (M L : Nat) (self : Order → Term → Nat → ChkRes) (o : Order) (t : Term) (c : Nat) :
    ChkRes :=
  if gate L c then .ret t c else
  match t with
  | var i => .ret (var i) c
  | abs b => if o.under then (self o b c).bind fun b' c1 => .ret (abs b') c1 else .ret (abs b) c
  | app l r =>
    (self o.head l c).bind fun l' c1 =>
      (callIfChk o.eager (self o) r c1).bind fun r' c2 => finishChk M L self o l' r' c2

theorem finishChk_of_not_deep {M L : Nat} {self : Order → Term → Nat → ChkRes} {o : Order}
    (hd : o.deep = false) (l r : Term) (c : Nat) :
    finishChk M L self o l r c =
      match l with
      | abs b =>
        if budget L c then
          match contractChk M b r with
          | none => .panic
          | some u => self o u (c + 1)
        else .ret (app l r) c
      | _ => .ret (app l r) c := by
  cases l <;> simp only [finishChk, isAbs, hd, Bool.false_and, Bool.true_and, Bool.false_eq_true, if_false]

section
variable {M L : Nat} {self : Order → Term → Nat → ChkRes} {o : Order}

theorem finishChk_red {b r : Term} {c : Nat} (hb : budget L c = true) :
    finishChk M L self o (abs b) r c =
      match contractChk M b r with
      | none => .panic
      | some u => self o u (c + 1) := by
  simp only [finishChk, isAbs, hb, Bool.and_self, if_true]

theorem finishChk_shallow {l r : Term} {c : Nat} (hred : (isAbs l && budget L c) = false)
    (hd : o.deep = false) : finishChk M L self o l r c = .ret (app l r) c := by
  simp only [finishChk, hred, hd, Bool.false_eq_true, if_false]

theorem finishChk_deep {l r : Term} {c : Nat} (hred : (isAbs l && budget L c) = false)
    (hd : o.deep = true) :
    finishChk M L self o l r c =
      (self o l c).bind fun l' c1 =>
        (callIfChk (!o.eager) (self o) r c1).bind fun r' c2 => .ret (app l' r') c2 := by
  simp only [finishChk, hred, hd, Bool.false_eq_true, if_false, if_true]

theorem visitChk_gate {t : Term} {c : Nat} (hg : gate L c = true) :
    visitChk M L self o t c = .ret t c := by
  simp only [visitChk, hg, if_true]

theorem visitChk_var {i c : Nat} : visitChk M L self o (var i) c = .ret (var i) c := by
  unfold visitChk
  split <;> rfl

theorem visitChk_abs_stop {b : Term} {c : Nat} (hu : o.under = false) :
    visitChk M L self o (abs b) c = .ret (abs b) c := by
  unfold visitChk
  split
  · rfl
  · simp only [hu, Bool.false_eq_true, if_false]

theorem visitChk_abs {b : Term} {c : Nat} (hg : gate L c = false) (hu : o.under = true) :
    visitChk M L self o (abs b) c = (self o b c).bind fun b' c1 => .ret (abs b') c1 := by
  simp only [visitChk, hg, hu, Bool.false_eq_true, if_false, if_true]

theorem visitChk_app {l r : Term} {c : Nat} (hg : gate L c = false) :
    visitChk M L self o (app l r) c =
      (self o.head l c).bind fun l' c1 =>
        (callIfChk o.eager (self o) r c1).bind fun r' c2 => finishChk M L self o l' r' c2 := by
  simp only [visitChk, hg, Bool.false_eq_true, if_false]

end

theorem betaOrdChk_zero (M : Nat) (o : Order) (L : Nat) (t : Term) (c : Nat) :
    betaOrdChk M o L 0 t c = .fuel := by
  cases o <;> rfl

theorem betaOrdChk_succ (M : Nat) (o : Order) (L fuel : Nat) (t : Term) (c : Nat) :
    betaOrdChk M o L (fuel + 1) t c = visitChk M L (fun o' => betaOrdChk M o' L fuel) o t c := by
  cases o <;> cases t
  all_goals try rfl
  case CBN.app => simp only [visitChk, finishChk_of_not_deep (o := .CBN) rfl]; rfl
  case HSP.app => simp only [visitChk, finishChk_of_not_deep (o := .HSP) rfl]; rfl
  case APP.app => simp only [visitChk, finishChk_of_not_deep (o := .APP) rfl]; rfl
  case CBV.app => simp only [visitChk, finishChk_of_not_deep (o := .CBV) rfl]; rfl

/-- `fuel` against `none`, `ret t c` against `some (t, c)`; nothing is said of a panic -/
def Sim (x : ChkRes) (y : Option (Term × Nat)) : Prop :=
  match x with
  | .fuel => y = none
  | .panic => True
  | .ret t c => y = some (t, c)

theorem Sim.bind {x : ChkRes} {y : Option (Term × Nat)} {kx : Term → Nat → ChkRes}
    {ky : Term × Nat → Option (Term × Nat)} (h : Sim x y) (hk : ∀ t c, Sim (kx t c) (ky (t, c))) :
    Sim (x.bind kx) (y.bind ky) := by
  cases x with
  | fuel => cases h; rfl
  | panic => trivial
  | ret t c => cases h; exact hk t c

section
variable {M L : Nat} {selfC : Order → Term → Nat → ChkRes}
  {self : Order → Term → Nat → Option (Term × Nat)}

theorem callIfChk_sim (ih : ∀ o t c, Sim (selfC o t c) (self o t c)) (b : Bool) (o : Order) (t : Term)
    (c : Nat) : Sim (callIfChk b (selfC o) t c) (callIf b (self o) t c) := by
  cases b with
  | false => exact rfl
  | true => exact ih o t c

theorem finishChk_sim (ih : ∀ o t c, Sim (selfC o t c) (self o t c)) (o : Order) (l r : Term) (c : Nat) :
    Sim (finishChk M L selfC o l r c) (finish L self o l r c) := by
  rcases redex_cases l L c with ⟨b, rfl, hb⟩ | hred
  · rw [finishChk_red hb, finish_red hb]
    cases hk : contractChk M b r with
    | none => trivial
    | some u => rw [contractChk_some M b r u hk]; exact ih o _ _
  · cases hd : o.deep with
    | false => rw [finishChk_shallow hred hd, finish_shallow hred hd]; exact rfl
    | true =>
      rw [finishChk_deep hred hd, finish_deep_bind hred hd]
      exact Sim.bind (ih o l c) fun l' c1 =>
        Sim.bind (callIfChk_sim ih _ o r c1) fun r' c2 => rfl

theorem visitChk_sim (ih : ∀ o t c, Sim (selfC o t c) (self o t c)) (o : Order) (t : Term) (c : Nat) :
    Sim (visitChk M L selfC o t c) (visit L self o t c) := by
  cases hg : gate L c with
  | true => rw [visitChk_gate hg, visit_gate hg]; exact rfl
  | false =>
    cases t with
    | var i => rw [visitChk_var, visit_var]; exact rfl
    | abs b =>
      cases hu : o.under with
      | false => rw [visitChk_abs_stop hu, visit_abs_stop hu]; exact rfl
      | true =>
        rw [visitChk_abs hg hu, visit_abs_bind hg hu]
        exact Sim.bind (ih o b c) fun b' c1 => rfl
    | app l r =>
      rw [visitChk_app hg, visit_app_bind hg]
      exact Sim.bind (ih _ l c) fun l' c1 =>
        Sim.bind (callIfChk_sim ih _ o r c1) fun r' c2 => finishChk_sim ih o l' r' c2

end

theorem betaOrdChk_sim (M : Nat) (o : Order) (L fuel : Nat) (t : Term) (c : Nat) :
    Sim (betaOrdChk M o L fuel t c) (betaOrd o L fuel t c) := by
  induction fuel generalizing o t c with
  | zero => rw [betaOrdChk_zero, betaOrd_zero]; exact rfl
  | succ fuel ih =>
    rw [betaOrdChk_succ, betaOrd_succ]
    exact visitChk_sim (fun o t c => ih o t c) o t c

theorem budget_of_not_gate {L c : Nat} (hc : L = 0 ∨ c ≤ L) (hg : ¬ gate L c = true) : budget L c = true := by
  rw [Bool.not_eq_true, gate_eq_false] at hg
  exact budget_eq_true.2 (by omega)

theorem betaOrdChk_post {M : Nat} {o : Order} {L fuel : Nat} {t : Term} {c : Nat} {t' : Term} {c' : Nat}
    (hc : L = 0 ∨ c ≤ L) (h : betaOrdChk M o L fuel t c = .ret t' c') :
    Post (stepOrd o) L c t t' c' := by
  have := betaOrdChk_sim M o L fuel t c
  rw [h] at this
  exact betaOrd_sound o L fuel t c t' c' this hc

end Term
end LC
