/-
Substitution calculus for the code-shaped functions `shiftFV` (= `update_free_variables`) and `applyAux`
(= `_apply`), DESIGN §6.1.  Both are parallel substitutions (`shiftFV_eq_psubstAux`, `applyAux_eq_psubstAux` of
`Proofs/PSubst.lean`): the lemmas that move one of them past the other are the instances of `psubstAux_shiftFV` and
`psubstAux_applyAux` at those substitutions, the facts about closed terms the instances of `psubstAux_closedAt`;
`shiftFV_shiftFV_add` and `applyAux_shiftFV_cancel` are cases of `shiftFV_shiftFV_within`, `applyAux_shiftFV_cancel'`.
-/
import LC.Proofs.PSubst

namespace LC
namespace Term
open Spec

theorem isAbs_shiftFV (a o : Nat) (t : Term) : isAbs (shiftFV a o t) = isAbs t := by
  cases t with
  | var i => simp only [shiftFV]; split <;> rfl
  | abs b => rfl
  | app l r => rfl

theorem shiftFV_shiftFV_add (a b o : Nat) (t : Term) :
    shiftFV a o (shiftFV b o t) = shiftFV (a+b) o t :=
  shiftFV_shiftFV_within a b o o (Nat.le_refl _) (Nat.le_add_right _ _) t

theorem shiftFV_comm (a b o o' : Nat) (h : o ≤ o') (t : Term) :
    shiftFV a o (shiftFV b o' t) = shiftFV b (o' + a) (shiftFV a o t) := by
  simp only [shiftFV_eq_psubstAux b]
  exact (psubstAux_shiftFV _ a o o' h t).symm

theorem shiftFV_applyAux_lt (a o d : Nat) (hd : 1 ≤ d) (h : o < d) (r t : Term) :
    shiftFV a o (applyAux r d t) = applyAux r (d + a) (shiftFV a o t) := by
  obtain ⟨d, rfl⟩ : ∃ d', d = d' + 1 := ⟨d - 1, by omega⟩
  rw [Nat.add_right_comm, applyAux_eq_psubstAux, applyAux_eq_psubstAux]
  exact (psubstAux_shiftFV _ a o d (by omega) t).symm

theorem shiftFV_applyAux_ge (a o d : Nat) (hd : 1 ≤ d) (h : d ≤ o + 1) (r t : Term) :
    shiftFV a o (applyAux r d t) = applyAux (shiftFV a (o + 1 - d) r) d (shiftFV a (o+1) t) := by
  simp only [shiftFV_eq_psubstAux a]
  exact psubstAux_applyAux _ r d o hd h t

theorem applyAux_shiftFV_cancel (r : Term) (d o: Nat) (hd : 1 ≤ d) (ho : o + 1 = d) (t : Term) :
    applyAux r d (shiftFV 1 o t) = t := by
  rw [applyAux_shiftFV_cancel' r d o 0 (by omega) (by omega), shiftFV_zero]

/-- the substitution lemma -/
theorem applyAux_applyAux (s r : Term) (d e : Nat) (hd : 1 ≤ d) (he : d ≤ e) (t : Term) :
    applyAux s e (applyAux r d t) = applyAux (applyAux s (e + 1 - d) r) d (applyAux s (e+1) t) := by
  obtain ⟨e, rfl⟩ : ∃ e', e = e' + 1 := ⟨e - 1, by omega⟩
  rw [show e + 1 + 1 - d = (e + 1 - d) + 1 by omega]
  simp only [applyAux_eq_psubstAux s]
  exact psubstAux_applyAux _ r d e hd (by omega) t

theorem shiftFV_contract (a o : Nat) (b r : Term) :
    shiftFV a o (contract b r) = contract (shiftFV a (o+1) b) (shiftFV a o r) := by
  have := shiftFV_applyAux_ge a o 1 (by omega) (by omega) r b
  simpa [contract] using this

theorem applyAux_contract (s : Term) (e : Nat) (he : 1 ≤ e) (b r : Term) :
    applyAux s e (contract b r) = contract (applyAux s (e+1) b) (applyAux s e r) := by
  have := applyAux_applyAux s r 1 e (by omega) he b
  simpa [contract] using this

end Term

namespace Spec
open Term

theorem closedAt_mono {k k' : Nat} {t : Term} (h : closedAt k t = true) (hk : k ≤ k') :
    closedAt k' t = true := by
  induction t generalizing k k' with
  | var i => simp [closedAt] at *; omega
  | abs b ih => simp only [closedAt] at *; exact ih h (by omega)
  | app l r ihl ihr => simp only [closedAt, Bool.and_eq_true] at *; exact ⟨ihl h.1 hk, ihr h.2 hk⟩

theorem shiftFV_closedAt {t : Term} (a o d : Nat) (hd : d ≤ o) (h : closedAt d t = true) :
    shiftFV a o t = t := by
  rw [shiftFV_eq_psubstAux]; exact psubstAux_closedAt _ o (closedAt_mono h hd)

theorem applyAux_closedAt {t : Term} (r : Term) (e d : Nat) (hd : d < e) (h : closedAt d t = true) :
    applyAux r e t = t := by
  obtain ⟨e, rfl⟩ : ∃ e', e = e' + 1 := ⟨e - 1, by omega⟩
  rw [applyAux_eq_psubstAux]; exact psubstAux_closedAt _ e (closedAt_mono h (by omega))

theorem shiftFV_closed {t : Term} (a o : Nat) (h : closedAt 0 t = true) : shiftFV a o t = t :=
  shiftFV_closedAt a o 0 (by omega) h

/-- without `hd` the statement is false at depth `0` (see the counterexample below):
`applyAux r 0 (var 0) = shiftFV (0 - 1) 0 r = r`.  Depth `0` is never used by `contract`/β (depths start at `1`). -/
theorem applyAux_closed {t : Term} (r : Term) (d : Nat) (hd : 1 ≤ d) (h : closedAt 0 t = true) :
    applyAux r d t = t :=
  applyAux_closedAt r d 0 (by omega) h

/-- counterexample to `applyAux_closed` without the hypothesis `1 ≤ d` -/
example : closedAt 0 (var 0) = true ∧ applyAux (var 5) 0 (var 0) ≠ var 0 := by decide

theorem contract_closed {t : Term} (r : Term) (h : closedAt 0 t = true) : contract t r = t :=
  applyAux_closed r 1 (by omega) h

end Spec
end LC
