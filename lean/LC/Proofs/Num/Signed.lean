/-
Signed numbers (`/repo/src/data/num/signed.rs`): pairs `(p, n)` of numerals of one encoding, representing `p − n`.

Everything is proved ONCE against an abstract encoding interface `SignedP.NumEnc`; the generic terms `simplifyOf`, `modulusOf`,
`addOf`, … are the bodies of the Rust definitions with the primitives of the encoding as parameters, and they are tied to the
GENERATED constants `Gen.Signed.<op>_<encoding>` by the `…_eq` theorems (checked by kernel computation on every run: if the
Rust definition changes shape, the `_eq` theorem fails).  The four encodings are plugged in in `Props/C15.lean`.
-/
import LC.Proofs.Num.Toolkit

namespace LC
open Term Spec Enc

namespace SignedP


/-- a numeral encoding with the four primitives used by `signed.rs`, and their correctness up to β-reduction -/
structure NumEnc where
  enc : Nat → Term
  isZero : Term
  pred : Term
  add : Term
  mul : Term
  closed_enc : ∀ n, Closed (enc n)
  closed_isZero : Closed isZero
  closed_pred : Closed pred
  closed_add : Closed add
  closed_mul : Closed mul
  isZero_ok : ∀ n, app isZero (enc n) ↠ fromBool (n == 0)
  pred_ok : ∀ n, app pred (enc n) ↠ enc (n - 1)
  add_ok : ∀ m n, app2 add (enc m) (enc n) ↠ enc (m + n)
  mul_ok : ∀ m n, app2 mul (enc m) (enc n) ↠ enc (m * n)

/-- the canonical pair of an integer: at least one component is zero -/
def canon (E : NumEnc) (z : Int) : Term :=
  if z ≥ 0 then tuple2 (E.enc z.toNat) (E.enc 0) else tuple2 (E.enc 0) (E.enc (-z).toNat)


/-- `to_signed`: `λx. PAIR x ZERO` -/
def toSignedOf (zero : Term) : Term := abs (app2 Gen.Pair.pair (var 1) zero)

/-- the functional of `simplify`:
`λz x. IS_ZERO (FST x) (λy.x) (λy. IS_ZERO (SND x) x (z (PAIR (PRED (FST x)) (PRED (SND x))))) I` -/
def simplifyF (isZero pred : Term) : Term :=
  abs (abs (app4 isZero (app Gen.Pair.fst (var 1))
    (abs (var 2))
    (abs (app3 isZero (app Gen.Pair.snd (var 2)) (var 2)
      (app (var 3) (app2 Gen.Pair.pair (app pred (app Gen.Pair.fst (var 2))) (app pred (app Gen.Pair.snd (var 2)))))))
    Gen.Comb.I))

/-- `simplify = Z (simplifyF)` -/
def simplifyOf (isZero pred : Term) : Term := app Gen.Comb.Z (simplifyF isZero pred)

/-- `modulus`: `λx. (λy. IS_ZERO (FST y) (SND y) (FST y)) (SIMPLIFY x)` -/
def modulusOf (isZero pred : Term) : Term :=
  abs (app (abs (app3 isZero (app Gen.Pair.fst (var 1)) (app Gen.Pair.snd (var 1)) (app Gen.Pair.fst (var 1))))
    (app (simplifyOf isZero pred) (var 1)))

/-- `add`: `λa b. SIMPLIFY (PAIR (ADD (FST a) (FST b)) (ADD (SND a) (SND b)))` -/
def addOf (isZero pred add : Term) : Term :=
  abs (abs (app (simplifyOf isZero pred) (app2 Gen.Pair.pair
    (app2 add (app Gen.Pair.fst (var 2)) (app Gen.Pair.fst (var 1)))
    (app2 add (app Gen.Pair.snd (var 2)) (app Gen.Pair.snd (var 1))))))

/-- `sub`: `λa b. SIMPLIFY (PAIR (ADD (FST a) (SND b)) (ADD (SND a) (FST b)))` -/
def subOf (isZero pred add : Term) : Term :=
  abs (abs (app (simplifyOf isZero pred) (app2 Gen.Pair.pair
    (app2 add (app Gen.Pair.fst (var 2)) (app Gen.Pair.snd (var 1)))
    (app2 add (app Gen.Pair.snd (var 2)) (app Gen.Pair.fst (var 1))))))

/-- `mul` (the Rust BODY, which differs from its doc comment):
`λa b. SIMPLIFY (PAIR (ADD (MUL (FST a) (FST b)) (MUL (SND a) (SND b))) (ADD (MUL (FST a) (SND b)) (MUL (SND a) (FST b))))` -/
def mulOf (isZero pred add mul : Term) : Term :=
  abs (abs (app (simplifyOf isZero pred) (app2 Gen.Pair.pair
    (app2 add (app2 mul (app Gen.Pair.fst (var 2)) (app Gen.Pair.fst (var 1)))
              (app2 mul (app Gen.Pair.snd (var 2)) (app Gen.Pair.snd (var 1))))
    (app2 add (app2 mul (app Gen.Pair.fst (var 2)) (app Gen.Pair.snd (var 1)))
              (app2 mul (app Gen.Pair.snd (var 2)) (app Gen.Pair.fst (var 1)))))))

/-! ## the generated constants ARE these terms (kernel computation, re-checked on every run) -/

theorem neg_eq : Gen.Signed.neg = Gen.Pair.swap := by decide

theorem to_signed_church_eq : Gen.Signed.to_signed_church = toSignedOf Gen.Church.zero := by decide
theorem to_signed_scott_eq : Gen.Signed.to_signed_scott = toSignedOf Gen.Scott.zero := by decide
theorem to_signed_parigot_eq : Gen.Signed.to_signed_parigot = toSignedOf Gen.Parigot.zero := by decide
theorem to_signed_stumpfu_eq : Gen.Signed.to_signed_stumpfu = toSignedOf Gen.StumpFu.zero := by decide

theorem simplify_church_eq :
    Gen.Signed.simplify_church = simplifyOf Gen.Church.is_zero Gen.Church.pred := by decide
theorem simplify_scott_eq :
    Gen.Signed.simplify_scott = simplifyOf Gen.Scott.is_zero Gen.Scott.pred := by decide
theorem simplify_parigot_eq :
    Gen.Signed.simplify_parigot = simplifyOf Gen.Parigot.is_zero Gen.Parigot.pred := by decide
theorem simplify_stumpfu_eq :
    Gen.Signed.simplify_stumpfu = simplifyOf Gen.StumpFu.is_zero Gen.StumpFu.pred := by decide

theorem modulus_church_eq :
    Gen.Signed.modulus_church = modulusOf Gen.Church.is_zero Gen.Church.pred := by decide
theorem modulus_scott_eq :
    Gen.Signed.modulus_scott = modulusOf Gen.Scott.is_zero Gen.Scott.pred := by decide
theorem modulus_parigot_eq :
    Gen.Signed.modulus_parigot = modulusOf Gen.Parigot.is_zero Gen.Parigot.pred := by decide
theorem modulus_stumpfu_eq :
    Gen.Signed.modulus_stumpfu = modulusOf Gen.StumpFu.is_zero Gen.StumpFu.pred := by decide

theorem add_church_eq :
    Gen.Signed.add_church = addOf Gen.Church.is_zero Gen.Church.pred Gen.Church.add := by decide
theorem add_scott_eq :
    Gen.Signed.add_scott = addOf Gen.Scott.is_zero Gen.Scott.pred Gen.Scott.add := by decide
theorem add_parigot_eq :
    Gen.Signed.add_parigot = addOf Gen.Parigot.is_zero Gen.Parigot.pred Gen.Parigot.add := by decide
theorem add_stumpfu_eq :
    Gen.Signed.add_stumpfu = addOf Gen.StumpFu.is_zero Gen.StumpFu.pred Gen.StumpFu.add := by decide

theorem sub_church_eq :
    Gen.Signed.sub_church = subOf Gen.Church.is_zero Gen.Church.pred Gen.Church.add := by decide
theorem sub_scott_eq :
    Gen.Signed.sub_scott = subOf Gen.Scott.is_zero Gen.Scott.pred Gen.Scott.add := by decide
theorem sub_parigot_eq :
    Gen.Signed.sub_parigot = subOf Gen.Parigot.is_zero Gen.Parigot.pred Gen.Parigot.add := by decide
theorem sub_stumpfu_eq :
    Gen.Signed.sub_stumpfu = subOf Gen.StumpFu.is_zero Gen.StumpFu.pred Gen.StumpFu.add := by decide

theorem mul_church_eq :
    Gen.Signed.mul_church = mulOf Gen.Church.is_zero Gen.Church.pred Gen.Church.add Gen.Church.mul := by decide
theorem mul_scott_eq :
    Gen.Signed.mul_scott = mulOf Gen.Scott.is_zero Gen.Scott.pred Gen.Scott.add Gen.Scott.mul := by decide
theorem mul_parigot_eq :
    Gen.Signed.mul_parigot = mulOf Gen.Parigot.is_zero Gen.Parigot.pred Gen.Parigot.add Gen.Parigot.mul := by decide
theorem mul_stumpfu_eq :
    Gen.Signed.mul_stumpfu = mulOf Gen.StumpFu.is_zero Gen.StumpFu.pred Gen.StumpFu.add Gen.StumpFu.mul := by decide


theorem closed_simplifyF {iz pr : Term} (h1 : Closed iz) (h2 : Closed pr) : Closed (simplifyF iz pr) := by
  unfold simplifyF; lc_simp

theorem closed_pair (E : NumEnc) (p n : Nat) : Closed (tuple2 (E.enc p) (E.enc n)) :=
  closed_tuple2 (E.closed_enc p) (E.closed_enc n)

/-- a pair with a zero component is the canonical pair of its value -/
theorem canon_of_zero (E : NumEnc) (p n : Nat) (h : p = 0 ∨ n = 0) :
    canon E ((p : Int) - n) = tuple2 (E.enc p) (E.enc n) := by
  unfold canon
  rcases h with rfl | rfl
  · by_cases hn : n = 0
    · subst hn; simp
    · have : ¬ ((0 : Nat) : Int) - (n : Int) ≥ 0 := by omega
      rw [if_neg this]; congr 2; omega
  · have : ((p : Nat) : Int) - ((0 : Nat) : Int) ≥ 0 := by omega
    rw [if_pos this]; congr 2

/-- the canonical pair is a pair `(a, b)` with a zero component and `a − b = z` -/
theorem canon_cases (E : NumEnc) (z : Int) :
    ∃ a b : Nat, canon E z = tuple2 (E.enc a) (E.enc b) ∧ (a = 0 ∨ b = 0) ∧ (a : Int) - b = z := by
  unfold canon
  by_cases hz : z ≥ 0
  · exact ⟨z.toNat, 0, by rw [if_pos hz], Or.inr rfl, by omega⟩
  · exact ⟨0, (-z).toNat, by rw [if_neg hz], Or.inl rfl, by omega⟩

theorem closed_canon (E : NumEnc) (z : Int) : Closed (canon E z) := by
  obtain ⟨a, b, h, -, -⟩ := canon_cases E z
  rw [h]; exact closed_pair E a b

theorem NumEnc.fst_pair (E : NumEnc) (p n : Nat) : app Gen.Pair.fst (tuple2 (E.enc p) (E.enc n)) ↠ E.enc p :=
  pair_fst (E.closed_enc p) (E.closed_enc n)

theorem NumEnc.snd_pair (E : NumEnc) (p n : Nat) : app Gen.Pair.snd (tuple2 (E.enc p) (E.enc n)) ↠ E.enc n :=
  pair_snd (E.closed_enc p) (E.closed_enc n)

/-- the operations of the interface act on whatever reduces to numerals, so the value of a body of `signed.rs` is read
off its syntax: `add_of (mul_of fst fst) (mul_of snd snd)` follows `ADD (MUL (FST a) (FST b)) (MUL (SND a) (SND b))` -/
theorem NumEnc.add_of (E : NumEnc) {s t : Term} {a b : Nat} (hs : s ↠ E.enc a) (ht : t ↠ E.enc b) :
    app2 E.add s t ↠ E.enc (a + b) :=
  (Star.congApp (Star.congAppR _ hs) ht).trans (E.add_ok a b)

theorem NumEnc.mul_of (E : NumEnc) {s t : Term} {a b : Nat} (hs : s ↠ E.enc a) (ht : t ↠ E.enc b) :
    app2 E.mul s t ↠ E.enc (a * b) :=
  (Star.congApp (Star.congAppR _ hs) ht).trans (E.mul_ok a b)

/-- the zero test of the interface as a conditional -/
theorem NumEnc.ifZero_of (E : NumEnc) {s : Term} {a : Nat} (hs : s ↠ E.enc a) (x y : Term) :
    app2 (app E.isZero s) x y ↠ if a = 0 then x else y := by
  refine ((Star.head2 ((Star.congAppR _ hs).trans (E.isZero_ok a))).trans (fromBool_elim _ _ _)).trans ?_
  by_cases h : a = 0 <;> simp [h] <;> exact Star.refl _

theorem NumEnc.pred_of (E : NumEnc) {s : Term} {a : Nat} (hs : s ↠ E.enc a) : app E.pred s ↠ E.enc (a - 1) :=
  (Star.congAppR _ hs).trans (E.pred_ok a)

/-- one turn of the functional of `simplify`, with an arbitrary closed term `z` for the recursive call -/
theorem simplifyF_step (E : NumEnc) (z : Term) (hz : Closed z) (p n : Nat) :
    app2 (simplifyF E.isZero E.pred) z (tuple2 (E.enc p) (E.enc n)) ↠
      if p = 0 ∨ n = 0 then tuple2 (E.enc p) (E.enc n) else app z (tuple2 (E.enc (p - 1)) (E.enc (n - 1))) := by
  have h1 := E.closed_isZero
  have h2 := E.closed_pred
  have hx := closed_pair E p n
  unfold simplifyF
  lc_beta 2
  lc_head (E.ifZero_of (E.fst_pair p n) _ _)
  cases p with
  | zero => simp; lc_beta; exact Star.refl _
  | succ p =>
    simp
    lc_beta
    lc_trans (E.ifZero_of (E.snd_pair (p + 1) n) _ _)
    cases n with
    | zero => simp; exact Star.refl _
    | succ n =>
      simp
      exact Star.congAppR _ ((Star.congApp (Star.congAppR _ (E.pred_of (E.fst_pair (p + 1) (n + 1))))
        (E.pred_of (E.snd_pair (p + 1) (n + 1)))).trans (pair_mk (E.closed_enc _) (E.closed_enc _)))

theorem simplify_ZF (E : NumEnc) (p n : Nat) :
    app (ZF (simplifyF E.isZero E.pred)) (tuple2 (E.enc p) (E.enc n)) ↠ canon E ((p : Int) - n) := by
  have hF := closed_simplifyF E.closed_isZero E.closed_pred
  have hS : Closed (Eager.stub (simplifyF E.isZero E.pred)) := by lc_simp
  induction p generalizing n with
  | zero =>
    lc_trans (ZF_app hF _); lc_trans (simplifyF_step E _ hS 0 n)
    rw [if_pos (Or.inl rfl), canon_of_zero E 0 n (Or.inl rfl)]; exact Star.refl _
  | succ p ih =>
    lc_trans (ZF_app hF _); lc_trans (simplifyF_step E _ hS (p + 1) n)
    cases n with
    | zero => rw [if_pos (Or.inr rfl), canon_of_zero E (p + 1) 0 (Or.inr rfl)]; exact Star.refl _
    | succ n =>
      rw [if_neg (by omega)]
      lc_trans (ZF_stub hF _)
      rw [show ((p + 1 : Nat) : Int) - ((n + 1 : Nat) : Int) = (p : Int) - n by omega]
      exact ih n

theorem simplify_correct (E : NumEnc) (p n : Nat) :
    app (simplifyOf E.isZero E.pred) (tuple2 (E.enc p) (E.enc n)) ↠ canon E ((p : Int) - n) := by
  unfold simplifyOf
  lc_head (Z_unfold (closed_simplifyF E.closed_isZero E.closed_pred))
  exact simplify_ZF E p n

theorem closed_simplifyOf {iz pr : Term} (h1 : Closed iz) (h2 : Closed pr) : Closed (simplifyOf iz pr) := by
  have := closed_simplifyF h1 h2
  unfold simplifyOf; lc_simp

theorem modulus_correct (E : NumEnc) (p n : Nat) :
    app (modulusOf E.isZero E.pred) (tuple2 (E.enc p) (E.enc n)) ↠ E.enc ((p : Int) - n).natAbs := by
  have h1 := E.closed_isZero
  have h2 := E.closed_pred
  have hS := closed_simplifyOf h1 h2
  have hx := closed_pair E p n
  unfold modulusOf
  lc_beta
  lc_trans (Star.congAppR _ (simplify_correct E p n))
  obtain ⟨a, b, hc, h0, hab⟩ := canon_cases E ((p : Int) - n)
  rw [hc]
  have ha := E.closed_enc a
  have hb := E.closed_enc b
  have hy := closed_pair E a b
  lc_beta
  lc_trans (E.ifZero_of (E.fst_pair a b) _ _)
  by_cases ha0 : a = 0
  · subst ha0; simp
    rw [show ((p : Int) - n).natAbs = b by omega]
    exact pair_snd ha hb
  · simp [ha0]
    rw [show ((p : Int) - n).natAbs = a by omega]
    exact pair_fst ha hb

theorem neg_correct (a b : Term) (ha : Closed a) (hb : Closed b) :
    app Gen.Signed.neg (tuple2 a b) ↠ tuple2 b a := by
  have hx := closed_tuple2 ha hb
  lc_beta
  exact (Star.congApp (Star.congAppR _ (pair_snd ha hb)) (pair_fst ha hb)).trans (pair_mk hb ha)

theorem to_signed_correct (E : NumEnc) (x : Nat) :
    app (toSignedOf (E.enc 0)) (E.enc x) ↠ tuple2 (E.enc x) (E.enc 0) := by
  have h0 := E.closed_enc 0
  have hx := E.closed_enc x
  unfold toSignedOf
  lc_beta
  exact pair_mk hx h0

/-- the common shape of `add`, `sub`, `mul`: `SIMPLIFY (PAIR s t)` where `s ↠ enc a`, `t ↠ enc b` -/
theorem simplify_pair (E : NumEnc) {s t : Term} {a b : Nat} (hs : s ↠ E.enc a) (ht : t ↠ E.enc b) :
    app (simplifyOf E.isZero E.pred) (app2 Gen.Pair.pair s t) ↠ canon E ((a : Int) - b) := by
  refine Star.trans (Star.congAppR _ ?_) (simplify_correct E a b)
  exact (Star.congApp (Star.congAppR _ hs) ht).trans (pair_mk (E.closed_enc a) (E.closed_enc b))

theorem add_correct (E : NumEnc) (p₁ n₁ p₂ n₂ : Nat) :
    app2 (addOf E.isZero E.pred E.add) (tuple2 (E.enc p₁) (E.enc n₁)) (tuple2 (E.enc p₂) (E.enc n₂)) ↠
      canon E (((p₁ : Int) - n₁) + ((p₂ : Int) - n₂)) := by
  have h3 := E.closed_add
  have hS := closed_simplifyOf E.closed_isZero E.closed_pred
  have hx := closed_pair E p₁ n₁
  have hy := closed_pair E p₂ n₂
  unfold addOf
  lc_beta 2
  rw [show ((p₁ : Int) - n₁) + ((p₂ : Int) - n₂) = ((p₁ + p₂ : Nat) : Int) - ((n₁ + n₂ : Nat) : Int) by omega]
  exact simplify_pair E (E.add_of (E.fst_pair p₁ n₁) (E.fst_pair p₂ n₂)) (E.add_of (E.snd_pair p₁ n₁) (E.snd_pair p₂ n₂))

theorem sub_correct (E : NumEnc) (p₁ n₁ p₂ n₂ : Nat) :
    app2 (subOf E.isZero E.pred E.add) (tuple2 (E.enc p₁) (E.enc n₁)) (tuple2 (E.enc p₂) (E.enc n₂)) ↠
      canon E (((p₁ : Int) - n₁) - ((p₂ : Int) - n₂)) := by
  have h3 := E.closed_add
  have hS := closed_simplifyOf E.closed_isZero E.closed_pred
  have hx := closed_pair E p₁ n₁
  have hy := closed_pair E p₂ n₂
  unfold subOf
  lc_beta 2
  rw [show ((p₁ : Int) - n₁) - ((p₂ : Int) - n₂) = ((p₁ + n₂ : Nat) : Int) - ((n₁ + p₂ : Nat) : Int) by omega]
  exact simplify_pair E (E.add_of (E.fst_pair p₁ n₁) (E.snd_pair p₂ n₂)) (E.add_of (E.snd_pair p₁ n₁) (E.fst_pair p₂ n₂))

theorem mul_arith (p₁ n₁ p₂ n₂ : Nat) :
    ((p₁ : Int) - n₁) * ((p₂ : Int) - n₂) =
      ((p₁ * p₂ + n₁ * n₂ : Nat) : Int) - ((p₁ * n₂ + n₁ * p₂ : Nat) : Int) := by
  simp only [Int.sub_mul, Int.mul_sub, Int.natCast_add, Int.natCast_mul]
  omega

theorem mul_correct (E : NumEnc) (p₁ n₁ p₂ n₂ : Nat) :
    app2 (mulOf E.isZero E.pred E.add E.mul) (tuple2 (E.enc p₁) (E.enc n₁)) (tuple2 (E.enc p₂) (E.enc n₂)) ↠
      canon E (((p₁ : Int) - n₁) * ((p₂ : Int) - n₂)) := by
  have h3 := E.closed_add
  have h4 := E.closed_mul
  have hS := closed_simplifyOf E.closed_isZero E.closed_pred
  have hx := closed_pair E p₁ n₁
  have hy := closed_pair E p₂ n₂
  unfold mulOf
  lc_beta 2
  rw [mul_arith]
  exact simplify_pair E
    (E.add_of (E.mul_of (E.fst_pair p₁ n₁) (E.fst_pair p₂ n₂)) (E.mul_of (E.snd_pair p₁ n₁) (E.snd_pair p₂ n₂)))
    (E.add_of (E.mul_of (E.fst_pair p₁ n₁) (E.snd_pair p₂ n₂)) (E.mul_of (E.snd_pair p₁ n₁) (E.fst_pair p₂ n₂)))

/-- `canon` without the interface: the canonical pair of `z` for the numerals `enc` -/
def canonOf (enc : Nat → Term) (z : Int) : Term :=
  if z ≥ 0 then tuple2 (enc z.toNat) (enc 0) else tuple2 (enc 0) (enc (-z).toNat)

theorem canon_eq (E : NumEnc) (z : Int) : canon E z = canonOf E.enc z := rfl

/-- the canonical pair is what the Rust conversion `into_signed` (model `Enc.intoSigned`) produces -/
theorem canonOf_intoNum (e : Encoding) (z : Int) : canonOf (intoNum e) z = intoSigned e z := by
  unfold canonOf intoSigned
  by_cases h : z > 0
  · have h' : z ≥ 0 := by omega
    simp only [if_pos h, if_pos h']; congr 2; omega
  · by_cases h0 : z = 0
    · subst h0; simp
    · have h' : ¬ z ≥ 0 := by omega
      simp only [if_neg h, if_neg h']; congr 2; omega

theorem canonOf_church (z : Int) : canonOf intoChurch z = intoSigned .Church z := canonOf_intoNum .Church z
theorem canonOf_scott (z : Int) : canonOf intoScott z = intoSigned .Scott z := canonOf_intoNum .Scott z
theorem canonOf_parigot (z : Int) : canonOf intoParigot z = intoSigned .Parigot z := canonOf_intoNum .Parigot z
theorem canonOf_stumpfu (z : Int) : canonOf intoStumpFu z = intoSigned .StumpFu z := canonOf_intoNum .StumpFu z

/-- Property C15 for one encoding: numerals `enc`, and the seven operations (`neg` is encoding-independent).
All pairs `(p, n)` of numerals are covered, simplified or not. -/
structure SignedOK (enc : Nat → Term) (toSigned simplify modulus add sub mul : Term) : Prop where
  simplify : ∀ p n : Nat, app simplify (tuple2 (enc p) (enc n)) ↠ canonOf enc ((p : Int) - n)
  modulus : ∀ p n : Nat, app modulus (tuple2 (enc p) (enc n)) ↠ enc ((p : Int) - n).natAbs
  neg : ∀ p n : Nat, app Gen.Signed.neg (tuple2 (enc p) (enc n)) ↠ tuple2 (enc n) (enc p)
  to_signed : ∀ x : Nat, app toSigned (enc x) ↠ tuple2 (enc x) (enc 0)
  add : ∀ p₁ n₁ p₂ n₂ : Nat, app2 add (tuple2 (enc p₁) (enc n₁)) (tuple2 (enc p₂) (enc n₂)) ↠
    canonOf enc (((p₁ : Int) - n₁) + ((p₂ : Int) - n₂))
  sub : ∀ p₁ n₁ p₂ n₂ : Nat, app2 sub (tuple2 (enc p₁) (enc n₁)) (tuple2 (enc p₂) (enc n₂)) ↠
    canonOf enc (((p₁ : Int) - n₁) - ((p₂ : Int) - n₂))
  mul : ∀ p₁ n₁ p₂ n₂ : Nat, app2 mul (tuple2 (enc p₁) (enc n₁)) (tuple2 (enc p₂) (enc n₂)) ↠
    canonOf enc (((p₁ : Int) - n₁) * ((p₂ : Int) - n₂))

theorem signedOK (E : NumEnc) :
    SignedOK E.enc (toSignedOf (E.enc 0)) (simplifyOf E.isZero E.pred) (modulusOf E.isZero E.pred)
      (addOf E.isZero E.pred E.add) (subOf E.isZero E.pred E.add) (mulOf E.isZero E.pred E.add E.mul) where
  simplify := simplify_correct E
  modulus := modulus_correct E
  neg p n := neg_correct _ _ (E.closed_enc p) (E.closed_enc n)
  to_signed := to_signed_correct E
  add := add_correct E
  sub := sub_correct E
  mul := mul_correct E

theorem church_zero_eq : Gen.Church.zero = intoChurch 0 := by decide
theorem scott_zero_eq : Gen.Scott.zero = intoScott 0 := by decide
theorem parigot_zero_eq : Gen.Parigot.zero = intoParigot 0 := by decide
theorem stumpfu_zero_eq : Gen.StumpFu.zero = intoStumpFu 0 := by decide

end SignedP

end LC
