/-
Exact (un-stripped) results of the operations on Mogensen's binary numerals (`/repo/src/data/num/binary.rs`).

The documentation speaks of leading zeroes at `pred` only (arguments that are powers of two "or return them"); `shl0` of
zero has one as well.  On every other canonical argument the RAW results are canonical: `shl0 n = 2n` for `n ≠ 0`,
`pred n = n - 1` for `n ≠ 0` not a power of two (also where `n - 1` is one), and `strip` is the identity on canonical
numerals.  The bit-string facts behind this:
`decBits (bitsLSB n) = bitsLSB (n - 1)` exactly when `n` is positive and not a power of two.
-/
import LC.Proofs.Num.StumpFuBinary
import LC.Proofs.Eager.Binary

namespace LC
open Term Spec Enc StumpFuBinary

namespace BinaryExact

/-- the borrow of `pred` stops at the lowest one bit; the result is canonical unless that bit was the only one -/
theorem decBits_bitsLSB (n : Nat) (h0 : n ≠ 0) (h2 : ∀ k, n ≠ 2 ^ k) : decBits (bitsLSB n) = bitsLSB (n - 1) := by
  induction n using Nat.strongRecOn with
  | _ n ih =>
    rw [bitsLSB_pos h0]
    by_cases hb : n % 2 = 1
    · -- odd: the lowest bit is cleared; `n / 2 ≠ 0` because `n ≠ 1 = 2 ^ 0`
      have h1 : n / 2 ≠ 0 := by
        intro e
        exact h2 0 (by simp; omega)
      rw [show (n % 2 == 1) = true by simp [hb], decBits,
        show n - 1 = 2 * (n / 2) by omega, bitsLSB_double h1]
    · -- even: borrow from the upper part, which is positive and not a power of two
      have h1 : n / 2 ≠ 0 := by omega
      have h3 : ∀ k, n / 2 ≠ 2 ^ k := fun k e => h2 (k + 1) (by rw [Nat.pow_succ, ← e]; omega)
      rw [show (n % 2 == 1) = false by simp [hb], decBits, ih (n / 2) (by omega) h1 h3]
      conv => rhs; rw [show n - 1 = 2 * (n / 2 - 1) + 1 by omega, bitsLSB_double_succ]

/-- conversely the raw predecessor of a power of two is NOT canonical (it keeps the leading zero) -/
theorem decBits_bitsLSB_pow2 (k : Nat) : decBits (bitsLSB (2 ^ k)) = List.replicate k true ++ [false] := by
  induction k with
  | zero =>
    rw [show (2 : Nat) ^ 0 = 2 * 0 + 1 from rfl, bitsLSB_double_succ, bitsLSB_zero]; rfl
  | succ k ih =>
    have hp : (2 : Nat) ^ k ≠ 0 := Nat.pos_iff_ne_zero.1 (Nat.pow_pos (by decide))
    rw [show (2 : Nat) ^ (k + 1) = 2 * 2 ^ k by rw [Nat.pow_succ]; omega, bitsLSB_double hp, decBits, ih]
    rfl

theorem bitsLSB_pow2_pred (k : Nat) : bitsLSB (2 ^ k - 1) = List.replicate k true := by
  induction k with
  | zero => exact bitsLSB_zero
  | succ k ih =>
    have hp : 0 < (2 : Nat) ^ k := Nat.pow_pos (by decide)
    rw [show (2 : Nat) ^ (k + 1) - 1 = 2 * (2 ^ k - 1) + 1 by rw [Nat.pow_succ]; omega, bitsLSB_double_succ, ih]
    rfl

theorem bitsBody_inj {bs cs : List Bool} (h : bitsBody bs = bitsBody cs) : bs = cs := by
  induction bs generalizing cs with
  | nil =>
    cases cs with
    | nil => rfl
    | cons c cs => simp [bitsBody] at h
  | cons b bs ih =>
    cases cs with
    | nil => simp [bitsBody] at h
    | cons c cs =>
      simp only [bitsBody, Term.app.injEq] at h
      obtain ⟨h1, h2⟩ := h
      have : b = c := by cases b <;> cases c <;> simp at h1 <;> rfl
      rw [this, ih h2]

/-- different bit strings are different numerals (leading zeroes are visible in the term) -/
theorem binaryBits_inj {bs cs : List Bool} (h : binaryBits bs = binaryBits cs) : bs = cs := by
  simp only [binaryBits, Term.abs.injEq] at h
  exact bitsBody_inj h

end BinaryExact

open BinaryExact


/-- NOTE: `lsb` returns the least significant BIT in the crate's bit encoding `B0 ≡ TRUE`, `B1 ≡ FALSE`; as a λ-boolean
the result is therefore `fromBool (n % 2 == 0)` (see `binary_lsb_bool`), NOT `fromBool (n % 2 == 1)`. -/
theorem binary_lsb_correct (n : Nat) :
    app Gen.Binary.lsb (intoBinary n) ↠ (if n % 2 = 1 then Gen.Binary.b1 else Gen.Binary.b0) :=
  (binary_lsb_hap n).star

/-- the same as a λ-boolean: `lsb n` is TRUE iff `n` is EVEN (in particular `lsb 0 ↠ TRUE ≡ B0`) -/
theorem binary_lsb_bool (n : Nat) : app Gen.Binary.lsb (intoBinary n) ↠ fromBool (n % 2 == 0) := by
  have := binary_lsb_correct n
  by_cases h : n % 2 = 1
  · rw [show (n % 2 == 0) = false by simp [h]]
    rw [if_pos h] at this; exact this
  · rw [show (n % 2 == 0) = true by simp; omega]
    rw [if_neg h] at this; exact this

/-! ### remarks: statements that do NOT hold, raw results that are not canonical -/

namespace StumpFuBinary

theorem isNormal_unique {t a b : Term} (h1 : t ↠ a) (h2 : t ↠ b) (ha : isNormal a = true) (hb : isNormal b = true) :
    a = b := normal_unique h1 h2 ((isNormal_iff_normal a).1 ha) ((isNormal_iff_normal b).1 hb)

/-- the statement `lsb (intoBinary n) ↠ fromBool (n % 2 == 1)` is FALSE (already for `n = 1`, in fact for every `n`):
`lsb` answers with the bit constants `B1 ≡ FALSE` / `B0 ≡ TRUE`, see `binary_lsb_correct`, `binary_lsb_bool` -/
theorem lsb_not_odd_test : ¬ (app Gen.Binary.lsb (intoBinary 1) ↠ fromBool (1 % 2 == 1)) := by
  intro h
  have e := isNormal_unique h (binary_lsb_bool 1) (by decide) (by decide)
  exact absurd e (by decide)

/-- raw `shl0 0` is the one-digit string `0`, which is not the canonical zero: `shl0` needs `strip` -/
theorem shl0_zero_raw : app Gen.Binary.shl0 (intoBinary 0) ↠ binaryBits [false] := by
  rw [intoBinary_zero]; exact (binary_shl0_bits_hap []).star

theorem shl0_zero_not_canonical : ¬ (app Gen.Binary.shl0 (intoBinary 0) ↠ intoBinary (2 * 0)) := by
  intro h
  rw [show 2 * 0 = 0 from rfl, intoBinary_zero] at h
  have e := isNormal_unique h (binary_shl0_bits_hap []).star (by decide) (by decide)
  exact absurd e (by decide)

/-- raw `pred 1` is the one-digit string `0` (documented: "may produce leading zeroes"): `pred` needs `strip` -/
theorem pred_one_raw : app Gen.Binary.pred (intoBinary 1) ↠ binaryBits [false] := by
  rw [intoBinary_eq_bits, show (1 : Nat) = 2 * 0 + 1 from rfl, bitsLSB_double_succ, bitsLSB_zero]
  exact (binary_pred_bits_hap [true]).star

/-- `pred` is NOT robust against leading zeroes in its argument: applied to the non-canonical zero `shl0 0` (the
one-digit string `0`) it yields ONE, not zero — so results of `shl0`/`pred` must be `strip`ped before a further `pred` -/
theorem pred_noncanonical_zero :
    app Gen.Binary.strip (app Gen.Binary.pred (app Gen.Binary.shl0 (intoBinary 0))) ↠ intoBinary 1 := by
  lc_trans (Star.congAppR _ (Star.congAppR _ shl0_zero_raw))
  lc_trans (Star.congAppR _ (binary_pred_bits_hap [false]).star)
  exact (binary_strip_hap [true]).star

end StumpFuBinary

/-! ### sharpness of the side conditions, for ALL powers of two -/

theorem binary_pred_pow2_raw (k : Nat) :
    app Gen.Binary.pred (intoBinary (2 ^ k)) ↠ binaryBits (List.replicate k true ++ [false]) := by
  rw [intoBinary_eq_bits, ← decBits_bitsLSB_pow2]; exact (binary_pred_bits_hap _).star

/-- raw `pred (2 ^ k)` is a different term than the canonical numeral of `2 ^ k - 1`: the hypothesis `n ≠ 2 ^ k` of
`binary_pred_exact_hap`, `binary_pred_exact_app` (`C14_binary_pred_exact`) cannot be dropped for any `k` -/
theorem binary_pred_pow2_not_exact (k : Nat) :
    ¬ (app Gen.Binary.pred (intoBinary (2 ^ k)) ↠ intoBinary (2 ^ k - 1)) := by
  intro h
  rw [intoBinary_eq_bits (2 ^ k - 1), bitsLSB_pow2_pred] at h
  have e := isNormal_unique h (binary_pred_pow2_raw k) (EagerBin.isNormal_binaryBits _) (EagerBin.isNormal_binaryBits _)
  have := congrArg List.length (binaryBits_inj e)
  simp at this


theorem binary_shl0_exact_hap (n : Nat) (h : n ≠ 0) :
    Ev .HAP (app Gen.Binary.shl0 (intoBinary n)) (intoBinary (2 * n)) := by
  rw [intoBinary_eq_bits, intoBinary_eq_bits, bitsLSB_double h]; exact binary_shl0_bits_hap _

theorem binary_shl0_exact_app (n : Nat) (h : n ≠ 0) :
    Ev .APP (app Gen.Binary.shl0 (intoBinary n)) (intoBinary (2 * n)) := by
  rw [intoBinary_eq_bits, intoBinary_eq_bits, bitsLSB_double h]; exact binary_shl0_bits_app _

theorem binary_pred_exact_hap (n : Nat) (h0 : n ≠ 0) (h2 : ∀ k, n ≠ 2 ^ k) :
    Ev .HAP (app Gen.Binary.pred (intoBinary n)) (intoBinary (n - 1)) := by
  rw [intoBinary_eq_bits, intoBinary_eq_bits, ← decBits_bitsLSB n h0 h2]; exact binary_pred_bits_hap _

theorem binary_pred_exact_app (n : Nat) (h0 : n ≠ 0) (h2 : ∀ k, n ≠ 2 ^ k) :
    Ev .APP (app Gen.Binary.pred (intoBinary n)) (intoBinary (n - 1)) := by
  rw [intoBinary_eq_bits, intoBinary_eq_bits, ← decBits_bitsLSB n h0 h2]; exact binary_pred_bits_app _

theorem binary_strip_canonical_hap (n : Nat) : Ev .HAP (app Gen.Binary.strip (intoBinary n)) (intoBinary n) := by
  have h := binary_strip_hap (bitsLSB n)
  rwa [← intoBinary_eq_bits, valueOf_bitsLSB] at h

theorem binary_strip_canonical_app (n : Nat) : Ev .APP (app Gen.Binary.strip (intoBinary n)) (intoBinary n) := by
  have h := binary_strip_app (bitsLSB n)
  rwa [← intoBinary_eq_bits, valueOf_bitsLSB] at h

end LC
