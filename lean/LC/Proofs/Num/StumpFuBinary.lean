/-
Mogensen's binary numerals (`/repo/src/data/num/binary.rs`) as bit strings: the model `binaryBits` of numerals with leading
zeroes, the canonical digits `bitsLSB`, the value of a bit string, what `succ` and `pred` do to the digits (`incBits`,
`decBits`), and the parts `Z A B` of the operations that fold over the bits (`strip`, `succ`, `pred`), named once.  What the
operations do to a numeral is in `Proofs/Eager/Binary.lean`; the raw results that are not canonical are in `BinaryExact.lean`.
The namespace is `StumpFuBinary`, but nothing here concerns the Stump-Fu numerals (`Proofs/Eager/StumpFu.lean`).
-/
import LC.Proofs.Num.Toolkit
import LC.Props.C12

namespace LC
open Term Spec Enc

/-! ## binary numerals (Mogensen)

A binary numeral is `λz x y. body` where `body` applies `y` (`var 1`) for a one bit and `x` (`var 2`) for a zero bit, least
significant bit outermost, to the end marker `z` (`var 3`).  The operations may produce / accept leading zeroes (zero bits
next to the end marker), so the model `binaryBits` covers ARBITRARY bit strings (LSB first in the list). -/

namespace StumpFuBinary
open C12

/-- the bits (LSB first) under the three binders of a binary numeral -/
def bitsBody : List Bool → Term
  | [] => var 3
  | b :: bs => app (if b then var 1 else var 2) (bitsBody bs)

/-- the binary numeral with the given bits, LSB first; leading zeroes (= trailing `false`s of the list) allowed -/
def binaryBits (bs : List Bool) : Term := abs (abs (abs (bitsBody bs)))

def valueOf : List Bool → Nat
  | [] => 0
  | b :: bs => (if b then 1 else 0) + 2 * valueOf bs

/-- the canonical bits of `n`, LSB first, no leading zero (`[]` for 0) -/
def bitsLSB (n : Nat) : List Bool :=
  if _h : n = 0 then [] else (n % 2 == 1) :: bitsLSB (n / 2)
termination_by n
decreasing_by omega

theorem bitsLSB_zero : bitsLSB 0 = [] := by rw [bitsLSB]; simp
theorem bitsLSB_pos {n : Nat} (h : n ≠ 0) : bitsLSB n = (n % 2 == 1) :: bitsLSB (n / 2) := by
  rw [bitsLSB]; simp [h]
theorem bitsLSB_double {n : Nat} (h : n ≠ 0) : bitsLSB (2 * n) = false :: bitsLSB n := by
  rw [bitsLSB_pos (by omega)]; congr 1
  · simp
  · congr 1; omega
theorem bitsLSB_double_succ (n : Nat) : bitsLSB (2 * n + 1) = true :: bitsLSB n := by
  rw [bitsLSB_pos (by omega)]; congr 1
  · simp
  · congr 1; omega

/-- the canonical bits are the reverse of the digit string of the Rust encoder -/
theorem bitsLSB_eq_reverse (n : Nat) : bitsLSB n = (bitsMSB n).reverse := by
  induction n using C12.div2_induction with
  | zero => rw [bitsLSB_zero, bitsMSB_zero]; rfl
  | half n h ih =>
    rw [bitsLSB_pos h, bitsMSB_pos h, ih]; simp

theorem bitsBody_bitsLSB (n : Nat) : bitsBody (bitsLSB n) = Dec.binBody n := by
  induction n using C12.div2_induction with
  | zero => rw [bitsLSB_zero, binBody_zero]; rfl
  | half n h ih =>
    rw [bitsLSB_pos h, binBody_pos h, bitsBody, ih]; simp

/-- the Rust encoder produces the numeral of the canonical bit string -/
theorem intoBinary_eq_bits (n : Nat) : intoBinary n = binaryBits (bitsLSB n) := by
  rw [C12_shape_binary, ← bitsBody_bitsLSB]; rfl

theorem valueOf_bitsLSB (n : Nat) : valueOf (bitsLSB n) = n := by
  induction n using C12.div2_induction with
  | zero => rw [bitsLSB_zero]; rfl
  | half n h ih =>
    rw [bitsLSB_pos h, valueOf, ih]
    by_cases hb : n % 2 = 1 <;> simp [hb] <;> omega

theorem closedAt_bitsBody (k : Nat) (bs : List Bool) : closedAt (k + 3) (bitsBody bs) = true := by
  induction bs with
  | nil => simp [bitsBody, closedAt]
  | cons b bs ih => cases b <;> simp [bitsBody, closedAt, ih]

@[simp, lc_simp] theorem closedAt_binaryBits (k : Nat) (bs : List Bool) : closedAt k (binaryBits bs) = true := by
  simp [binaryBits, closedAt, closedAt_bitsBody]
theorem closed_binaryBits (bs : List Bool) : Closed (binaryBits bs) := closedAt_binaryBits 0 bs

/-- what a binary numeral computes from the end value `z`, the zero-bit handler `a` and the one-bit handler `b`:
the handlers are applied from the most significant bit (innermost) to the least significant one (outermost) -/
def foldBits (z a b : Term) : List Bool → Term
  | [] => z
  | c :: bs => app (if c then b else a) (foldBits z a b bs)

theorem foldBits_vars (bs : List Bool) : foldBits (var 3) (var 2) (var 1) bs = bitsBody bs := by
  induction bs with
  | nil => rfl
  | cons c bs ih => cases c <;> simp [foldBits, bitsBody, ih]

/-! ### strip, succ, pred: folds `λn. PROJ (n Z A B)` with a PAIR state -/

/-- the three arguments `Z A B` of an operation of the shape `λn. PROJ (n Z A B)`, named without copying their trees -/
def foldZ (op : Term) : Term := appArg (appFn (appFn (appArg (absBody op))))
def foldA (op : Term) : Term := appArg (appFn (appArg (absBody op)))
def foldB (op : Term) : Term := appArg (appArg (absBody op))

theorem valueOf_false (bs : List Bool) : valueOf (false :: bs) = 2 * valueOf bs := by simp [valueOf]
theorem valueOf_true (bs : List Bool) : valueOf (true :: bs) = 2 * valueOf bs + 1 := by simp [valueOf]; omega

theorem intoBinary_zero : intoBinary 0 = binaryBits [] := by rw [intoBinary_eq_bits, bitsLSB_zero]

/-! #### strip:  Z ≡ PAIR ZERO TRUE,  A ≡ λp.p (λnz.PAIR (z ZERO (SHL0 n)) z),  B ≡ λp.p (λnz.PAIR (SHL1 n) FALSE) -/

theorem strip_eq : Gen.Binary.strip = abs (app Gen.Pair.fst (app3 (var 1) (foldZ Gen.Binary.strip)
    (foldA Gen.Binary.strip) (foldB Gen.Binary.strip))) := by decide

/-! #### succ:  Z ≡ PAIR ZERO ONE,  A ≡ λp.p (λnm.PAIR (SHL0 n) (SHL1 n)),  B ≡ λp.p (λnm.PAIR (SHL1 n) (SHL0 m)) -/

def incBits : List Bool → List Bool
  | [] => [true]
  | false :: bs => true :: bs
  | true :: bs => false :: incBits bs

theorem valueOf_incBits (bs : List Bool) : valueOf (incBits bs) = valueOf bs + 1 := by
  induction bs with
  | nil => rfl
  | cons c bs ih => cases c <;> simp [incBits, valueOf, ih] <;> omega

theorem incBits_bitsLSB (n : Nat) : incBits (bitsLSB n) = bitsLSB (n + 1) := by
  induction n using C12.div2_induction with
  | zero => rw [bitsLSB_zero, show 0 + 1 = 2 * 0 + 1 from rfl, bitsLSB_double_succ, bitsLSB_zero]; rfl
  | half n h ih =>
    rw [bitsLSB_pos h]
    by_cases hb : n % 2 = 1
    · rw [show (n % 2 == 1) = true by simp [hb], incBits, ih,
        show n + 1 = 2 * (n / 2 + 1) by omega, bitsLSB_double (by omega)]
    · rw [show (n % 2 == 1) = false by simp [hb], incBits]
      conv => rhs; rw [show n + 1 = 2 * (n / 2) + 1 by omega, bitsLSB_double_succ]

theorem succ_eq : Gen.Binary.succ = abs (app Gen.Pair.snd (app3 (var 1) (foldZ Gen.Binary.succ)
    (foldA Gen.Binary.succ) (foldB Gen.Binary.succ))) := by decide

/-! #### pred:  Z ≡ PAIR ZERO ZERO,  A ≡ λp.p (λnm.PAIR (SHL0 n) (SHL1 m)),  B ≡ λp.p (λnm.PAIR (SHL1 n) (SHL0 n)) -/

/-- what `pred` does to a bit string (LSB first): borrow through the low zero bits.  NOTE: an all-zero string becomes
all-one (`pred` of a non-canonical zero is not zero), see `pred_noncanonical_zero`. -/
def decBits : List Bool → List Bool
  | [] => []
  | false :: bs => true :: decBits bs
  | true :: bs => false :: bs

theorem valueOf_decBits (bs : List Bool) (h : valueOf bs ≠ 0) : valueOf (decBits bs) = valueOf bs - 1 := by
  induction bs with
  | nil => rfl
  | cons c bs ih =>
    cases c
    · rw [valueOf_false] at h ⊢
      rw [decBits, valueOf_true, ih (by omega)]; omega
    · rw [decBits, valueOf_true, valueOf_false]; omega

theorem pred_eq : Gen.Binary.pred = abs (app Gen.Pair.snd (app3 (var 1) (foldZ Gen.Binary.pred)
    (foldA Gen.Binary.pred) (foldB Gen.Binary.pred))) := by decide

end StumpFuBinary

end LC
