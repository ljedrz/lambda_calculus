/-
Convergence `↠` of the Scott operations defined with the fixed-point combinator `Z`: `mul`, `pow`, `to_church` (`add` is in
`Toolkit.lean`).  They diverge under the eager orders (C14), so their β-conversions are proved here by induction; for every
other operation on numerals the conversion is read off its HAP derivation (`Ev.star`, `Proofs/Eager`).  Of Parigot numerals
the file holds one lemma only (`parigotRec_vars`).  In the laws below `norR 40` runs to a normal form (any count above
the length of the run would do), `norR 7`, `norR 8` stop after exactly that many steps: the right-hand side still has a
head redex.
-/
import LC.Proofs.Num.Toolkit

namespace LC
open Term Spec Enc Eager

namespace ScottParigot

/-- eliminating a Parigot numeral with the two bound variables of an enclosing `λs z.` gives back its body -/
theorem parigotRec_vars (n : Nat) : parigotRec (var 2) (var 1) n = parigotBody n := by
  induction n with
  | zero => rfl
  | succ n ih => rw [parigotRec_succ, parigotBody_succ, ih]

def scottMulF : Term := appArg Gen.Scott.mul
theorem scott_mul_eq : Gen.Scott.mul = app Gen.Comb.Z scottMulF := by decide
theorem closed_scottMulF : Closed scottMulF := by decide

def scottPowF : Term := appArg Gen.Scott.pow
theorem scott_pow_eq : Gen.Scott.pow = app Gen.Comb.Z scottPowF := by decide
theorem closed_scottPowF : Closed scottPowF := by decide

end ScottParigot

open ScottParigot

theorem scottMul_zero (b : Term) : app2 (ZF scottMulF) (intoScott 0) b ↠ intoScott 0 :=
  norR 40 [b] (.app₂ .c .c .p0) .c (by decide +kernel)

theorem scottMul_succ (p b : Term) :
    app2 (ZF scottMulF) (scottS p) b ↠ app2 Gen.Scott.add b (app2 (stub scottMulF) p b) :=
  norR 7 [p, b] (.app₂ .c (.abs (.abs (.app .bv .s0))) .p1) (.app₂ .c .p1 (.app₂ .c .p0 .p1)) (by decide +kernel)

theorem scott_mul_correct (m n : Nat) :
    app2 Gen.Scott.mul (intoScott m) (intoScott n) ↠ intoScott (m * n) := by
  rw [scott_mul_eq]; lc_head (Z_unfold closed_scottMulF)
  induction m with
  | zero => rw [Nat.zero_mul]; exact scottMul_zero _
  | succ m ih =>
    rw [intoScott_succ m, Nat.succ_mul, Nat.add_comm]
    exact (scottMul_succ _ _).trans
      ((Star.congAppR _ ((ZF_stub2 closed_scottMulF _ _).trans ih)).trans (scott_add_correct _ _))

theorem scottPow_zero (a : Term) : app2 (ZF scottPowF) a (intoScott 0) ↠ Gen.Scott.one :=
  norR 40 [a] (.app₂ .c .p0 .c) .c (by decide +kernel)

theorem scottPow_succ (a p : Term) :
    app2 (ZF scottPowF) a (scottS p) ↠ app2 Gen.Scott.mul a (app2 (stub scottPowF) a p) :=
  norR 7 [a, p] (.app₂ .c .p0 (.abs (.abs (.app .bv .s1)))) (.app₂ .c .p0 (.app₂ .c .p0 .p1)) (by decide +kernel)

theorem scott_pow_correct (m n : Nat) :
    app2 Gen.Scott.pow (intoScott m) (intoScott n) ↠ intoScott (m ^ n) := by
  rw [scott_pow_eq]; lc_head (Z_unfold closed_scottPowF)
  induction n with
  | zero => exact scottPow_zero _
  | succ n ih =>
    rw [intoScott_succ n, Nat.pow_succ, Nat.mul_comm]
    exact (scottPow_succ _ _).trans
      ((Star.congAppR _ ((ZF_stub2 closed_scottPowF _ _).trans ih)).trans (scott_mul_correct _ _))

/-! ## Scott: `to_church = λabc. Z (λdefg. g f (λh. e (d e f h))) b c a` -/

namespace ScottParigot

def body3 : Term → Term
  | abs (abs (abs b)) => b
  | t => t

/-- the functional of `Scott.to_church`, named without copying its tree -/
def scottToChurchF : Term := appArg (appFn (appFn (appFn (body3 Gen.Scott.to_church))))
theorem scott_to_church_eq :
    Gen.Scott.to_church = abs (abs (abs (app3 (app Gen.Comb.Z scottToChurchF) (var 2) (var 1) (var 3)))) := by decide
theorem closed_scottToChurchF : Closed scottToChurchF := by decide

theorem scottToChurch_zero (e f : Term) : app3 (ZF scottToChurchF) e f (intoScott 0) ↠ f :=
  norR 40 [e, f] (.app₃ .c .p0 .p1 .c) .p1 (by decide +kernel)

theorem scottToChurch_succ (e f p : Term) :
    app3 (ZF scottToChurchF) e f (scottS p) ↠ app e (app3 (stub scottToChurchF) e f p) :=
  norR 8 [e, f, p] (.app₃ .c .p0 .p1 (.abs (.abs (.app .bv .s2)))) (.app .p0 (.app₃ .c .p0 .p1 .p2)) (by decide +kernel)

/-- the recursion, under the two binders `λf x.` of the resulting Church numeral -/
theorem scott_to_church_rec (n : Nat) :
    app3 (ZF scottToChurchF) (var 2) (var 1) (intoScott n) ↠ iterApp (var 2) (var 1) n := by
  induction n with
  | zero => exact scottToChurch_zero _ _
  | succ n ih =>
    rw [intoScott_succ n]
    exact (scottToChurch_succ _ _ _).trans
      (Star.congAppR _ ((Star.head2 (ZF_stub closed_scottToChurchF _)).trans ih))

end ScottParigot

theorem scott_to_church_correct (n : Nat) : app Gen.Scott.to_church (intoScott n) ↠ intoChurch n := by
  rw [scott_to_church_eq, intoChurch_eq]
  lc_beta
  exact Star.congAbs (Star.congAbs ((Star.head3 (Z_unfold closed_scottToChurchF)).trans (scott_to_church_rec n)))

end LC
