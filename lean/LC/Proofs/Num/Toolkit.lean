/-
TOOLKIT for correctness proofs of the λ-encoded operations (`LC.Gen.*`) up to β-reduction: tactics that move along a
reduction `t ↠ u` (`lc_trans`, `lc_head`, `lc_beta`, `lc_fold`); for each encoder of `Model/Encode.lean` (numerals, lists,
containers, with `iterApp` for the iterated application inside them) that its values are closed, their shape, and the
elimination law; the recursion equation of `Z F` for a closed functional `F` (`ZW`, `ZF`, `Eager.stub`); selectors
(`appArg`, `appFn`, `absBody`) that name a part of a generated constant without copying its tree.
Closedness (`Closed`, the simp set and tactic `lc_simp`) is in `Proofs/Num/Closed.lean`; `scott_add_correct` at the end of
this file shows the method (recursion equations by `norR`, then induction).
-/
import LC.Proofs.Num.Closed
import LC.Proofs.NorRead
import LC.Props.C17
import LC.Model.Encode
import LC.Spec.NormalForms
import LC.Gen.All

namespace LC
open Term Spec Enc

/-- `t ↠ u`: `t` β-reduces to `u` in zero or more steps (anywhere in the term) -/
scoped infix:50 " ↠ " => Spec.Star

/-- enables `calc t ↠ u := … _ ↠ v := …` -/
instance : Trans Spec.Star Spec.Star Spec.Star := ⟨Star.trans⟩

abbrev app2 (f a b : Term) : Term := app (app f a) b
abbrev app3 (f a b c : Term) : Term := app (app (app f a) b) c
abbrev app4 (f a b c d : Term) : Term := app (app (app (app f a) b) c) d

/-! ## contraction: cancellation lemmas and the β tactics -/

/-- substituting for a variable that was shifted away: `o < d ≤ o + k`; with `k` and `k - 1` (not `k + 1` and `k` as in
`applyAux_shiftFV_cancel'`) the left-hand side matches a shift by any amount, a numeral in particular -/
@[lc_simp] theorem applyAux_shiftFV_cancel_simp (x : Term) (d o k : Nat) (t : Term) (h1 : o < d) (h2 : d ≤ o + k) :
    applyAux x d (shiftFV k o t) = shiftFV (k - 1) o t := by
  obtain ⟨k, rfl⟩ : ∃ j, k = j + 1 := ⟨k - 1, by omega⟩
  exact applyAux_shiftFV_cancel' x d o k h1 (by omega) t

attribute [lc_simp] shiftFV_shiftFV_add

theorem isNormal_shiftFV (a o : Nat) (t : Term) : isNormal (shiftFV a o t) = isNormal t := by
  induction t generalizing o with
  | var i => simp only [shiftFV]; split <;> rfl
  | abs b ih => simp only [shiftFV, isNormal, ih]
  | app l r ihl ihr => simp only [shiftFV, isNormal, ihl, ihr, isAbs_shiftFV]

theorem Star.beta (b a : Term) : app (abs b) a ↠ contract b a := Star.redc b a

/-- `lc_trans h`: from goal `t ↠ v` and `h : t ↠ u` to goal `u ↠ v` -/
macro "lc_trans " e:term : tactic => `(tactic| refine Star.trans $e ?_)

theorem Star.head1 {t u a : Term} (h : t ↠ u) : app t a ↠ app u a := Star.congAppL _ h
theorem Star.head2 {t u a b : Term} (h : t ↠ u) : app2 t a b ↠ app2 u a b := Star.congAppL _ (Star.head1 h)
theorem Star.head3 {t u a b c : Term} (h : t ↠ u) : app3 t a b c ↠ app3 u a b c := Star.congAppL _ (Star.head2 h)

/-- `lc_head h`: like `lc_trans`, but `h : t ↠ u` is used at the head of the application spine of the goal's
left-hand side (`t a₁ … a_k ↠ v` becomes `u a₁ … a_k ↠ v`, `0 ≤ k ≤ 3`) -/
macro "lc_head " e:term : tactic => `(tactic| first
  | lc_trans $e
  | lc_trans Star.head1 $e
  | lc_trans Star.head2 $e
  | lc_trans Star.head3 $e)

/-- `lc_beta`: contract the head redex `(λb) a₁ a₂ … a_k` (`1 ≤ k ≤ 4`) of the goal's left-hand side and normalise the
substitution with `lc_simp`.  Definitions (generated constants) at the head are unfolded by unification.
`lc_beta n` does it `n` times. -/
syntax "lc_beta" (num)? : tactic
macro_rules
  | `(tactic| lc_beta) => `(tactic| (lc_head (Star.redc _ _); try lc_simp))
  | `(tactic| lc_beta $n) => `(tactic| iterate $n lc_beta)

open Lean in
/-- `lc_fold c₁ c₂ …`: fold the explicit trees of the named constants back into their names (in the given order: list
bigger constants first), e.g. `lc_fold Gen.Church.sub Gen.Church.succ`.  Purely cosmetic:
`exact`/`lc_trans`/`lc_head` see through names anyway. -/
macro "lc_fold " cs:(ppSpace colGt ident)+ : tactic => do
  let tacs ← cs.mapM fun c => do
    let eq := mkIdentFrom c (c.getId ++ `eq_def)
    `(tactic| try simp only [← $eq:ident])
  `(tactic| ($[$tacs];*))

/-! ## iteration, Church numerals -/

/-- `fⁿ x` -/
def iterApp (f x : Term) : Nat → Term
  | 0 => x
  | n + 1 => app f (iterApp f x n)

@[simp, lc_simp] theorem iterApp_zero (f x : Term) : iterApp f x 0 = x := rfl
theorem iterApp_succ (f x : Term) (n : Nat) : iterApp f x (n + 1) = app f (iterApp f x n) := rfl
theorem iterApp_succ' (f x : Term) (n : Nat) : iterApp f x (n + 1) = iterApp f (app f x) n := by
  induction n with
  | zero => rfl
  | succ n ih => rw [iterApp_succ, ih]; rfl
theorem iterApp_add (f x : Term) (m n : Nat) : iterApp f x (m + n) = iterApp f (iterApp f x n) m := by
  induction m with
  | zero => simp
  | succ m ih => rw [Nat.succ_add, iterApp_succ, ih]; rfl

@[lc_simp] theorem shiftFV_iterApp (a o : Nat) (f x : Term) (n : Nat) :
    shiftFV a o (iterApp f x n) = iterApp (shiftFV a o f) (shiftFV a o x) n := by
  induction n with
  | zero => rfl
  | succ n ih => simp [iterApp, shiftFV, ih]
@[lc_simp] theorem applyAux_iterApp (r : Term) (d : Nat) (f x : Term) (n : Nat) :
    applyAux r d (iterApp f x n) = iterApp (applyAux r d f) (applyAux r d x) n := by
  induction n with
  | zero => rfl
  | succ n ih => simp [iterApp, applyAux, ih]
@[lc_simp] theorem psubstAux_iterApp (σ : Nat → Term) (d : Nat) (f x : Term) (n : Nat) :
    psubstAux σ d (iterApp f x n) = iterApp (psubstAux σ d f) (psubstAux σ d x) n := by
  induction n with
  | zero => rfl
  | succ n ih => simp [iterApp, psubstAux, ih]
@[lc_simp] theorem psubst_iterApp (σ : Nat → Term) (f x : Term) (n : Nat) :
    psubst σ (iterApp f x n) = iterApp (psubst σ f) (psubst σ x) n := psubstAux_iterApp σ 0 f x n
@[lc_simp] theorem closedAt_iterApp (k : Nat) (f x : Term) (n : Nat) :
    closedAt k (iterApp f x n) = (closedAt k x && (n == 0 || closedAt k f)) := by
  induction n with
  | zero => simp [iterApp]
  | succ n ih => simp [iterApp, closedAt, ih]; grind
theorem Star.iterApp {f f' x x' : Term} (hf : f ↠ f') (hx : x ↠ x') (n : Nat) : iterApp f x n ↠ iterApp f' x' n := by
  induction n with
  | zero => exact hx
  | succ n ih => exact Star.congApp hf ih

theorem churchBody_eq (n : Nat) : churchBody n = iterApp (var 2) (var 1) n := by
  induction n with
  | zero => rfl
  | succ n ih => simp [churchBody, iterApp, ih]

theorem intoChurch_eq (n : Nat) : intoChurch n = abs (abs (iterApp (var 2) (var 1) n)) := by
  simp [intoChurch, churchBody_eq]

@[simp, lc_simp] theorem closedAt_intoChurch (k n : Nat) : closedAt k (intoChurch n) = true := by
  simp [intoChurch_eq, closedAt, closedAt_iterApp]
theorem closed_intoChurch (n : Nat) : Closed (intoChurch n) := closedAt_intoChurch 0 n

/-- Church elimination, for arbitrary (open) `f`, `x` -/
theorem church_elim (n : Nat) (f x : Term) : app2 (intoChurch n) f x ↠ iterApp f x n := by
  rw [intoChurch_eq]; lc_beta 2; exact Star.refl _

theorem isNormal_iterApp (f x : Term) (n : Nat) :
    isNormal (iterApp f x n) = (isNormal x && (n == 0 || (!isAbs f && isNormal f))) := by
  induction n with
  | zero => simp [iterApp]
  | succ n ih => simp [iterApp, isNormal, ih]; grind

theorem normal_intoChurch (n : Nat) : isNormal (intoChurch n) = true := by
  rw [intoChurch_eq]; simp [isNormal, isNormal_iterApp, isAbs]

/-! ## the other encodings: closedness and elimination laws -/

@[simp, lc_simp] theorem closedAt_intoScott (k n : Nat) : closedAt k (intoScott n) = true := by
  induction n generalizing k with
  | zero => simp [intoScott, closedAt]
  | succ n ih => simp [intoScott, closedAt, ih]
theorem closed_intoScott (n : Nat) : Closed (intoScott n) := closedAt_intoScott 0 n

theorem scott_elim_zero (a b : Term) : app2 (intoScott 0) a b ↠ a :=
  norR 2 [a, b] (.app₂ .c .p0 .p1) .p0 (by decide +kernel)
theorem scott_elim_succ (n : Nat) (a b : Term) : app2 (intoScott (n + 1)) a b ↠ app b (intoScott n) := by
  lc_beta 2; exact Star.refl _

/-- the body of a Parigot numeral under its two binders (`var 2` = step, `var 1` = zero) -/
def parigotBody : Nat → Term
  | 0 => var 1
  | n + 1 => app2 (var 2) (abs (abs (parigotBody n))) (parigotBody n)

theorem intoParigot_eq (n : Nat) : intoParigot n = abs (abs (parigotBody n)) := by
  induction n with
  | zero => rfl
  | succ n ih => simp [intoParigot, parigotBody, ih, unabs2]

@[simp, lc_simp] theorem unabs2_intoParigot (n : Nat) : unabs2 (intoParigot n) = parigotBody n := by
  rw [intoParigot_eq]; rfl

theorem closedAt_parigotBody (k n : Nat) : closedAt (k + 2) (parigotBody n) = true := by
  induction n generalizing k with
  | zero => simp [parigotBody, closedAt]
  | succ n ih => simp [parigotBody, closedAt, ih]

@[simp] theorem isNormal_parigotBody (n : Nat) : isNormal (parigotBody n) = true := by
  induction n with
  | zero => rfl
  | succ n ih => simp [parigotBody, isNormal, isAbs, ih]

@[simp, lc_simp] theorem closedAt_intoParigot (k n : Nat) : closedAt k (intoParigot n) = true := by
  rw [intoParigot_eq]; simp [closedAt, closedAt_parigotBody]
theorem closed_intoParigot (n : Nat) : Closed (intoParigot n) := closedAt_intoParigot 0 n

/-- primitive recursion: what a Parigot numeral computes from step `s` and base `z` -/
def parigotRec (s z : Term) : Nat → Term
  | 0 => z
  | n + 1 => app2 s (intoParigot n) (parigotRec s z n)

@[simp, lc_simp] theorem parigotRec_zero (s z : Term) : parigotRec s z 0 = z := rfl
theorem parigotRec_succ (s z : Term) (n : Nat) :
    parigotRec s z (n + 1) = app2 s (intoParigot n) (parigotRec s z n) := rfl

theorem parigotBody_succ (n : Nat) : parigotBody (n + 1) = app2 (var 2) (intoParigot n) (parigotBody n) := by
  rw [intoParigot_eq]; rfl

theorem parigotBody_inst (s z : Term) (n : Nat) :
    applyAux z 1 (applyAux s 2 (parigotBody n)) = parigotRec s z n := by
  induction n with
  | zero => lc_simp [parigotBody]
  | succ n ih => rw [parigotBody_succ]; lc_simp [parigotRec, ih]

/-- Parigot elimination, arbitrary `s`, `z`.
NOTE: the "one-step" shape `… ↠ s (P n) (P n s z)` is not a reduction (the recursive result occurs already unfolded);
`parigotRec` is the true reduct. -/
theorem parigot_elim (n : Nat) (s z : Term) : app2 (intoParigot n) s z ↠ parigotRec s z n := by
  rw [intoParigot_eq]
  lc_head (Star.redc _ _); lc_trans (Star.redc _ _)
  simp only [contract]
  rw [parigotBody_inst]; exact Star.refl _

theorem parigot_elim_zero (s z : Term) : app2 (intoParigot 0) s z ↠ z := parigot_elim 0 s z
theorem parigot_elim_succ (n : Nat) (s z : Term) :
    app2 (intoParigot (n + 1)) s z ↠ app2 s (intoParigot n) (parigotRec s z n) := parigot_elim (n + 1) s z

@[simp, lc_simp] theorem closedAt_intoStumpFu (k n : Nat) : closedAt k (intoStumpFu n) = true := by
  induction n generalizing k with
  | zero => simp [intoStumpFu, closedAt]
  | succ n ih => simp [intoStumpFu, closedAt, ih]
theorem closed_intoStumpFu (n : Nat) : Closed (intoStumpFu n) := closedAt_intoStumpFu 0 n

theorem stumpfu_elim_zero (s z : Term) : app2 (intoStumpFu 0) s z ↠ z :=
  norR 2 [s, z] (.app₂ .c .p0 .p1) .p1 (by decide +kernel)
theorem stumpfu_elim_succ (n : Nat) (s z : Term) :
    app2 (intoStumpFu (n + 1)) s z ↠ app2 s (intoChurch (n + 1)) (intoStumpFu n) := by
  lc_beta 2; exact Star.refl _

theorem closedAt_binaryFold (k : Nat) (bs : List Bool) (acc : Term) (h : closedAt (k + 3) acc = true) :
    closedAt (k + 3) (bs.foldl (fun ret bit => app (if bit then var 1 else var 2) ret) acc) = true := by
  induction bs generalizing acc with
  | nil => exact h
  | cons b bs ih => apply ih; cases b <;> simp [closedAt, h]

@[simp, lc_simp] theorem closedAt_intoBinary (k n : Nat) : closedAt k (intoBinary n) = true := by
  simp only [intoBinary, closedAt]
  exact closedAt_binaryFold k _ _ (by simp [closedAt])
theorem closed_intoBinary (n : Nat) : Closed (intoBinary n) := closedAt_intoBinary 0 n

/- The laws of the closed constants `tru`, `fls`, `K`, `pair` (unapplied to a selector) are property theorems of
`Props/C17.lean`; they are named here in the form the proofs use. -/
@[simp, lc_simp] theorem closedAt_fromBool (k : Nat) (b : Bool) : closedAt k (fromBool b) = true := by
  cases b <;> simp [fromBool, closedAt]

theorem tru_elim (a b : Term) : app2 Gen.Bool.tru a b ↠ a := (C17_tru_fls a b).1
theorem fls_elim (a b : Term) : app2 Gen.Bool.fls a b ↠ b := (C17_tru_fls a b).2
theorem fromBool_elim (c : Bool) (a b : Term) : app2 (fromBool c) a b ↠ if c then a else b := by
  cases c
  · exact fls_elim a b
  · exact tru_elim a b

@[lc_simp] theorem closedAt_tuple2 (k : Nat) (a b : Term) :
    closedAt k (tuple2 a b) = (closedAt (k + 1) a && closedAt (k + 1) b) := by
  simp [tuple2, closedAt]
theorem closed_tuple2 {a b : Term} (ha : Closed a) (hb : Closed b) : Closed (tuple2 a b) := by lc_simp
theorem normal_tuple2 {a b : Term} (ha : isNormal a = true) (hb : isNormal b = true) :
    isNormal (tuple2 a b) = true := by simp [tuple2, isNormal, isAbs, ha, hb]

theorem fromPair_eq (a b : Term) : fromPair a b = tuple2 a b := rfl

/-- projection out of a pair with CLOSED components (open components would be captured by the pair's binder) -/
theorem tuple2_elim {a b : Term} (ha : Closed a) (hb : Closed b) (f : Term) : app (tuple2 a b) f ↠ app2 f a b := by
  unfold tuple2; lc_beta; exact Star.refl _

theorem pair_fst {a b : Term} (ha : Closed a) (hb : Closed b) : app Gen.Pair.fst (tuple2 a b) ↠ a := by
  lc_beta; lc_trans (tuple2_elim ha hb _); lc_beta 2; exact Star.refl _
theorem pair_snd {a b : Term} (ha : Closed a) (hb : Closed b) : app Gen.Pair.snd (tuple2 a b) ↠ b := by
  lc_beta; lc_trans (tuple2_elim ha hb _); lc_beta 2; exact Star.refl _

theorem pair_elim (a b f : Term) : app3 Gen.Pair.pair a b f ↠ app2 f a b :=
  norR 3 [a, b, f] (.app₃ .c .p0 .p1 .p2) (.app₂ .p2 .p0 .p1) (by decide +kernel)
theorem pair_mk_open (a b : Term) : app2 Gen.Pair.pair a b ↠ tuple2 (shiftFV 1 0 a) (shiftFV 1 0 b) :=
  C17_from_pair_open a b
theorem pair_mk {a b : Term} (ha : Closed a) (hb : Closed b) : app2 Gen.Pair.pair a b ↠ tuple2 a b := by
  have h := pair_mk_open a b
  rwa [shiftFV_closed _ _ ha, shiftFV_closed _ _ hb] at h

/-! ### lists (elements CLOSED: the Rust constructors place the elements under binders without shifting) -/

theorem closed_pairList {ts : List Term} (h : ∀ t ∈ ts, Closed t) : Closed (pairList ts) := by
  induction ts with
  | nil => decide
  | cons t ts ih =>
    have h1 := h t (by simp)
    have h2 := ih (fun u hu => h u (List.mem_cons_of_mem _ hu))
    lc_simp [pairList]

theorem pairList_nil : pairList [] = Gen.Bool.fls := by decide
theorem pairList_cons (t : Term) (ts : List Term) : pairList (t :: ts) = tuple2 t (pairList ts) := rfl

theorem pairList_elim_nil (a b : Term) : app2 (pairList []) a b ↠ b :=
  norR 2 [a, b] (.app₂ .c .p0 .p1) .p1 (by decide +kernel)
theorem pairList_elim_cons {t : Term} {ts : List Term} (ht : Closed t) (hts : ∀ u ∈ ts, Closed u) (f : Term) :
    app (pairList (t :: ts)) f ↠ app2 f t (pairList ts) :=
  tuple2_elim ht (closed_pairList hts) f

theorem closedAt_churchListBody {ts : List Term} (h : ∀ t ∈ ts, Closed t) (k : Nat) :
    closedAt (k + 2) (churchListBody ts) = true := by
  induction ts with
  | nil => simp [churchListBody, closedAt]
  | cons t ts ih =>
    have h1 := h t (by simp)
    have h2 := ih (fun u hu => h u (List.mem_cons_of_mem _ hu))
    lc_simp [churchListBody]
theorem closed_churchList {ts : List Term} (h : ∀ t ∈ ts, Closed t) : Closed (churchList ts) := by
  exact closedAt_churchListBody h 0

/-- what the fold `l n c` substitutes for an element of the raw conversion (in the namespace of the lemmas on raw
conversions of `LC/Proofs/List/Basic.lean`, `More.lean`, which are stated with it; here because `churchListBody_inst` below
is the closed case of `churchListBody_inst_raw`) -/
def ListMore.starElem (n c t : Term) : Term := applyAux c 1 (applyAux n 2 t)

theorem ListMore.churchListBody_inst_raw (ts : List Term) (n c : Term) :
    applyAux c 1 (applyAux n 2 (churchListBody ts)) =
      (ts.map (ListMore.starElem n c)).foldr (fun t acc => app2 c t acc) n := by
  induction ts with
  | nil => lc_simp [churchListBody]
  | cons t ts ih => lc_simp [churchListBody, ih, ListMore.starElem]

theorem churchListBody_inst {ts : List Term} (h : ∀ t ∈ ts, Closed t) (n c : Term) :
    applyAux c 1 (applyAux n 2 (churchListBody ts)) = ts.foldr (fun t acc => app2 c t acc) n := by
  have e : ts.map (ListMore.starElem n c) = ts :=
    (List.map_congr_left fun t ht => by have h1 := h t ht; lc_simp [ListMore.starElem]).trans (List.map_id ts)
  rw [ListMore.churchListBody_inst_raw, e]

/-- Church (fold) list elimination = right fold.  NOTE the argument order of the crate: nil value first, cons function second. -/
theorem churchList_elim {ts : List Term} (h : ∀ t ∈ ts, Closed t) (n c : Term) :
    app2 (churchList ts) n c ↠ ts.foldr (fun t acc => app2 c t acc) n := by
  unfold churchList
  lc_head (Star.redc _ _); lc_trans (Star.redc _ _)
  simp only [contract]
  rw [churchListBody_inst h]; exact Star.refl _

theorem closed_scottList {ts : List Term} (h : ∀ t ∈ ts, Closed t) : Closed (scottList ts) := by
  induction ts with
  | nil => decide
  | cons t ts ih =>
    have h1 := h t (by simp)
    have h2 := ih (fun u hu => h u (List.mem_cons_of_mem _ hu))
    lc_simp [scottList]

theorem scottList_elim_nil (a b : Term) : app2 (scottList []) a b ↠ a :=
  norR 2 [a, b] (.app₂ .c .p0 .p1) .p0 (by decide +kernel)
theorem scottList_elim_cons {t : Term} {ts : List Term} (ht : Closed t) (hts : ∀ u ∈ ts, Closed u) (a b : Term) :
    app2 (scottList (t :: ts)) a b ↠ app2 b t (scottList ts) := by
  have h2 := closed_scottList hts
  show app2 (abs (abs (app2 (var 1) t (scottList ts)))) a b ↠ _
  lc_beta 2; exact Star.refl _

/-- body of a Parigot list under its two binders (`var 1` = cons handler, `var 2` = nil value) -/
def parigotListBody : List Term → Term
  | [] => var 2
  | t :: ts => app3 (var 1) t (abs (abs (parigotListBody ts))) (parigotListBody ts)

theorem parigotList_eq (ts : List Term) : parigotList ts = abs (abs (parigotListBody ts)) := by
  induction ts with
  | nil => rfl
  | cons t ts ih => simp [parigotList, parigotListBody, ih, unabs2]

theorem closedAt_parigotListBody {ts : List Term} (h : ∀ t ∈ ts, Closed t) (k : Nat) :
    closedAt (k + 2) (parigotListBody ts) = true := by
  induction ts generalizing k with
  | nil => simp [parigotListBody, closedAt]
  | cons t ts ih =>
    have h1 := h t (by simp)
    have h2 := ih (fun u hu => h u (List.mem_cons_of_mem _ hu))
    lc_simp [parigotListBody, h2]
theorem closed_parigotList {ts : List Term} (h : ∀ t ∈ ts, Closed t) : Closed (parigotList ts) := by
  rw [parigotList_eq]; exact closedAt_parigotListBody h 0

theorem parigotListBody_cons (t : Term) (ts : List Term) :
    parigotListBody (t :: ts) = app3 (var 1) t (parigotList ts) (parigotListBody ts) := by
  rw [parigotList_eq]; rfl

/-- what a Parigot list computes from the nil value `a` and the cons handler `b` (head, tail, recursive result) -/
def parigotListRec (a b : Term) : List Term → Term
  | [] => a
  | t :: ts => app3 b t (parigotList ts) (parigotListRec a b ts)

theorem parigotListBody_inst {ts : List Term} (h : ∀ t ∈ ts, Closed t) (a b : Term) :
    applyAux b 1 (applyAux a 2 (parigotListBody ts)) = parigotListRec a b ts := by
  induction ts with
  | nil => lc_simp [parigotListBody, parigotListRec]
  | cons t ts ih =>
    have h1 := h t (by simp)
    have h2 := ih (fun u hu => h u (List.mem_cons_of_mem _ hu))
    have h3 := closed_parigotList (fun u hu => h u (List.mem_cons_of_mem _ hu))
    rw [parigotListBody_cons]; lc_simp [parigotListRec, h2]

theorem parigotList_elim {ts : List Term} (h : ∀ t ∈ ts, Closed t) (a b : Term) :
    app2 (parigotList ts) a b ↠ parigotListRec a b ts := by
  rw [parigotList_eq]
  lc_head (Star.redc _ _); lc_trans (Star.redc _ _)
  simp only [contract]
  rw [parigotListBody_inst h]; exact Star.refl _

/-- argument / function part of an application, body of an abstraction (to name a part of a generated constant, such as
the functional `F` of `Z F`, without copying its tree) -/
def appArg : Term → Term | app _ r => r | t => t
def appFn : Term → Term | app l _ => l | t => t
def absBody : Term → Term | abs b => b | t => t

theorem K_elim (x y : Term) : app2 Gen.Comb.K x y ↠ x := C17_K x y

/-- half of the self-application `Z f` unfolds to: `λx. f (λv. x x v)` -/
def ZW (f : Term) : Term := abs (app f (abs (app2 (var 2) (var 2) (var 1))))
/-- the term `Z f` head-reduces to (for closed `f`): `(λx. f (λv. x x v)) (λx. f (λv. x x v))` -/
def ZF (f : Term) : Term := app (ZW f) (ZW f)

@[lc_simp] theorem closedAt_ZW (k : Nat) (f : Term) : closedAt k (ZW f) = closedAt (k + 1) f := by
  simp [ZW, closedAt]
@[lc_simp] theorem closedAt_ZF (k : Nat) (f : Term) : closedAt k (ZF f) = closedAt (k + 1) f := by
  simp [ZF, closedAt, closedAt_ZW]
theorem closed_ZF {f : Term} (hf : Closed f) : Closed (ZF f) := by lc_simp

namespace Eager
/-- the recursive call that a function defined as `Z f` hands to its functional: `λv. ZF f v` -/
def stub (f : Term) : Term := abs (app (ZF f) (var 1))
end Eager
open Eager

@[lc_simp] theorem closedAt_stub (k : Nat) (f : Term) : closedAt k (stub f) = closedAt (k + 2) f := by
  simp [stub, closedAt, closedAt_ZF]

theorem Z_unfold {f : Term} (hf : Closed f) : app Gen.Comb.Z f ↠ ZF f := by
  lc_beta; exact Star.refl _

theorem ZF_unfold {f : Term} (hf : Closed f) : ZF f ↠ app f (stub f) := by
  show app (ZW f) (ZW f) ↠ _
  rw [show ZW f = abs (app f (abs (app2 (var 2) (var 2) (var 1)))) from rfl]
  lc_beta; exact Star.refl _

/-- THE unfolding law for recursive operations `Z F`: arbitrary argument `v`, closed functional `f` -/
theorem ZF_app {f : Term} (hf : Closed f) (v : Term) :
    app (ZF f) v ↠ app2 f (stub f) v := Star.congAppL v (ZF_unfold hf)

theorem ZF_stub {f : Term} (hf : Closed f) (v : Term) : app (stub f) v ↠ app (ZF f) v := by
  lc_beta; exact Star.refl _

theorem ZF_stub2 {f : Term} (hf : Closed f) (a b : Term) :
    app2 (stub f) a b ↠ app2 (ZF f) a b := Star.head1 (ZF_stub hf a)

theorem Z_app {f : Term} (hf : Closed f) (v : Term) :
    app2 Gen.Comb.Z f v ↠ app2 f (abs (app (ZF f) (var 1))) v :=
  (Star.congAppL v (Z_unfold hf)).trans (ZF_app hf v)

theorem scott_succ_correct (n : Nat) : app Gen.Scott.succ (intoScott n) ↠ intoScott (n + 1) := by
  lc_beta; exact Star.refl _

/-- `lc_fold` demo: after four head contractions the body of `Church.div`'s functional reads as in the Rust source -/
example (g a b c : Term) (hg : Closed g) (ha : Closed a) (hb : Closed b) (hc : Closed c) :
    app4 (appArg (appFn Gen.Church.div)) g a b c ↠
      app3 (app2 Gen.Church.lt b c) (abs (app2 Gen.Pair.pair a b))
        (abs (app3 g (app Gen.Church.succ a) (app2 Gen.Church.sub b c) c)) Gen.Comb.I := by
  lc_beta 4
  lc_fold Gen.Church.lt Gen.Church.sub Gen.Church.succ Gen.Pair.pair Gen.Comb.I
  exact Star.refl _

/-- the functional of `Scott.add = Z (λf m n. m n (λp. succ (f p n)))`, named without copying its tree -/
def scottAddF : Term := appArg Gen.Scott.add
theorem scott_add_eq : Gen.Scott.add = app Gen.Comb.Z scottAddF := by decide
theorem closed_scottAddF : Closed scottAddF := by decide

/-- the Scott successor of an arbitrary term `p`: `λx y. y p`, with `p` under the two binders -/
abbrev scottS (p : Term) : Term := abs (abs (app (var 1) (shiftFV 2 0 p)))

theorem intoScott_succ (n : Nat) : intoScott (n + 1) = scottS (intoScott n) := by
  rw [scottS, shiftFV_closed _ _ (closed_intoScott n)]; rfl

/-! The recursion equations of a `Z`-recursive operation hold for ARBITRARY arguments; each is one normal-order run on
placeholders, read off the statement (`norR`, `Proofs/NorRead.lean`; the step count is exact where the right-hand side
still has a head redex).  The correctness proof is then the induction alone. -/

theorem scottAdd_zero (b : Term) : app2 (ZF scottAddF) (intoScott 0) b ↠ b :=
  norR 40 [b] (.app₂ .c .c .p0) .p0 (by decide +kernel)

theorem scottAdd_succ (p b : Term) :
    app2 (ZF scottAddF) (scottS p) b ↠ app Gen.Scott.succ (app2 (stub scottAddF) p b) :=
  norR 7 [p, b] (.app₂ .c (.abs (.abs (.app .bv .s0))) .p1) (.app .c (.app₂ .c .p0 .p1)) (by decide +kernel)

theorem scott_add_correct (m n : Nat) :
    app2 Gen.Scott.add (intoScott m) (intoScott n) ↠ intoScott (m + n) := by
  rw [scott_add_eq]; lc_head (Z_unfold closed_scottAddF)
  induction m with
  | zero => rw [Nat.zero_add]; exact scottAdd_zero _
  | succ m ih =>
    rw [Nat.succ_add, intoScott_succ m]
    exact (scottAdd_succ _ _).trans
      ((Star.congAppR _ ((ZF_stub2 closed_scottAddF _ _).trans ih)).trans (scott_succ_correct _))

/-- `add a b ↠ b succ a` for arbitrary `a b`: two normal-order steps on placeholders -/
theorem church_add_law (a b : Term) : app2 Gen.Church.add a b ↠ app2 b Gen.Church.succ a :=
  norR 2 [a, b] (.app₂ .c .p0 .p1) (.app₂ .p1 .c .p0) (by decide +kernel)

end LC
