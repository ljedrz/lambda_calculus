/-
Closedness for the toolkit of `Proofs/Num/Toolkit.lean`: the predicate `Closed`, the simp set `lc_simp` (computes
`contract`/`applyAux`/`shiftFV`/`closedAt`/`psubst` on explicit constructor trees; closed subterms — generated constants
in particular, whose closedness is evaluated — are left alone), and the tactic `lc_simp`.
-/
import LC.Proofs.Reflection
import LC.Proofs.Num.ToolkitAttr

namespace LC
open Term Spec

/-- a closed term (no free variables; `var 0` does not occur outside a binder either) -/
abbrev Closed (t : Term) : Prop := closedAt 0 t = true

theorem Closed.closedAt {t : Term} (h : Closed t) (k : Nat) : closedAt k t = true :=
  closedAt_mono h (Nat.zero_le k)

open Lean Meta Simp in
/-- ground instances `closedAt k c` (no free Lean variables, e.g. `c` a generated constant) are evaluated -/
simproc [lc_simp] closedAtGround (Spec.closedAt _ _) := fun e => do
  if e.hasFVar || e.hasMVar then return .continue
  let r ← withDefault (whnf e)
  if r.isConstOf ``Bool.true || r.isConstOf ``Bool.false then
    let pf ← mkExpectedTypeHint (← mkEqRefl r) (← mkEq e r)
    return .done { expr := r, proof? := some pf }
  return .continue

attribute [lc_simp] Closed contract applyAux shiftFV closedAt shiftFV_zero psubst_app psubst_abs psubstAux
  psubst_env_var1 psubst_env_var2 psubst_env_var3 psubst_env_var4 psubst_env_var psubst_var_zero
  env_nil env_cons_one env_cons_succ_succ shiftFV_closed applyAux_closed

@[lc_simp] theorem closedAt_succ_of_closed {t : Term} (h : closedAt 0 t = true) (k : Nat) : closedAt (k + 1) t = true :=
  Closed.closedAt h _
@[lc_simp] theorem contract_of_closed {t : Term} (h : closedAt 0 t = true) (r : Term) : contract t r = t :=
  contract_closed r h
@[lc_simp] theorem psubstAux_of_closed {t : Term} (h : closedAt 0 t = true) (σ : Nat → Term) (d : Nat) :
    psubstAux σ d t = t := psubstAux_closedAt σ d (Closed.closedAt h d)

/-- `lc_simp`, `lc_simp [extra, lemmas]`, `lc_simp … at h`: the toolkit's normalising simp call.
Computes substitutions/shifts/closedness on explicit trees; uses all hypotheses (`Closed a` facts in particular). -/
syntax "lc_simp" (" [" Lean.Parser.Tactic.simpLemma,* "]")? (Lean.Parser.Tactic.location)? : tactic
macro_rules
  | `(tactic| lc_simp $[at $loc]?) => `(tactic| simp [lc_simp, *] $[at $loc]?)
  | `(tactic| lc_simp [$ls,*] $[at $loc]?) => `(tactic| simp [lc_simp, *, $ls,*] $[at $loc]?)

end LC
