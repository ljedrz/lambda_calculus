/-
The specification `fact` of the factorial, and the functionals of the Church operations defined with the fixed-point
combinator `Z` (`quot`, `rem`, `div` of `/repo/src/data/num/church.rs`), each named once with `… = Z F` and `Closed F`.
-/
import LC.Proofs.Num.Toolkit

namespace LC
open Term Spec Enc

namespace ChurchB

/-- the specification of `FAC`: `0! = 1`, `(n+1)! = (n+1) * n!` (core Lean has no `Nat.factorial`) -/
def fact : Nat → Nat
  | 0 => 1
  | n + 1 => (n + 1) * fact n

@[simp] theorem fact_zero : fact 0 = 1 := rfl
theorem fact_succ (n : Nat) : fact (n + 1) = (n + 1) * fact n := rfl

/-- the step function of `FAC ≡ λn. n (λfab. f (MUL a b) (SUCC b)) K ONE ONE` -/
def facStep : Term :=
  abs (abs (abs (app2 (var 3) (app2 Gen.Church.mul (var 2) (var 1)) (app Gen.Church.succ (var 1)))))

/-- the functional of `QUOT ≡ Z (λzab.LT a b (λx.ZERO) (λx.SUCC (z (SUB a b) b)) I)` -/
def quotF : Term := appArg Gen.Church.quot
theorem quot_eq : Gen.Church.quot = app Gen.Comb.Z quotF := by decide
theorem closed_quotF : Closed quotF := by decide

/-- the functional of `REM ≡ Z (λzab.LT a b (λx.a) (λx.z (SUB a b) b) I)` -/
def remF : Term := appArg Gen.Church.rem
theorem rem_eq : Gen.Church.rem = app Gen.Comb.Z remF := by decide
theorem closed_remF : Closed remF := by decide

/-- the functional of `DIV ≡ Z (λzqab.LT a b (λx.PAIR q a) (λx.z (SUCC q) (SUB a b) b) I) ZERO` -/
def divF : Term := appArg (appFn Gen.Church.div)
theorem div_eq : Gen.Church.div = app (app Gen.Comb.Z divF) Gen.Church.zero := by decide
theorem closed_divF : Closed divF := by decide

end ChurchB

end LC
