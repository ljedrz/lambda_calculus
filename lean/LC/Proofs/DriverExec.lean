/-
Helper lemmas for the theorems about whole driver operations (`LC/Props/TieCodecExec.lean`): a line made of words is
split back into them (`exec_lineOf`), the two facts about the dispatch of `execToks` that Lean's own equations of the
`match` do not give at once (`execToks_exec2`, `execToks_bad_op`), the round trips for a line that ends with the value
(`decTerm1`, …), and that `resApply`, defined next to the operations, prints the line of `resApplyWords`.
-/
import LC.Proofs.DriverCodecExpr
import LC.Drv.Ops1

open LC LC.Term LC.Parser

namespace Drv

theorem exec_lineOf {ws : List String} (hw : Words ws) : exec (lineOf ws) = execToks ws := by
  rw [exec, lineOf, tokenize_intercalate hw]

theorem termsWords_words (ts : List Term) : Words (ts.map termWords).flatten :=
  Words.flatten_map termWords_words ts

/-- a first word that is none of the thirteen of `execToks` is handed to `Drv2.exec2` -/
theorem execToks_exec2 {w : String} (ws : List String)
    (h : w ∉ ["apply", "applyb", "reduceb", "reduce", "beta", "hist", "pred", "iso", "acc", "put", "mapp", "mabs",
      "udconst"]) : execToks (w :: ws) = Drv2.exec2 (w :: ws) := by
  simp only [List.mem_cons, List.not_mem_nil, or_false, not_or] at h
  -- as below, for the first `match` only
  delta execToks execToks.match_1 execToks._sparseCasesOn_1
  simp only [h, ↓reduceDIte]

theorem execToks_bad_op {w : String} (ws : List String)
    (h : w ∉ ["apply", "applyb", "reduceb", "reduce", "beta", "hist", "pred", "iso", "acc", "put", "mapp", "mabs",
      "udconst", "lexd", "lexc", "conv", "ast", "fold", "parse", "show", "showu", "enc", "signed", "vect", "vecn",
      "frompair", "fromopt", "fromres", "frombool", "numpair", "numopt", "numres", "tuple", "pi", "errmsg",
      "ordname"]) :
    execToks (w :: ws) = "bad-op" := by
  simp only [List.mem_cons, List.not_mem_nil, or_false, not_or] at h
  -- the two `match`es are compiled to chains of tests `w = "apply"`, …; unfolded by `delta` (`unfold` would first
  -- generate the equations of the matches), every test is decided by `h`.  `….match_1`, `…._sparseCasesOn_1` are the
  -- names Lean gives to the compiled `match`; they follow its shape and the compiler, so an added arm or another
  -- toolchain shows up here first
  delta execToks execToks.match_1 execToks._sparseCasesOn_1 Drv2.exec2 Drv2.exec2.match_1 Drv2.exec2._sparseCasesOn_1
  simp only [h, ↓reduceDIte]

theorem decTerm1 (t : Term) : decTerm (termWords t) = some (t, []) := by
  simpa using decTerm_termWords t []

theorem decTerms1 (ts : List Term) : decTerms ts.length (ts.map termWords).flatten = some (ts, []) := by
  simpa using decTerms_termWords ts []

theorem decChars1 (xs : List (Nat × Nat × Nat)) : decChars xs.length (xs.map charWord) = some xs := by
  simpa using decChars_charWord xs []

theorem decNats1 (ns : List Nat) : decNats ns.length (ns.map toString) = some ns := by
  simpa using decNats_toString ns []

theorem decExprs1 (es : List Expression) : decExprs es.length (exprsWords es) = some (es, []) := by
  simpa using decExprs_exprsWords es []

theorem take_length_self {α : Type} (l : List α) : l.take l.length = l := List.take_length

theorem resApply_eq (t : Term) (p : Term × Except TermError Unit) :
    resApply t p = " ".intercalate (resApplyWords t p) := by
  match p with
  | (t', .ok ()) => exact (showTerm_eq t' ▸ ok_line (termWords_ne_nil t') :)
  | (t', .error e) =>
    simp only [resApply, resApplyWords]
    split
    · simp [String.intercalate_cons_cons]
    · rw [String.intercalate_cons_cons, String.intercalate_cons_cons,
        String.intercalate_cons_of_ne_nil (termWords_ne_nil t'), showTerm_eq]
      have : (" CHANGED " : String) = " " ++ ("CHANGED" ++ " ") := by decide
      have h2 : ("err " : String) = "err" ++ " " := by decide
      rw [this, h2]
      simp only [String.append_assoc]

theorem resApplyWords_words (t : Term) (p : Term × Except TermError Unit) : Words (resApplyWords t p) := by
  match p with
  | (t', .ok ()) => exact Words.cons lit_words (termWords_words t')
  | (t', .error e) =>
    simp only [resApplyWords]
    split
    · exact Words.cons lit_words (errName_words e)
    · exact Words.cons lit_words (Words.cons (errName_words e) (Words.cons lit_words (termWords_words t')))

theorem toNat?_PANIC : "PANIC".toNat? = none := by toNat_none

end Drv
