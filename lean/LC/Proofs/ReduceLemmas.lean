/-
What the refinement says in the terms of the property files (C01, C03, C04, C06, C08):

* "the strategy selects nothing" ⇔ "the term has the shape documented for the order"
  (`RL.stepOrd_none_iff`), and shape-normal ⇔ β-normal (`isNormal_iff_normal`); for the orders that
  visit the whole term (`Order.full`) the documented shape is the β-normal form (`NF_of_full`, `full_of_NF`,
  `stepOrd_none_normal`);
* every traversal leaves a strategy-normal term unchanged once `size t ≤ fuel`
  (`RL.betaOrd_nf_fixed`, from `betaOrd_nf` and `height_lt_size`);
* the runs of a deterministic partial function, bounded (`RL.BRun`) or to the end (`RL.URun`):
  uniqueness and composition; `reduce` returns exactly these runs of its strategy (`RL.reduce_brun`,
  `RL.reduce_urun` and their converses `RL.reduce_of_brun`, `RL.reduce_of_urun`), hence by β-steps
  (`reduce_steps`, `reduce_star`) and, below the limit, to a β-normal term if the order is `full` (`reduce_normal`).
-/
import LC.Proofs.Complete.All
import LC.Spec.NormalForms

namespace LC
namespace RL
open Term Spec

theorem isNormal_isHNF {t : Term} (h : isNormal t = true) : isHNF t = true := by
  induction t with
  | var i => rfl
  | abs b ih => simp only [isNormal, isHNF] at h ⊢; exact ih h
  | app l r ihl _ =>
    simp only [isNormal, Bool.and_eq_true, Bool.not_eq_true'] at h
    cases l with
    | var i => rfl
    | abs b => simp [isAbs] at h
    | app l1 l2 =>
      have := ihl h.1.2
      simpa [isHNF, neutral] using this

theorem isNormal_isWNF {t : Term} (h : isNormal t = true) : isWNF t = true := by
  induction t with
  | var i => rfl
  | abs b => rfl
  | app l r ihl ihr =>
    simp only [isNormal, Bool.and_eq_true, Bool.not_eq_true'] at h
    simp [isWNF, h.1.1, ihl h.1.2, ihr h.2]

theorem isNormal_app_iff {l r : Term} :
    isNormal (app l r) = true ↔ isAbs l = false ∧ isNormal l = true ∧ isNormal r = true := by
  simp only [isNormal, Bool.and_eq_true, Bool.not_eq_true']
  exact ⟨fun h => ⟨h.1.1, h.1.2, h.2⟩, fun h => ⟨⟨h.1, h.2.1⟩, h.2.2⟩⟩

theorem isNormal_app {l r : Term} (h : isNormal (app l r) = true) :
    isAbs l = false ∧ isNormal l = true ∧ isNormal r = true :=
  isNormal_app_iff.1 h

theorem neutral_iff_isHNF {t : Term} : neutral t = true ↔ isHNF t = true ∧ isAbs t = false := by
  cases t <;> simp [neutral, isHNF, isAbs]

theorem neutral_iff_isWHNF {t : Term} : neutral t = true ↔ isWHNF t = true ∧ isAbs t = false := by
  cases t <;> simp [neutral, isWHNF, isAbs]

theorem isWHNF_of_neutral {t : Term} (h : neutral t = true) : isWHNF t = true :=
  (neutral_iff_isWHNF.1 h).1

theorem isHNF_of_neutral {t : Term} (h : neutral t = true) : isHNF t = true :=
  (neutral_iff_isHNF.1 h).1

/-- the documented normal forms follow the scheme of the orders (cf. `stepOrd_app_eq_none`) -/
theorem NF_app (o : Order) (l r : Term) :
    NF o (app l r) = true ↔
      NF o.head l = true ∧ (o.eager = true → NF o r = true) ∧ isAbs l = false ∧
        (o.deep = true → NF o l = true ∧ (o.eager = false → NF o r = true)) := by
  cases o <;> simp only [NF, Order.head, Order.eager, Order.deep]
  case NOR =>
    rw [isNormal_app_iff]
    exact ⟨fun h => ⟨(neutral_iff_isWHNF.1 (neutral_iff_isHNF.2 ⟨isNormal_isHNF h.2.1, h.1⟩)).1, nofun, h.1,
      fun _ => ⟨h.2.1, fun _ => h.2.2⟩⟩, fun h => ⟨h.2.2.1, (h.2.2.2 trivial).1, (h.2.2.2 trivial).2 trivial⟩⟩
  case CBN =>
    show neutral l = true ↔ _
    rw [neutral_iff_isWHNF]
    exact ⟨fun h => ⟨h.1, nofun, h.2, nofun⟩, fun h => ⟨h.1, h.2.2.1⟩⟩
  case HSP =>
    show neutral l = true ↔ _
    rw [neutral_iff_isHNF]
    exact ⟨fun h => ⟨h.1, nofun, h.2, nofun⟩, fun h => ⟨h.1, h.2.2.1⟩⟩
  case HNO =>
    rw [isNormal_app_iff]
    exact ⟨fun h => ⟨isNormal_isHNF h.2.1, nofun, h.1, fun _ => ⟨h.2.1, fun _ => h.2.2⟩⟩,
      fun h => ⟨h.2.2.1, (h.2.2.2 trivial).1, (h.2.2.2 trivial).2 trivial⟩⟩
  case APP =>
    rw [isNormal_app_iff]
    exact ⟨fun h => ⟨h.2.1, fun _ => h.2.2, h.1, nofun⟩, fun h => ⟨h.2.2.1, h.1, h.2.1 trivial⟩⟩
  case CBV =>
    simp only [isWNF, Bool.and_eq_true, Bool.not_eq_true']
    exact ⟨fun h => ⟨h.1.2, fun _ => h.2, h.1.1, nofun⟩, fun h => ⟨⟨h.2.2.1, h.1⟩, h.2.1 trivial⟩⟩
  case HAP =>
    rw [isNormal_app_iff]
    exact ⟨fun h => ⟨isNormal_isWNF h.2.1, fun _ => h.2.2, h.1, fun _ => ⟨h.2.1, nofun⟩⟩,
      fun h => ⟨h.2.2.1, (h.2.2.2 trivial).1, h.2.1 trivial⟩⟩

theorem NF_abs (o : Order) (b : Term) : NF o (abs b) = if o.under then NF o b else true := by
  cases o <;> rfl

theorem stepOrd_none_iff (o : Order) (t : Term) : stepOrd o t = none ↔ NF o t = true := by
  induction t generalizing o with
  | var i => rw [stepOrd_var]; cases o <;> exact ⟨fun _ => rfl, fun _ => rfl⟩
  | abs b ih =>
    rw [stepOrd_abs, NF_abs]
    cases o.under with
    | false => exact ⟨fun _ => rfl, fun _ => rfl⟩
    | true => rw [if_pos rfl, if_pos rfl, Option.map_eq_none_iff]; exact ih o
  | app l r ihl ihr => rw [stepOrd_app_eq_none, NF_app, ihl, ihl, ihr]

theorem stepCbn_none_iff (t : Term) : stepCbn t = none ↔ isWHNF t = true := stepOrd_none_iff .CBN t
theorem stepNor_none_iff (t : Term) : stepNor t = none ↔ isNormal t = true := stepOrd_none_iff .NOR t
theorem stepHsp_none_iff (t : Term) : stepHsp t = none ↔ isHNF t = true := stepOrd_none_iff .HSP t
theorem stepHno_none_iff (t : Term) : stepHno t = none ↔ isNormal t = true := stepOrd_none_iff .HNO t
theorem stepApp_none_iff (t : Term) : stepApp t = none ↔ isNormal t = true := stepOrd_none_iff .APP t
theorem stepCbv_none_iff (t : Term) : stepCbv t = none ↔ isWNF t = true := stepOrd_none_iff .CBV t
theorem stepHap_none_iff (t : Term) : stepHap t = none ↔ isNormal t = true := stepOrd_none_iff .HAP t

theorem isNormal_eq_false_of_beta {t u : Term} (hb : Beta t u) : isNormal t = false := by
  induction hb with
  | red b a => simp [isNormal, isAbs]
  | congAbs _ ih => simpa [isNormal] using ih
  | congAppL _ ih => simp [isNormal, ih]
  | congAppR _ ih => simp [isNormal, ih]

theorem _root_.LC.isNormal_iff_normal (t : Term) : isNormal t = true ↔ Normal t := by
  constructor
  · intro h u hb
    rw [isNormal_eq_false_of_beta hb] at h; cases h
  · exact fun h => (stepNor_none_iff t).1 (stepOrd_none_of_normal .NOR h)

/-- the orders that visit every subterm by themselves (`Order.full`: NOR, HNO, APP, HAP) are those
whose documented normal form is the β-normal form -/
theorem NF_of_full {o : Order} (ho : o.full = true) : NF o = isNormal := by
  cases o <;> first | rfl | cases ho

/-- the form in which the statements of `Props/C04Fuel.lean` say `Order.full` -/
theorem full_of_NF {o : Order} (ho : NF o = isNormal) : o.full = true := by
  -- `λ. 1 ((λ.1) 1)` is not β-normal, but normal for CBN, HSP and CBV
  have h := congrFun ho (abs (app (var 1) (app (abs (var 1)) (var 1))))
  cases o <;> first | rfl | exact absurd h (by decide)

theorem stepOrd_none_normal {o : Order} {t : Term} (ho : o.full = true)
    (h : stepOrd o t = none) : Normal t := by
  rw [stepOrd_none_iff, NF_of_full ho] at h
  exact (isNormal_iff_normal t).1 h

/-- the number of nodes: the bound on the fuel in the statements of `Props/C03.lean`; what a normal term needs is its
`height` (`betaOrd_nf`), which is smaller (`height_lt_size`) -/
def size : Term → Nat
  | var _ => 1
  | abs b => size b + 1
  | app l r => size l + size r + 1

theorem height_lt_size (t : Term) : height t < size t := by
  induction t with
  | var i => exact Nat.one_pos
  | abs b ih => simp only [height, size]; omega
  | app l r ihl ihr => simp only [height, size]; omega

theorem betaOrd_nf_fixed (o : Order) (L : Nat) (t : Term) (fuel c : Nat) (hf : size t ≤ fuel)
    (hn : NF o t = true) : betaOrd o L fuel t c = some (t, c) :=
  betaOrd_nf ((stepOrd_none_iff o t).2 hn) (Nat.lt_of_lt_of_le (height_lt_size t) hf) L c

/-- `u`, `c` is the result of running `f` from `t` for at most `L` steps (here `L = 0` means
"no step at all"): `c` steps were made, `c ≤ L`, and if `c < L` the run stopped because `f` is
undefined at `u`. -/
def BRun (f : Term → Option Term) (L : Nat) (t u : Term) (c : Nat) : Prop :=
  Iter f c t u ∧ c ≤ L ∧ (c < L → f u = none)

/-- the run of `f` from `t` to the end: `c` steps to `u`, where `f` is undefined (what `reduce` with limit 0 returns) -/
def URun (f : Term → Option Term) (t u : Term) (c : Nat) : Prop :=
  Iter f c t u ∧ f u = none

variable {f : Term → Option Term}

theorem iter_le_of_none {c c' : Nat} {t u u' : Term} (h : Iter f c t u) (hn : f u = none)
    (h' : Iter f c' t u') : c' ≤ c := by
  by_cases hle : c' ≤ c
  · exact hle
  · have := ((h.suffix h' (by omega)).of_none hn).1
    omega

theorem BRun.le_of_iter {L c c' : Nat} {t u u' : Term} (h : BRun f L t u c)
    (h' : Iter f c' t u') (hc' : c' ≤ L) : c' ≤ c := by
  obtain ⟨it, _, hn⟩ := h
  by_cases hlt : c < L
  · exact iter_le_of_none it (hn hlt) h'
  · omega

theorem BRun.unique {L c c' : Nat} {t u u' : Term} (h : BRun f L t u c) (h' : BRun f L t u' c') :
    u' = u ∧ c' = c := by
  have h1 := h.le_of_iter h'.1 h'.2.1
  have h2 := h'.le_of_iter h.1 h.2.1
  have hc : c' = c := by omega
  subst hc
  exact ⟨Iter.det h'.1 h.1, rfl⟩

theorem URun.brun {n c : Nat} {t u : Term} (h : URun f t u c) (hc : c ≤ n) : BRun f n t u c :=
  ⟨h.1, hc, fun _ => h.2⟩

theorem URun.unique {c c' : Nat} {t u u' : Term} (h : URun f t u c) (h' : URun f t u' c') :
    u' = u ∧ c' = c :=
  (h.brun (Nat.le_max_left c c')).unique (h'.brun (Nat.le_max_right c c'))

theorem BRun.zero (t : Term) : BRun f 0 t t 0 := ⟨Iter.zero t, Nat.le_refl 0, fun h => by omega⟩

theorem BRun.comp {n m c d : Nat} {t u v : Term} (h1 : BRun f n t u c) (h2 : BRun f m u v d) :
    BRun f (n + m) t v (c + d) := by
  obtain ⟨it1, le1, n1⟩ := h1
  obtain ⟨it2, le2, n2⟩ := h2
  refine ⟨Iter.trans it1 it2, by omega, fun hlt => ?_⟩
  by_cases hd : d < m
  · exact n2 hd
  · have hc : c < n := by omega
    obtain ⟨hd0, hv⟩ := Iter.of_none it2 (n1 hc)
    subst hv
    exact n1 hc

theorem BRun.comp_urun {n c d : Nat} {t u v : Term} (h1 : BRun f n t u c) (h2 : URun f u v d) :
    URun f t v (c + d) :=
  ⟨Iter.trans h1.1 h2.1, h2.2⟩

theorem BRun.urun {n c : Nat} {t u : Term} (h : BRun f n t u c) (hc : c < n) : URun f t u c :=
  ⟨h.1, h.2.2 hc⟩

theorem reduce_brun {o : Order} {L fuel : Nat} {t t' : Term} {c : Nat} (hL : L ≠ 0)
    (h : reduce o L fuel t = some (t', c)) : BRun (stepOrd o) L t t' c := by
  obtain ⟨it, hle, hn⟩ := reduce_sound o L fuel t t' c h
  exact ⟨it, hle hL, fun hlt => hn (Or.inr hlt)⟩

theorem reduce_urun {o : Order} {fuel : Nat} {t t' : Term} {c : Nat}
    (h : reduce o 0 fuel t = some (t', c)) : URun (stepOrd o) t t' c := by
  obtain ⟨it, _, hn⟩ := reduce_sound o 0 fuel t t' c h
  exact ⟨it, hn (Or.inl rfl)⟩

theorem reduce_of_brun {o : Order} {L : Nat} {t t' : Term} {c : Nat} (hL : L ≠ 0)
    (h : BRun (stepOrd o) L t t' c) : ∃ fuel, reduce o L fuel t = some (t', c) :=
  reduce_complete o L c t t' h.1 (fun h0 => absurd h0 hL) (fun _ => h.2)

theorem reduce_of_urun {o : Order} {t t' : Term} {c : Nat} (h : URun (stepOrd o) t t' c) :
    ∃ fuel, reduce o 0 fuel t = some (t', c) :=
  reduce_complete o 0 c t t' h.1 (fun _ => h.2) (fun h0 => absurd rfl h0)

theorem reduce_steps {o : Order} {L fuel : Nat} {t t' : Term} {c : Nat}
    (h : reduce o L fuel t = some (t', c)) : Steps c t t' :=
  Iter.steps o (reduce_sound o L fuel t t' c h).1

theorem reduce_star {o : Order} {L fuel : Nat} {t t' : Term} {c : Nat}
    (h : reduce o L fuel t = some (t', c)) : Star t t' :=
  (reduce_steps h).star

theorem reduce_normal {o : Order} {L fuel : Nat} {t t' : Term} {c : Nat} (ho : o.full = true)
    (h : reduce o L fuel t = some (t', c)) (hl : L = 0 ∨ c < L) : Normal t' :=
  stepOrd_none_normal ho ((reduce_sound o L fuel t t' c h).2.2 hl)

end RL
end LC
