/-
Parallel (simultaneous) substitution for the free variables of an open term.  `update_free_variables` and `_apply`
are parallel substitutions (`shiftFV_eq_psubstAux`, `applyAux_eq_psubstAux`), so the two commutation lemmas
`psubstAux_shiftFV`, `psubstAux_applyAux` carry the substitution calculus of `Proofs/Subst.lean`: the inductions on
terms that the calculus rests on are here (but for `closedAt_mono` of that file).  The reflection principle built on `psubst` is in `Proofs/Reflection.lean`.
-/
import LC.Model.Subst
import LC.Spec.Strategy

namespace LC
namespace Term

theorem shiftFV_shiftFV_within (a b o o' : Nat) (h1 : o ≤ o') (h2 : o' ≤ o + b) (t : Term) :
    shiftFV a o' (shiftFV b o t) = shiftFV (a+b) o t := by
  induction t generalizing o o' with
  | var i => grind [shiftFV]
  | abs b ih => simp only [shiftFV]; rw [ih (o+1) (o'+1) (by omega) (by omega)]
  | app l r ihl ihr => simp [shiftFV, ihl _ _ h1 h2, ihr _ _ h1 h2]

/-- generalized cancel: substituting at depth d into a term shifted by k ≥ 1 at cutoff o with o < d ≤ o + k -/
theorem applyAux_shiftFV_cancel' (r : Term) (d o k : Nat) (h1 : o < d) (h2 : d ≤ o + k + 1) (t : Term) :
    applyAux r d (shiftFV (k+1) o t) = shiftFV k o t := by
  induction t generalizing d o with
  | var i => grind [shiftFV, applyAux]
  | abs b ih => simp only [applyAux, shiftFV]; rw [ih (d+1) (o+1) (by omega) (by omega)]
  | app l r ihl ihr => simp [applyAux, shiftFV, ihl _ _ h1 h2, ihr _ _ h1 h2]

end Term

namespace Spec
open Term

/-- simultaneous substitution for the free variables: free variable number `j ≥ 1` (an occurrence `var (j + d)` under `d`
    binders) is replaced by `σ j` shifted by `d`; bound variables and `var 0` are untouched -/
def psubstAux (σ : Nat → Term) (d : Nat) : Term → Term
  | var i => if i > d then shiftFV d 0 (σ (i - d)) else var i
  | abs b => abs (psubstAux σ (d + 1) b)
  | app l r => app (psubstAux σ d l) (psubstAux σ d r)

def psubst (σ : Nat → Term) (t : Term) : Term := psubstAux σ 0 t

/-- no index exceeds the number of binders around it, `d` of them outside the term.  `var 0` (UD) passes: `closedAt 0`
is not "`has_free_variables` is false", which counts UD as free (`C12.hfv_of_closed_noUD` needs `hasUD t = false`). -/
def closedAt (d : Nat) : Term → Bool
  | var i => decide (i ≤ d)
  | abs b => closedAt (d + 1) b
  | app l r => closedAt d l && closedAt d r

theorem psubstAux_closedAt {t : Term} (σ : Nat → Term) (d : Nat) (h : closedAt d t = true) :
    psubstAux σ d t = t := by
  induction t generalizing d with
  | var i => simp [closedAt] at h; simp [psubstAux]; omega
  | abs b ih => simp only [closedAt] at h; simp [psubstAux, ih _ h]
  | app l r ihl ihr =>
    simp only [closedAt, Bool.and_eq_true] at h; simp [psubstAux, ihl _ h.1, ihr _ h.2]

theorem psubst_closed {t : Term} (σ : Nat → Term) (h : closedAt 0 t = true) : psubst σ t = t :=
  psubstAux_closedAt σ 0 h

theorem shiftFV_zero (o : Nat) (t : Term) : shiftFV 0 o t = t := by
  induction t generalizing o with
  | var i => simp [shiftFV]
  | abs b ih => simp [shiftFV, ih]
  | app l r ihl ihr => simp [shiftFV, ihl, ihr]

@[simp] theorem psubst_var (σ : Nat → Term) (j : Nat) (hj : 1 ≤ j) : psubst σ (var j) = σ j := by
  have : j > 0 := by omega
  simp [psubst, psubstAux, this, shiftFV_zero]

@[simp] theorem psubst_var_zero (σ : Nat → Term) : psubst σ (var 0) = var 0 := by
  simp [psubst, psubstAux]

@[simp] theorem psubst_app (σ : Nat → Term) (l r : Term) :
    psubst σ (app l r) = app (psubst σ l) (psubst σ r) := rfl

theorem psubst_abs (σ : Nat → Term) (b : Term) : psubst σ (abs b) = abs (psubstAux σ 1 b) := rfl

theorem psubstAux_var_le (σ : Nat → Term) (d i : Nat) (h : i ≤ d) : psubstAux σ d (var i) = var i := by
  have : ¬ i > d := by omega
  simp [psubstAux, this]

theorem psubstAux_var_gt (σ : Nat → Term) (d j : Nat) (hj : 1 ≤ j) :
    psubstAux σ d (var (d + j)) = shiftFV d 0 (σ j) := by
  have : d + j > d := by omega
  simp [psubstAux, this]

/-- the shift inserts `a` binders below the `o ≤ d` innermost ones, so the substitution acts `a` binders deeper -/
theorem psubstAux_shiftFV (σ : Nat → Term) (a o d : Nat) (h : o ≤ d) (t : Term) :
    psubstAux σ (d + a) (shiftFV a o t) = shiftFV a o (psubstAux σ d t) := by
  induction t generalizing o d with
  | var i =>
    -- a free variable: both sides are `σ (i - d)` shifted by `d + a` in all; a bound one or `var 0`: untouched
    by_cases h1 : i > d
    · have hx1 : i > o := by omega
      have hx2 : i + a > d + a := by omega
      simp only [shiftFV, psubstAux, hx1, hx2, h1, if_true]
      rw [shiftFV_shiftFV_within a d 0 o (by omega) (by omega)]
      have e1 : i + a - (d + a) = i - d := by omega
      rw [e1, Nat.add_comm d a]
    · grind [shiftFV, psubstAux]
  | abs b ih =>
    simp only [shiftFV, psubstAux]
    rw [← ih (o + 1) (d + 1) (by omega)]; congr 2; omega
  | app l r ihl ihr => simp [shiftFV, psubstAux, ihl _ _ h, ihr _ _ h]

/-- `_apply` removes the `e`-th of the `d + 1` binders around `b` (`1 ≤ e ≤ d + 1`); the argument stood under the
`d + 1 - e` outer ones -/
theorem psubstAux_applyAux (σ : Nat → Term) (a : Term) (e d : Nat) (he : 1 ≤ e) (hed : e ≤ d + 1) (b : Term) :
    psubstAux σ d (applyAux a e b)
      = applyAux (psubstAux σ (d + 1 - e) a) e (psubstAux σ (d + 1) b) := by
  induction b generalizing e d with
  | var i =>
    -- the replaced variable (`psubstAux_shiftFV`); a free variable above it: `σ` of it, shifted, loses one binder
    -- again (`applyAux_shiftFV_cancel'`); a bound variable or `var 0`: untouched
    by_cases h1 : i = e
    · subst h1
      have hx : ¬ i > d + 1 := by omega
      simp only [applyAux, psubstAux, hx, if_false, if_true]
      have := psubstAux_shiftFV σ (i - 1) 0 (d + 1 - i) (by omega) a
      rw [← this]; congr 1; omega
    · by_cases h2 : i > d + 1
      · have hx1 : i > e := by omega
        have hx2 : i - 1 > d := by omega
        simp only [applyAux, psubstAux, h1, h2, hx1, hx2, if_false, if_true]
        rw [applyAux_shiftFV_cancel' _ e 0 d (by omega) (by omega)]
        congr 2; omega
      · grind [applyAux, psubstAux]
  | abs b ih =>
    simp only [applyAux, psubstAux]
    rw [ih (e + 1) (d + 1) (by omega) (by omega)]; congr 3; omega
  | app l r ihl ihr => simp [applyAux, psubstAux, ihl _ _ he hed, ihr _ _ he hed]

theorem psubstAux_contract (σ : Nat → Term) (d : Nat) (b a : Term) :
    psubstAux σ d (contract b a) = contract (psubstAux σ (d + 1) b) (psubstAux σ d a) := by
  have := psubstAux_applyAux σ a 1 d (by omega) (by omega) b
  simpa [contract] using this

/-- `update_free_variables` is the parallel substitution `j ↦ var (j + a)` -/
theorem shiftFV_eq_psubstAux (a m : Nat) (t : Term) :
    shiftFV a m t = psubstAux (fun j => var (j + a)) m t := by
  induction t generalizing m with
  | var i => grind [shiftFV, psubstAux]
  | abs b ih => simp only [shiftFV, psubstAux, ih]
  | app l r ihl ihr => simp only [shiftFV, psubstAux, ihl, ihr]

/-- `_apply` at depth `m + 1` is the parallel substitution `1 ↦ s`, `j + 1 ↦ var j`, under `m` binders -/
theorem applyAux_eq_psubstAux (s : Term) (m : Nat) (t : Term) :
    applyAux s (m + 1) t = psubstAux (fun j => if j = 1 then s else var (j - 1)) m t := by
  induction t generalizing m with
  | var i => grind [applyAux, psubstAux, shiftFV]
  | abs b ih => simp only [applyAux, psubstAux, ih]
  | app l r ihl ihr => simp only [applyAux, psubstAux, ihl, ihr]

/-- the environment that maps free variable `j` (`1 ≤ j ≤ xs.length`) to the `j`-th element of `xs` and every other
free variable to the inert constant `var 0` -/
def env (xs : List Term) (j : Nat) : Term := xs.getD (j - 1) (var 0)

theorem env_succ (xs : List Term) (k : Nat) : env xs (k + 1) = xs.getD k (var 0) := by simp [env]

@[simp] theorem env_nil (j : Nat) : env [] j = var 0 := by simp [env]

@[simp] theorem env_cons_one (x : Term) (xs : List Term) : env (x :: xs) 1 = x := by simp [env]

@[simp] theorem env_cons_succ_succ (x : Term) (xs : List Term) (k : Nat) :
    env (x :: xs) (k + 2) = env xs (k + 1) := by simp [env]

@[simp] theorem psubst_env_var (xs : List Term) (k : Nat) :
    psubst (env xs) (var (k + 1)) = xs.getD k (var 0) := by
  rw [psubst_var _ _ (by omega), env_succ]

-- the first four by name: with a literal index and a list written out, `simp` lands on the element at once
@[simp] theorem psubst_env_var1 (x₁ : Term) (xs : List Term) :
    psubst (env (x₁ :: xs)) (var 1) = x₁ := by simp [psubst_var, env]

@[simp] theorem psubst_env_var2 (x₁ x₂ : Term) (xs : List Term) :
    psubst (env (x₁ :: x₂ :: xs)) (var 2) = x₂ := by simp [psubst_var, env]

@[simp] theorem psubst_env_var3 (x₁ x₂ x₃ : Term) (xs : List Term) :
    psubst (env (x₁ :: x₂ :: x₃ :: xs)) (var 3) = x₃ := by simp [psubst_var, env]

@[simp] theorem psubst_env_var4 (x₁ x₂ x₃ x₄ : Term) (xs : List Term) :
    psubst (env (x₁ :: x₂ :: x₃ :: x₄ :: xs)) (var 4) = x₄ := by simp [psubst_var, env]

def norSteps : Nat → Term → Term
  | 0, t => t
  | k + 1, t =>
    match stepNor t with
    | some t' => norSteps k t'
    | none => t

namespace Example

def K : Term := abs (abs (var 2))
def S : Term := abs (abs (abs (app (app (var 3) (var 1)) (app (var 2) (var 1)))))

theorem K_closed : closedAt 0 K = true := by decide
theorem S_closed : closedAt 0 S = true := by decide

end Example

end Spec
end LC
