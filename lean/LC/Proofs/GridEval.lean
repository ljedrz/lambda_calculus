/-
The grids `Cxx_grid_*` evaluate the model reducer on test vectors inside the kernel.  `Grid.runsTo` is stated with
`reduce` itself; what the kernel runs is `Grid.runsToB`, an evaluator on terms with BOXES.

The traversals of `Model/Reduce.lean` contract by substitution and then visit the contractum from its root.  Under the
eager orders the operand of a contraction is a value: the traversal of the model walks through it once for every
occurrence it is substituted at (to shift it), again whenever something is substituted into a term that contains it,
and again to find that there is nothing to reduce in it; on a closed normal term all three are the identity.  A box
`box v nf h` stands for a closed term `v`: shifting it and substituting into it return it, and if `nf` is set it is
β-normal and a visit returns it.  `boxify` boxes the closed subterms of the input, an operand that comes back closed is
boxed before it is substituted (`asBox`), and a boxed abstraction in operator position is opened by the one
substitution into its body.

The evaluator follows the scheme `visit`/`finish` of `Proofs/Scheme.lean` at limit 0 level by level: what it returns at
level `n` the model returns with fuel `n + 1` (`evalB_sound`, stated with `Ret` of `Eager/BigStep.lean` §2, whose rules are
the levels of the model), so the run with the fuel of the statement proves the
statement.  A normal box is returned where the model would traverse it, which takes fuel above its height: `h` is a
bound on the height and is compared with the level.  `WF`: what a box holds is closed, is no box, has height below `h`,
and is β-normal if `nf` is set.
-/
import LC.Proofs.Grid
import LC.Proofs.ReduceLemmas
import LC.Proofs.Eager.BigStep
import LC.Proofs.Eager.KernelTerm

namespace LC
namespace Grid
open Term Spec Eager

inductive KTerm where
  | var (i : Nat)
  | abs (b : KTerm)
  | app (l r : KTerm)
  | box (v : KTerm) (nf : Bool) (h : Nat)

namespace KTerm

/-- the term a term with boxes stands for -/
def erase : KTerm → Term
  | var i => .var i
  | abs b => .abs (erase b)
  | app l r => .app (erase l) (erase r)
  | box v _ _ => erase v

def isBox : KTerm → Bool
  | box _ _ _ => true
  | _ => false

def WF : KTerm → Prop
  | var _ => True
  | abs b => WF b
  | app l r => WF l ∧ WF r
  | box v nf h =>
    WF v ∧ isBox v = false ∧ closedAt 0 (erase v) = true ∧ height (erase v) < h ∧
      (nf = true → isNormal (erase v) = true)

end KTerm

open KTerm (erase WF isBox)

/-! ### the evaluator

Everything the kernel runs is written with recursors and the kernel's own arithmetic, since the kernel pays for every
unfolding: `Bool.rec e t c` where one would write `if c then t else e` (`cond` unfolds four times before it chooses,
`ite` goes through a `Decidable` instance), `Option.rec` where one would match on an `Option`, `max a b` as
`(a - b) + b`.  A choice between two numbers must not return one of them as it stands (`bif a ≤ b then b else a`): the
kernel remembers the value of an expression it was asked for, not of the expression a choice hands back, and evaluates
that one again at every level of a recursion.  For the same reason what `Option.rec` is given for the case `some` is a
definition of its own applied to its parameters (`neuDeep`, `mkAbs`, `mkBox`, `visApp2`, `visApp3`), not a `fun` written in
place. -/

noncomputable section

def maxK (a b : Nat) : Nat := Nat.add (Nat.sub a b) b

/-- `shiftFV a o t`; the identity on a box -/
def shiftB (a : Nat) (t : KTerm) : Nat → KTerm :=
  KTerm.rec (fun i o => Bool.rec (.var i) (.var (i + a)) (Nat.blt o i)) (fun _ ih o => .abs (ih (o + 1)))
    (fun _ _ ihl ihr o => .app (ihl o) (ihr o)) (fun v nf h _ _ => .box v nf h) t

/-- `applyAux rhs d t`; the identity on a box -/
def substB (rhs : KTerm) (t : KTerm) : Nat → KTerm :=
  KTerm.rec
    (fun i d => Bool.rec (Bool.rec (.var i) (.var (i - 1)) (Nat.blt d i)) (shiftB (d - 1) rhs 0) (Nat.beq i d))
    (fun _ ih d => .abs (ih (d + 1))) (fun _ _ ihl ihr d => .app (ihl d) (ihr d)) (fun v nf h _ _ => .box v nf h) t

/-- `erase a = t`, decided -/
def eqbK (a : KTerm) : Term → Bool :=
  KTerm.rec (fun i t => Term.rec (fun j => Nat.beq i j) (fun _ _ => false) (fun _ _ _ _ => false) t)
    (fun _ ih t => Term.rec (fun _ => false) (fun b _ => ih b) (fun _ _ _ _ => false) t)
    (fun _ _ ihl ihr t => Term.rec (fun _ => false) (fun _ _ => false) (fun c d _ _ => Bool.rec false (ihr d) (ihl c)) t)
    (fun _ _ _ ih t => ih t) a

/-- a bound above the height of `erase t`: a box answers with what it has recorded -/
def heightB (t : KTerm) : Nat :=
  KTerm.rec (fun _ => 1) (fun _ ih => Nat.add ih 1) (fun _ _ ihl ihr => Nat.add (maxK ihl ihr) 1) (fun _ _ h _ => h) t

/-- `closedAt d (erase t)`, found without looking into the boxes -/
def closedB (t : KTerm) : Nat → Bool :=
  KTerm.rec (fun i d => Nat.ble i d) (fun _ ih d => ih (d + 1)) (fun _ _ ihl ihr d => Bool.rec false (ihr d) (ihl d))
    (fun _ _ _ _ _ => true) t

/-- a value that is about to be substituted: boxed if it is closed; `nf`: it is known to be β-normal -/
def asBox (nf : Bool) (r : KTerm) : KTerm :=
  KTerm.rec (fun _ => r) (fun _ _ => Bool.rec r (.box r nf (heightB r)) (closedB r 0))
    (fun _ _ _ _ => Bool.rec r (.box r nf (heightB r)) (closedB r 0)) (fun _ _ _ _ => r) r

/-- what `boxify` finds out about a subterm: `k` the term with boxes, `fv` the number of binders its free variables need,
`nn` the number of its redexes (0: it is β-normal), `h` its height + 1 -/
structure Info where
  k : KTerm
  fv : Nat
  nn : Nat
  h : Nat

def Info.close (x : Info) : Info :=
  Bool.rec x ⟨.box x.k (Nat.beq x.nn 0) x.h, 0, x.nn, x.h⟩ (Nat.beq x.fv 0)

def absT (t : Term) : Nat := Term.rec (fun _ => 0) (fun _ _ => 1) (fun _ _ _ _ => 0) t

/-- every closed subterm that is not a variable becomes a box -/
def boxify (t : Term) : Info :=
  Term.rec (fun i => ⟨.var i, i, 0, 1⟩)
    (fun _ ih => Info.close ⟨.abs ih.k, Nat.sub ih.fv 1, ih.nn, Nat.add ih.h 1⟩)
    (fun l _ ihl ihr => Info.close ⟨.app ihl.k ihr.k, maxK ihl.fv ihr.fv, Nat.add (Nat.add ihl.nn ihr.nn) (absT l),
      Nat.add (maxK ihl.h ihr.h) 1⟩) t

/-- the recursive calls of one level -/
abbrev Self := Order → KTerm → Option KTerm

/-- a recursive call on `t`, or `t` itself where the call would return it: a variable, a normal box (the model
traverses it, with the fuel `n + 1` of that call: `h ≤ n`) -/
def call (n : Nat) (self : Self) (o : Order) (t : KTerm) : Option KTerm :=
  KTerm.rec (fun _ => some t) (fun _ _ => self o t) (fun _ _ _ _ => self o t)
    (fun _ nf h _ => Bool.rec (self o t) (Bool.rec none (some t) (Nat.ble h n)) nf) t

/-- the contraction of `(λb) r` -/
def red (self : Self) (o : Order) (r b : KTerm) : Option KTerm := self o (substB r b 1)

def neuDeep (r l' : KTerm) : Option KTerm := some (.app l' r)

/-- an application that is not contracted -/
def neu (self : Self) (o : Order) (l r : KTerm) : Option KTerm :=
  Bool.rec (some (.app l r)) (Option.rec none (neuDeep r) (self o l)) o.deep

/-- `finish`: operator and operand are done -/
def finishB (self : Self) (o : Order) (l r : KTerm) : Option KTerm :=
  KTerm.rec (fun _ => neu self o l r) (fun b _ => red self o r b) (fun _ _ _ _ => neu self o l r)
    (fun v _ _ _ => KTerm.rec (fun _ => neu self o l r) (fun b _ => red self o r b)
      (fun _ _ _ _ => neu self o l r) (fun _ _ _ _ => neu self o l r) v) l

def visApp3 (self : Self) (o : Order) (l' r' : KTerm) : Option KTerm := finishB self o l' (asBox o.under r')

def visApp2 (n : Nat) (self : Self) (o : Order) (r l' : KTerm) : Option KTerm :=
  Option.rec none (visApp3 self o l') (call n self o r)

def visApp (n : Nat) (self : Self) (o : Order) (l r : KTerm) : Option KTerm :=
  Option.rec none (visApp2 n self o r) (call n self o.head l)

def mkAbs (b : KTerm) : Option KTerm := some (.abs b)

def visAbs (self : Self) (o : Order) (t b : KTerm) : Option KTerm :=
  Bool.rec (some t) (Option.rec none mkAbs (self o b)) o.under

def mkBox (nf : Bool) (v : KTerm) : Option KTerm := some (asBox nf v)

/-- a box that is not known to be normal: what it holds is evaluated and boxed again -/
def evalBox (self : Self) (o : Order) (v : KTerm) : Option KTerm := Option.rec none (mkBox o.under) (self o v)

/-- a box `t = box v nf h`: a normal one is returned as it is if the level reaches its height bound (`h ≤ n`; otherwise the
run is out of fuel); one not known to be normal is evaluated (`evalBox`), except that under an order that does not enter
abstractions (CBV) a boxed abstraction is a value and is returned -/
def visBox (n : Nat) (self : Self) (o : Order) (t v : KTerm) (nf : Bool) (h : Nat) : Option KTerm :=
  Bool.rec
    (Bool.rec
      (KTerm.rec (fun _ => evalBox self o v) (fun _ _ => some t) (fun _ _ _ _ => evalBox self o v)
        (fun _ _ _ _ => evalBox self o v) v)
      (evalBox self o v) o.under)
    (Bool.rec none (some t) (Nat.ble h n)) nf

/-- `visit 0` for an eager order, on terms with boxes; `n` is the level of the recursive calls -/
def visitB (n : Nat) (self : Self) (o : Order) (t : KTerm) : Option KTerm :=
  KTerm.rec (fun _ => some t) (fun b _ => visAbs self o t b) (fun l r _ _ => visApp n self o l r)
    (fun v nf h _ => visBox n self o t v nf h) t

def evalB (level : Nat) : Self :=
  Nat.rec (fun _ _ => none) (fun n ih o t => visitB n ih o t) level

/-- the evaluator, run for an eager order at the level below `fuel`, returns `n` -/
def runsToB (o : Order) (fuel : Nat) (t n : Term) : Bool :=
  Bool.rec false
    (Nat.rec false (fun level _ => Option.rec false (fun r => eqbK r n) (evalB level o (boxify t).k)) fuel) o.eager

end

/-! ### shifting, substitution, comparison, height and closedness through the boxes -/

theorem maxK_eq (a b : Nat) : maxK a b = max a b := by
  show a - b + b = max a b
  omega

section
variable {t : KTerm}

theorem erase_shiftB (a : Nat) (ht : WF t) (o : Nat) : erase (shiftB a t o) = shiftFV a o (erase t) ∧ WF (shiftB a t o) := by
  induction t generalizing o with
  | var i =>
    show erase (Bool.rec _ _ (Nat.blt o i)) = _ ∧ WF (Bool.rec _ _ (Nat.blt o i))
    rw [blt_eq_decide]
    by_cases h : o < i <;> simp [shiftFV, h, erase, WF]
  | abs b ih => exact ⟨congrArg Term.abs (ih ht (o + 1)).1, (ih ht (o + 1)).2⟩
  | app l r ihl ihr => exact ⟨congr (congrArg Term.app (ihl ht.1 o).1) (ihr ht.2 o).1, (ihl ht.1 o).2, (ihr ht.2 o).2⟩
  | box v nf h _ => exact ⟨(shiftFV_closed a o ht.2.2.1).symm, ht⟩

theorem erase_substB {r : KTerm} (hr : WF r) (ht : WF t) (d : Nat) (hd : 1 ≤ d) :
    erase (substB r t d) = applyAux (erase r) d (erase t) ∧ WF (substB r t d) := by
  induction t generalizing d with
  | var i =>
    show erase (Bool.rec (Bool.rec _ _ (Nat.blt d i)) _ (Nat.beq i d)) = _ ∧ WF (Bool.rec (Bool.rec _ _ (Nat.blt d i)) _ (Nat.beq i d))
    rw [blt_eq_decide, beq_eq_decide]
    by_cases h1 : i = d
    · simpa [applyAux, h1, erase] using erase_shiftB (d - 1) hr 0
    · by_cases h2 : d < i <;> simp [applyAux, h1, h2, erase, WF]
  | abs b ih => exact ⟨congrArg Term.abs (ih ht (d + 1) (by omega)).1, (ih ht (d + 1) (by omega)).2⟩
  | app l r' ihl ihr =>
    exact ⟨congr (congrArg Term.app (ihl ht.1 d hd).1) (ihr ht.2 d hd).1, (ihl ht.1 d hd).2, (ihr ht.2 d hd).2⟩
  | box v nf h _ => exact ⟨(applyAux_closed _ d hd ht.2.2.1).symm, ht⟩

theorem eqbK_sound {n : Term} (h : eqbK t n = true) : erase t = n := by
  induction t generalizing n with
  | var i =>
    cases n with
    | var j => exact congrArg Term.var (Nat.eq_of_beq_eq_true h)
    | abs _ => cases h
    | app _ _ => cases h
  | abs b ih =>
    cases n with
    | abs c => exact congrArg Term.abs (ih h)
    | var _ => cases h
    | app _ _ => cases h
  | app l r ihl ihr =>
    cases n with
    | app c d =>
      have h' : Bool.rec false (eqbK r d) (eqbK l c) = true := h
      cases hl : eqbK l c with
      | false => rw [hl] at h'; cases h'
      | true => rw [hl] at h'; exact congr (congrArg Term.app (ihl hl)) (ihr h')
    | var _ => cases h
    | abs _ => cases h
  | box v nf h' ih => exact ih h

theorem heightB_bound (ht : WF t) : height (erase t) < heightB t := by
  induction t with
  | var i => exact Nat.one_pos
  | abs b ih => exact Nat.succ_lt_succ (ih ht)
  | app l r ihl ihr =>
    have hl := ihl ht.1
    have hr := ihr ht.2
    show max (height (erase l)) (height (erase r)) + 1 < maxK (heightB l) (heightB r) + 1
    rw [maxK_eq]
    omega
  | box v nf h _ => exact ht.2.2.2.1

theorem closedB_sound (ht : WF t) {d : Nat} (h : closedB t d = true) : closedAt d (erase t) = true := by
  induction t generalizing d with
  | var i => exact (decide_eq_true_iff).2 (Nat.le_of_ble_eq_true h)
  | abs b ih => exact ih ht h
  | app l r ihl ihr =>
    have h' : Bool.rec false (closedB r d) (closedB l d) = true := h
    cases hl : closedB l d with
    | false => rw [hl] at h'; cases h'
    | true =>
      rw [hl] at h'
      show (closedAt d (erase l) && closedAt d (erase r)) = true
      rw [ihl ht.1 hl, ihr ht.2 h']
      rfl
  | box v nf h' _ => exact closedAt_mono ht.2.2.1 (Nat.zero_le d)

theorem erase_asBox (nf : Bool) (r : KTerm) : erase (asBox nf r) = erase r := by
  cases r with
  | var i => rfl
  | box v nf' h => rfl
  | abs b => show erase (Bool.rec _ _ (closedB (.abs b) 0)) = _; cases closedB (.abs b) 0 <;> rfl
  | app l r => show erase (Bool.rec _ _ (closedB (.app l r) 0)) = _; cases closedB (.app l r) 0 <;> rfl

theorem WF_asBox {nf : Bool} {r : KTerm} (hr : WF r) (hn : nf = true → isNormal (erase r) = true) : WF (asBox nf r) := by
  have key : ∀ s : KTerm, isBox s = false → WF s → (nf = true → isNormal (erase s) = true) →
      WF (Bool.rec s (.box s nf (heightB s)) (closedB s 0)) := fun s hs hw hn => by
    cases hc : closedB s 0 with
    | false => exact hw
    | true => exact ⟨hw, hs, closedB_sound hw hc, heightB_bound hw, hn⟩
  cases r with
  | var i => exact hr
  | box v nf' h => exact hr
  | abs b => exact key _ rfl hr hn
  | app l r => exact key _ rfl hr hn

end

/-! ### `boxify` -/

theorem isNormal_of_absT {l r : Term} (hl : isNormal l = true) (hr : isNormal r = true) (ha : absT l = 0) :
    isNormal (Term.app l r) = true := by
  cases l with
  | abs b => cases ha
  | var i => simpa [isNormal, isAbs] using hr
  | app a b => simpa [isNormal, isAbs, hr] using hl

theorem boxify_spec (t : Term) :
    erase (boxify t).k = t ∧ WF (boxify t).k ∧ closedAt (boxify t).fv t = true ∧
      ((boxify t).nn = 0 → isNormal t = true) ∧ (boxify t).h = height t + 1 := by
  -- closing a node keeps what is known of it
  have close : ∀ (x : Info) (u : Term), isBox x.k = false → erase x.k = u → WF x.k → closedAt x.fv u = true →
      (x.nn = 0 → isNormal u = true) → x.h = height u + 1 →
      erase x.close.k = u ∧ WF x.close.k ∧ closedAt x.close.fv u = true ∧
        (x.close.nn = 0 → isNormal u = true) ∧ x.close.h = height u + 1 := by
    intro x u hb he hw hc hn hh
    have hcl : x.close = Bool.rec x ⟨.box x.k (Nat.beq x.nn 0) x.h, 0, x.nn, x.h⟩ (Nat.beq x.fv 0) := rfl
    cases h0 : Nat.beq x.fv 0 with
    | false => rw [hcl, h0]; exact ⟨he, hw, hc, hn, hh⟩
    | true =>
      rw [hcl, h0]
      rw [Nat.eq_of_beq_eq_true h0] at hc
      exact ⟨he, ⟨hw, hb, he ▸ hc, by rw [he, hh]; exact Nat.lt_succ_self _,
        fun h => by rw [he]; exact hn (Nat.eq_of_beq_eq_true h)⟩, hc, hn, hh⟩
  induction t with
  | var i => exact ⟨rfl, trivial, by simp [closedAt, boxify], fun _ => rfl, rfl⟩
  | abs b ih =>
    obtain ⟨he, hw, hc, hn, hh⟩ := ih
    refine close ⟨.abs (boxify b).k, (boxify b).fv - 1, (boxify b).nn, (boxify b).h + 1⟩ (.abs b) rfl
      (congrArg Term.abs he) hw ?_ hn ?_
    · show closedAt ((boxify b).fv - 1 + 1) b = true
      exact closedAt_mono hc (by omega)
    · show (boxify b).h + 1 = height b + 1 + 1
      rw [hh]
  | app l r ihl ihr =>
    obtain ⟨hel, hwl, hcl, hnl, hhl⟩ := ihl
    obtain ⟨her, hwr, hcr, hnr, hhr⟩ := ihr
    refine close ⟨.app (boxify l).k (boxify r).k, maxK (boxify l).fv (boxify r).fv,
      (boxify l).nn + (boxify r).nn + absT l, maxK (boxify l).h (boxify r).h + 1⟩ (.app l r) rfl
      (congr (congrArg Term.app hel) her) ⟨hwl, hwr⟩ ?_ (fun h => ?_) ?_
    · show (closedAt _ l && closedAt _ r) = true
      rw [maxK_eq, closedAt_mono hcl (Nat.le_max_left _ _), closedAt_mono hcr (Nat.le_max_right _ _)]
      rfl
    · have h' : (boxify l).nn + (boxify r).nn + absT l = 0 := h
      exact isNormal_of_absT (hnl (by omega)) (hnr (by omega)) (by omega)
    · show maxK (boxify l).h (boxify r).h + 1 = max (height l) (height r) + 1 + 1
      rw [maxK_eq, hhl, hhr]
      omega

/-! ### the evaluator against the model -/

/-- what the calls of level `n` return, the model returns with fuel `n + 1` -/
def Sound (n : Nat) (self : Self) : Prop :=
  ∀ o t v, o.eager = true → self o t = some v → WF t → WF v ∧ Ret o (n + 1) (erase t) (erase v)

theorem rec_eq_some {α β : Type} {k : α → Option β} {x : Option α} {v : β}
    (h : Option.rec none k x = some v) : ∃ y, x = some y ∧ k y = some v := by
  cases x with
  | none => cases h
  | some y => exact ⟨y, rfl, h⟩

/-- a normal box is returned where the model traverses what it holds -/
theorem hit_sound {o : Order} {w v : KTerm} {h' n g : Nat} (ht : WF (.box w true h')) (hg : n ≤ g)
    (h : Bool.rec none (some (KTerm.box w true h')) (Nat.ble h' n) = some v) :
    WF v ∧ Ret o (g + 1) (erase (.box w true h')) (erase v) := by
  cases hb : Nat.ble h' n with
  | false => rw [hb] at h; cases h
  | true =>
    rw [hb] at h; cases h
    have := Nat.le_of_ble_eq_true hb
    exact ⟨ht, Ret.nf (stepOrd_none_of_normal o ((isNormal_iff_normal _).1 (ht.2.2.2.2 rfl)))
      (show height (erase w) < _ by have := ht.2.2.2.1; omega)⟩

/-- the evaluated operand, boxed if it is closed -/
theorem asBox_sound {n : Nat} {o : Order} {r v : KTerm} (he : o.eager = true) (hv : WF v)
    (h : Ret o (n + 1) (erase r) (erase v)) :
    WF (asBox o.under v) ∧ Ret o (n + 1) (erase r) (erase (asBox o.under v)) :=
  ⟨WF_asBox hv fun hu => (h.normal (Order.full_of_eager he hu)), by rw [erase_asBox]; exact h⟩

section
variable {n : Nat} {self : Self} (hs : Sound n self)
include hs

theorem call_sound {o : Order} {t v : KTerm} (he : o.eager = true) (h : call n self o t = some v) (ht : WF t) :
    WF v ∧ Ret o (n + 1) (erase t) (erase v) := by
  cases t with
  | var i => cases h; exact ⟨ht, Ret.var i⟩
  | abs b => exact hs o _ v he h ht
  | app l r => exact hs o _ v he h ht
  | box w nf h' =>
    cases nf with
    | false => exact hs o _ v he h ht
    | true => exact hit_sound ht (Nat.le_refl n) h

theorem finishB_sound {o : Order} {l r l' r' v : KTerm} (he : o.eager = true) (hl : WF l') (hr : WF r')
    (h1 : Ret o.head (n + 1) (erase l) (erase l')) (h2 : Ret o (n + 1) (erase r) (erase r'))
    (h : finishB self o l' r' = some v) : WF v ∧ Ret o (n + 2) (.app (erase l) (erase r)) (erase v) := by
  have hred : ∀ b, WF b → erase l' = .abs (erase b) → red self o r' b = some v →
      WF v ∧ Ret o (n + 2) (.app (erase l) (erase r)) (erase v) := fun b hb e h => by
    obtain ⟨es, ws⟩ := erase_substB hr hb 1 (Nat.le_refl 1)
    obtain ⟨hv, h3⟩ := hs o _ v he h ws
    rw [es] at h3
    exact ⟨hv, Ret.app_red he (e ▸ h1) h2 h3⟩
  have hneu : isAbs (erase l') = false → neu self o l' r' = some v →
      WF v ∧ Ret o (n + 2) (.app (erase l) (erase r)) (erase v) := fun hna h => by
    have h' : Bool.rec (some (KTerm.app l' r')) (Option.rec none (neuDeep r') (self o l')) o.deep = some v := h
    cases hd : o.deep with
    | false => rw [hd] at h'; cases h'; exact ⟨⟨hl, hr⟩, Ret.app_neu he hd h1 hna h2⟩
    | true =>
      rw [hd] at h'
      obtain ⟨l'', hl2, e⟩ := rec_eq_some h'
      cases e
      obtain ⟨hw, h3⟩ := hs o _ l'' he hl2 hl
      exact ⟨⟨hw, hr⟩, Ret.app_neu_deep he hd h1 hna h2 h3⟩
  cases l' with
  | var i => exact hneu rfl h
  | abs b => exact hred b hl rfl h
  | app a b => exact hneu rfl h
  | box w nf h' =>
    cases w with
    | abs b => exact hred b hl.1 rfl h
    | var i => exact hneu rfl h
    | app a b => exact hneu rfl h
    | box _ _ _ => exact absurd hl.2.1 (by simp [isBox])

theorem visitB_sound : Sound (n + 1) (visitB n self) := by
  intro o t v he h ht
  cases t with
  | var i => cases h; exact ⟨ht, Ret.var i⟩
  | abs b =>
    have h' : Bool.rec (some (KTerm.abs b)) (Option.rec none mkAbs (self o b)) o.under = some v := h
    cases hu : o.under with
    | false => rw [hu] at h'; cases h'; exact ⟨ht, Ret.abs_stop hu _⟩
    | true =>
      rw [hu] at h'
      obtain ⟨b', hb, e⟩ := rec_eq_some h'
      cases e
      obtain ⟨hw, hr⟩ := hs o b b' he hb ht
      exact ⟨hw, Ret.abs hu hr⟩
  | app l r =>
    obtain ⟨l', hl, h'⟩ := rec_eq_some (show Option.rec none (visApp2 n self o r) (call n self o.head l) = some v from h)
    obtain ⟨r', hr, h''⟩ := rec_eq_some (show Option.rec none (visApp3 self o l') (call n self o r) = some v from h')
    obtain ⟨hwl, h1⟩ := call_sound hs (Ev.head_eager he) hl ht.1
    obtain ⟨hwr, h2⟩ := call_sound hs he hr ht.2
    obtain ⟨hwb, h2'⟩ := asBox_sound he hwr h2
    exact finishB_sound hs he hwl hwb h1 h2' h''
  | box w nf h' =>
    -- what the box holds is evaluated with fuel `n + 1`
    have hev : evalBox self o w = some v → WF v ∧ Ret o (n + 2) (erase w) (erase v) := fun h => by
      obtain ⟨w', hw, e⟩ := rec_eq_some (show Option.rec none (mkBox o.under) (self o w) = some v from h)
      cases e
      obtain ⟨hv, hr⟩ := hs o w w' he hw ht.1
      obtain ⟨hv', hr'⟩ := asBox_sound he hv hr
      exact ⟨hv', hr'.mono (Nat.le_succ _)⟩
    cases nf with
    | true => exact hit_sound ht (Nat.le_succ n) h
    | false =>
      have h1 : Bool.rec (KTerm.rec (fun _ => evalBox self o w) (fun _ _ => some (KTerm.box w false h'))
          (fun _ _ _ _ => evalBox self o w) (fun _ _ _ _ => evalBox self o w) w) (evalBox self o w) o.under = some v := h
      cases hu : o.under with
      | true => rw [hu] at h1; exact hev h1
      | false =>
        rw [hu] at h1
        cases w with
        | abs b => cases h1; exact ⟨ht, Ret.abs_stop hu _⟩
        | var i => exact hev h1
        | app a b => exact hev h1
        | box _ _ _ => exact hev h1

end

theorem evalB_sound (n : Nat) : Sound n (evalB n) := by
  induction n with
  | zero => intro o t v _ h; cases h
  | succ n ih => exact visitB_sound ih

theorem runsTo_of_runsToB {o : Order} {fuel : Nat} {t n : Term}
    (h : runsToB o fuel t n = true) : runsTo o fuel t n = true := by
  have h0 : Bool.rec false (Nat.rec false (fun level _ => Option.rec false (fun r => eqbK r n)
      (evalB level o (boxify t).k)) fuel) o.eager = true := h
  cases he : o.eager with
  | false => rw [he] at h0; cases h0
  | true =>
  rw [he] at h0
  cases fuel with
  | zero => cases h0
  | succ level =>
    have h' : Option.rec false (fun r => eqbK r n) (evalB level o (boxify t).k) = true := h0
    cases hr : evalB level o (boxify t).k with
    | none => rw [hr] at h'; cases h'
    | some r =>
      rw [hr] at h'
      obtain ⟨he', hw, _⟩ := boxify_spec t
      obtain ⟨c, e⟩ := (evalB_sound level o _ r he hr hw).2.reduce
      rw [he', eqbK_sound h'] at e
      simp only [runsTo, e, decide_true]

/-- The grids state `runsTo` under `List.all`s of several shapes; an equation between FUNCTIONS rewrites all of them
alike.  `runsToB` implies `runsTo`, so adding it as an alternative changes nothing; but the kernel decides an `||` from
the left and never looks at `runsTo`, the traversal of the model, where `runsToB` is `true`. -/
theorem runsTo_eq_box : @runsTo = fun o fuel t n => runsToB o fuel t n || runsTo o fuel t n := by
  funext o fuel t n
  cases h : runsToB o fuel t n with
  | false => rfl
  | true => exact runsTo_of_runsToB h

end Grid
end LC
