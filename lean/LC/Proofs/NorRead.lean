/-
A law `T' ↠ U'` for ARBITRARY terms from one normal-order run on placeholders (`law_of_norSteps`), READ like the runs of
the eager evaluators (`Eager/Reflect.lean`): the placeholder terms `T`, `U` are not written and nothing is instantiated by
`simp`; a derivation of `PInst xs d T T'` follows the shape of the term `T'` of the statement (`.app`, `.app₂`, `.app₃`,
`.abs`, `.c` closed constant, `.bv` bound variable, `.p0 … .p4` the arguments at depth 0 and `.s0 … .s4` the arguments
under binders, where they appear shifted — `.ph k`, `.sh k` for the argument number `k` beyond these —, `.shift h` a
reading that stands shifted under one more binder, `.cell` a pair `tuple2 a b`) and `T` is found by unification.
-/
import LC.Proofs.Reflection
import LC.Proofs.Eager.KernelTerm
import LC.Model.Encode

namespace LC
open Term Spec Enc Eager

def PInst (xs : List Term) (d : Nat) (T T' : Term) : Prop := psubstAux (env xs) d T = T'

namespace PInst
variable {xs : List Term} {d : Nat}

theorem app {l l' r r' : Term} (hl : PInst xs d l l') (hr : PInst xs d r r') :
    PInst xs d (Term.app l r) (Term.app l' r') := by
  unfold PInst at *; simp only [psubstAux, hl, hr]

theorem app₂ {f f' a a' b b' : Term} (hf : PInst xs d f f') (ha : PInst xs d a a') (hb : PInst xs d b b') :
    PInst xs d (Term.app (Term.app f a) b) (Term.app (Term.app f' a') b') := (hf.app ha).app hb

theorem app₃ {f f' a a' b b' c c' : Term} (hf : PInst xs d f f') (ha : PInst xs d a a') (hb : PInst xs d b b')
    (hc : PInst xs d c c') :
    PInst xs d (Term.app (Term.app (Term.app f a) b) c) (Term.app (Term.app (Term.app f' a') b') c') :=
  (hf.app₂ ha hb).app hc

theorem abs {b b' : Term} (hb : PInst xs (d + 1) b b') : PInst xs d (Term.abs b) (Term.abs b') := by
  unfold PInst at *; simp only [psubstAux, hb]

theorem c {t : Term} (h : closedK t 0 = true := by decide +kernel) : PInst xs d t t :=
  psubstAux_closedAt _ d (closedAt_mono (closedK_eq t 0 ▸ h) (Nat.zero_le d))

theorem bv {i : Nat} (h : i ≤ d := by decide) : PInst xs d (var i) (var i) := psubstAux_var_le _ d i h

theorem sh (k : Nat) : PInst xs d (var (d + (k + 1))) (shiftFV d 0 (xs.getD k (var 0))) := by
  unfold PInst; rw [psubstAux_var_gt _ d (k + 1) (by omega), env_succ]

theorem ph (k : Nat) : PInst xs 0 (var (k + 1)) (xs.getD k (var 0)) := by
  have := sh (xs := xs) (d := 0) k
  rwa [shiftFV_zero, Nat.zero_add] at this

theorem p0 {x₀ : Term} : PInst (x₀ :: xs) 0 (var 1) x₀ := ph 0
theorem p1 {x₀ x₁ : Term} : PInst (x₀ :: x₁ :: xs) 0 (var 2) x₁ := ph 1
theorem p2 {x₀ x₁ x₂ : Term} : PInst (x₀ :: x₁ :: x₂ :: xs) 0 (var 3) x₂ := ph 2
theorem p3 {x₀ x₁ x₂ x₃ : Term} : PInst (x₀ :: x₁ :: x₂ :: x₃ :: xs) 0 (var 4) x₃ := ph 3
theorem p4 {x₀ x₁ x₂ x₃ x₄ : Term} : PInst (x₀ :: x₁ :: x₂ :: x₃ :: x₄ :: xs) 0 (var 5) x₄ := ph 4
theorem s0 {x₀ : Term} : PInst (x₀ :: xs) d (var (d + 1)) (shiftFV d 0 x₀) := sh 0
theorem s1 {x₀ x₁ : Term} : PInst (x₀ :: x₁ :: xs) d (var (d + 2)) (shiftFV d 0 x₁) := sh 1
theorem s2 {x₀ x₁ x₂ : Term} : PInst (x₀ :: x₁ :: x₂ :: xs) d (var (d + 3)) (shiftFV d 0 x₂) := sh 2
theorem s3 {x₀ x₁ x₂ x₃ : Term} : PInst (x₀ :: x₁ :: x₂ :: x₃ :: xs) d (var (d + 4)) (shiftFV d 0 x₃) := sh 3
theorem s4 {x₀ x₁ x₂ x₃ x₄ : Term} : PInst (x₀ :: x₁ :: x₂ :: x₃ :: x₄ :: xs) d (var (d + 5)) (shiftFV d 0 x₄) := sh 4

/-- a term that stands shifted under one more binder (a component of a cell that is itself a cell) -/
theorem shift {T T' : Term} (h : PInst xs d T T') : PInst xs (d + 1) (shiftFV 1 0 T) (shiftFV 1 0 T') := by
  unfold PInst at *; rw [psubstAux_shiftFV _ 1 0 d (Nat.zero_le d), h]

/-- a pair of two readings under its binder: `tuple2 a b = λ. 1 a b` (a cell `ocell t l` of `List/OpenLibA.lean` is `tuple2 t↑ l↑`) -/
theorem cell {a a' b b' : Term} (ha : PInst xs (d + 1) a a') (hb : PInst xs (d + 1) b b') :
    PInst xs d (Term.abs (Term.app (Term.app (var 1) a) b)) (tuple2 a' b') :=
  PInst.abs (PInst.app₂ (PInst.bv (by omega)) ha hb)

end PInst

/-- the law read off one normal-order run of `k` steps on the placeholder term -/
theorem norR (k : Nat) (xs : List Term) {T T' U U' : Term} (hT : PInst xs 0 T T') (hU : PInst xs 0 U U')
    (run : norSteps k T = U) : Star T' U' := by
  have h := law_of_norSteps k T U run xs
  unfold PInst at hT hU
  rwa [psubst, psubst, hT, hU] at h

end LC
