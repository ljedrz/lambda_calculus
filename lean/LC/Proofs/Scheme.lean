/-
The seven strategies are instances of one scheme, fixed by four attributes of an order: the order
that works on the operator of an application (`head`), whether abstractions are entered (`under`),
whether the operand is reduced before the contraction (`eager`), and whether an application that is
not contracted has its operator and operand reduced further by the order itself (`deep`).

This file states the scheme once for the small-step functions (`stepOrd_abs`, `stepOrd_app`; read backwards:
`stepOrd_app_cases`, `stepOrd_app_eq_none`) and once for the traversals: `visit` is one level with the recursive calls as a parameter, and `betaOrd_succ` says that each traversal is
that level applied to itself.  The equations of `visit`/`finish` come in three shapes: forward (`visit_app`: from what the
sub-calls return), inversion (`visit_app_eq_some`: what the sub-calls of a returning call returned) and with
`Option.bind` (`visit_app_bind`: an equation that rewrites).  The refinement proofs argue about the scheme.
-/
import LC.Spec.Strategy

namespace LC

namespace Order

/-- the order applied to the operator of an application -/
def head : Order → Order
  | NOR => CBN
  | HNO => HSP
  | HAP => CBV
  | o => o

/-- abstractions are entered -/
def under : Order → Bool
  | CBN | CBV => false
  | _ => true

/-- the operand is reduced before the application is looked at -/
def eager : Order → Bool
  | CBV | APP | HAP => true
  | _ => false

/-- an application that is not contracted is reduced further by the order itself: its operator
and, unless `eager` has done so already, its operand -/
def deep : Order → Bool
  | NOR | HNO | HAP => true
  | _ => false

/-- the order visits every subterm by itself: it enters abstractions, and it reduces operator and
operand of an application that is not contracted -/
def full (o : Order) : Bool := o.under && (o.deep || o.eager)

theorem full_iff {o : Order} : o.full = true ↔ o.under = true ∧ (o.deep = true ∨ o.eager = true) := by
  simp [full]

theorem full_of_eager {o : Order} (he : o.eager = true) (hu : o.under = true) : o.full = true :=
  full_iff.2 ⟨hu, Or.inr he⟩

theorem head_head (o : Order) : o.head.head = o.head := by cases o <;> rfl
theorem head_eager (o : Order) : o.head.eager = o.eager := by cases o <;> rfl
theorem head_deep (o : Order) : o.head.deep = false := by cases o <;> rfl
theorem head_of_not_deep {o : Order} (h : o.deep = false) : o.head = o := by cases o <;> first | rfl | cases h
theorem under_of_head {o : Order} (h : o.head.under = true) : o.under = true := by cases o <;> first | rfl | cases h

end Order

namespace Term

theorem gate_eq_true {L c : Nat} : gate L c = true ↔ L ≠ 0 ∧ c = L := by
  simp [gate]

theorem gate_eq_false {L c : Nat} : gate L c = false ↔ L = 0 ∨ c ≠ L := by
  rw [← Bool.not_eq_true, gate_eq_true]; omega

theorem budget_eq_true {L c : Nat} : budget L c = true ↔ L = 0 ∨ c < L := by
  simp [budget]

theorem budget_eq_false {L c : Nat} : budget L c = false ↔ L ≠ 0 ∧ L ≤ c := by
  rw [← Bool.not_eq_true, budget_eq_true]; omega

theorem gate_zero (c : Nat) : gate 0 c = false := gate_eq_false.2 (Or.inl rfl)

theorem budget_zero (c : Nat) : budget 0 c = true := budget_eq_true.2 (Or.inl rfl)

/-- the test `isAbs l && budget L c` of `finish` (Rust's `is_reducible`), on which the proofs about one level split: it
holds with a redex in hand, or fails in the Boolean form the equations of `finish` take as hypothesis -/
theorem redex_cases (l : Term) (L c : Nat) :
    (∃ b, l = abs b ∧ budget L c = true) ∨ (isAbs l && budget L c) = false := by
  cases l with
  | abs b =>
    cases budget L c with
    | true => exact Or.inl ⟨b, rfl, rfl⟩
    | false => exact Or.inr rfl
  | var i => exact Or.inr rfl
  | app a b => exact Or.inr rfl

theorem isAbs_eq_false_of_budget {l : Term} {L c : Nat} (hred : (isAbs l && budget L c) = false)
    (hb : L = 0 ∨ c < L) : isAbs l = false := by
  rw [Bool.and_eq_false_iff, budget_eq_false] at hred
  rcases hred with h | h
  · exact h
  · omega

theorem stepCbn_stepNor {t t' : Term} (h : stepCbn t = some t') : stepNor t = some t' := by
  induction t generalizing t' with
  | var i => cases h
  | abs b => cases h
  | app l r ihl _ =>
    cases l with
    | var i => cases h
    | abs b => exact h
    | app l1 l2 =>
      simp only [stepCbn, Option.map_eq_some_iff] at h
      obtain ⟨a, ha, rfl⟩ := h
      simp only [stepNor, ihl ha]

theorem stepOrd_var (o : Order) (i : Nat) : stepOrd o (var i) = none := by cases o <;> rfl

theorem stepOrd_abs (o : Order) (b : Term) :
    stepOrd o (abs b) = if o.under then (stepOrd o b).map abs else none := by
  cases o <;> rfl

theorem stepCbv_abs (b : Term) : stepCbv (abs b) = none := stepOrd_abs .CBV b

/-- the scheme of a step in an application: in the operator by the `head` order; else, if `eager`,
in the operand; else the contraction; else, if `deep`, in the operator and then in the operand -/
theorem stepOrd_app (o : Order) (l r : Term) :
    stepOrd o (app l r) =
      match stepOrd o.head l with
      | some l' => some (app l' r)
      | none =>
        match (if o.eager then stepOrd o r else none) with
        | some r' => some (app l r')
        | none =>
          match l with
          | abs b => some (contract b r)
          | _ =>
            if o.deep then
              match stepOrd o l with
              | some l' => some (app l' r)
              | none => if o.eager then none else (stepOrd o r).map (app l)
            else none := by
  cases o <;> simp only [stepOrd, Order.head, Order.eager, Order.deep, Bool.false_eq_true, if_true, if_false]
  case NOR =>
    cases l with
    | var i => rfl
    | abs b => rfl
    | app a b =>
      cases hl : stepCbn (app a b) with
      | some l' =>
        -- the CBN step in the operator is the NOR step there
        rw [stepNor, stepCbn_stepNor hl]
        nofun
      | none => rfl
  -- `stepCbn` and `stepHap` look at the operator before they step in it; for an application as operator that is no case
  case CBN =>
    cases l with
    | app a b =>
      rw [stepCbn]
      · cases stepCbn (app a b) <;> rfl
      · nofun
    | _ => rfl
  case HAP =>
    cases l with
    | app a b =>
      rw [stepHap]
      · cases stepHap (app a b) <;> rfl
      · nofun
    | _ => rfl
  all_goals rfl

theorem stepOrd_app_head {o : Order} {l l' : Term} (r : Term) (h : stepOrd o.head l = some l') :
    stepOrd o (app l r) = some (app l' r) := by
  rw [stepOrd_app, h]

theorem stepOrd_app_arg {o : Order} {l r r' : Term} (he : o.eager = true)
    (hl : stepOrd o.head l = none) (h : stepOrd o r = some r') :
    stepOrd o (app l r) = some (app l r') := by
  rw [stepOrd_app, hl, if_pos he, h]

theorem stepOrd_app_red {o : Order} {b r : Term} (hl : stepOrd o.head (abs b) = none)
    (hr : o.eager = true → stepOrd o r = none) :
    stepOrd o (app (abs b) r) = some (contract b r) := by
  rw [stepOrd_app, hl]
  cases he : o.eager with
  | false => rfl
  | true => rw [if_pos rfl, hr he]

theorem stepOrd_app_neutral {o : Order} {l r : Term} (hl : stepOrd o.head l = none)
    (hr : o.eager = true → stepOrd o r = none) (hna : isAbs l = false) :
    stepOrd o (app l r) =
      if o.deep then
        match stepOrd o l with
        | some l' => some (app l' r)
        | none => if o.eager then none else (stepOrd o r).map (app l)
      else none := by
  have e : (if o.eager then stepOrd o r else none) = none := by
    cases he : o.eager with
    | false => rfl
    | true => rw [if_pos rfl, hr he]
  rw [stepOrd_app, hl, e]
  cases l with
  | abs b => cases hna
  | _ => rfl

theorem stepOrd_app_eq_none {o : Order} {l r : Term} :
    stepOrd o (app l r) = none ↔
      stepOrd o.head l = none ∧ (o.eager = true → stepOrd o r = none) ∧ isAbs l = false ∧
        (o.deep = true → stepOrd o l = none ∧ (o.eager = false → stepOrd o r = none)) := by
  cases hl : stepOrd o.head l with
  | some l' => simp [stepOrd_app_head r hl]
  | none =>
    by_cases hr : o.eager = true → stepOrd o r = none
    · cases hna : isAbs l with
      | true =>
        cases l with
        | abs b => simp [stepOrd_app_red hl hr]
        | _ => cases hna
      | false =>
        rw [stepOrd_app_neutral hl hr hna]
        cases hd : o.deep with
        | false => simpa using hr
        | true =>
          cases hs : stepOrd o l with
          | some l' => simp
          | none =>
            cases he : o.eager with
            | true => simpa [he] using hr
            | false => simp
    · obtain ⟨he, hr⟩ := Decidable.not_imp_iff_and_not.1 hr
      cases hr' : stepOrd o r with
      | none => exact absurd hr' hr
      | some r' => simp [stepOrd_app_arg he hl hr', he]

theorem stepOrd_app_cases {o : Order} {l r u : Term} (h : stepOrd o (app l r) = some u) :
    (∃ l1, stepOrd o.head l = some l1 ∧ u = app l1 r) ∨
    (stepOrd o.head l = none ∧
      ((∃ r1, o.eager = true ∧ stepOrd o r = some r1 ∧ u = app l r1) ∨
       ((o.eager = true → stepOrd o r = none) ∧
         ((∃ b, l = abs b ∧ u = contract b r) ∨
          (isAbs l = false ∧ o.deep = true ∧
            ((∃ l1, stepOrd o l = some l1 ∧ u = app l1 r) ∨
             (stepOrd o l = none ∧ o.eager = false ∧
                ∃ r1, stepOrd o r = some r1 ∧ u = app l r1))))))) := by
  cases hl : stepOrd o.head l with
  | some l1 =>
    rw [stepOrd_app_head r hl] at h; cases h
    exact Or.inl ⟨l1, rfl, rfl⟩
  | none =>
    refine Or.inr ⟨rfl, ?_⟩
    by_cases hr : o.eager = true → stepOrd o r = none
    · refine Or.inr ⟨hr, ?_⟩
      cases hna : isAbs l with
      | true =>
        cases l with
        | abs b =>
          rw [stepOrd_app_red hl hr] at h; cases h
          exact Or.inl ⟨b, rfl, rfl⟩
        | _ => cases hna
      | false =>
        rw [stepOrd_app_neutral hl hr hna] at h
        cases hd : o.deep with
        | false => rw [hd] at h; cases h
        | true =>
          rw [hd, if_pos rfl] at h
          refine Or.inr ⟨rfl, rfl, ?_⟩
          cases hs : stepOrd o l with
          | some l1 => rw [hs] at h; cases h; exact Or.inl ⟨l1, rfl, rfl⟩
          | none =>
            rw [hs] at h
            cases he : o.eager with
            | true => rw [he] at h; cases h
            | false =>
              simp only [he, Bool.false_eq_true, if_false, Option.map_eq_some_iff] at h
              obtain ⟨r1, hr1, rfl⟩ := h
              exact Or.inr ⟨rfl, rfl, r1, hr1, rfl⟩
    · obtain ⟨he, hr⟩ := Decidable.not_imp_iff_and_not.1 hr
      cases hr' : stepOrd o r with
      | none => exact absurd hr' hr
      | some r1 =>
        rw [stepOrd_app_arg he hl hr'] at h; cases h
        exact Or.inl ⟨r1, he, rfl, rfl⟩

theorem stepOrd_head_none {o : Order} {t : Term} (h : stepOrd o t = none) : stepOrd o.head t = none := by
  induction t with
  | var i => exact stepOrd_var _ i
  | abs b ih =>
    rw [stepOrd_abs] at h ⊢
    cases hu : o.head.under with
    | false => rfl
    | true =>
      rw [Order.under_of_head hu, if_pos rfl, Option.map_eq_none_iff] at h
      rw [if_pos rfl, ih h]
      rfl
  | app l r _ ihr =>
    obtain ⟨hl, hr, hna, _⟩ := stepOrd_app_eq_none.1 h
    refine stepOrd_app_eq_none.2 ⟨?_, fun he => ihr (hr ?_), hna, fun hd => ?_⟩
    · rw [Order.head_head]; exact hl
    · rw [← Order.head_eager]; exact he
    · rw [Order.head_deep] at hd; cases hd

theorem stepCbv_none_of_stepHap_none {t} (h : stepHap t = none) : stepCbv t = none :=
  stepOrd_head_none (o := .HAP) h

/-- a step of an order in a term that is normal for its `head` order leaves it so, and does not turn
it into (or from) an abstraction (only a `deep` order has such a step: for the others `head` is the
order itself) -/
theorem stepOrd_keeps_head_nf {o : Order} {x y : Term} (hx : stepOrd o.head x = none)
    (h : stepOrd o x = some y) : stepOrd o.head y = none ∧ isAbs y = isAbs x := by
  induction x generalizing y with
  | var i => rw [stepOrd_var] at h; cases h
  | abs b ih =>
    rw [stepOrd_abs] at h hx
    cases hu : o.under with
    | false => rw [hu] at h; cases h
    | true =>
      rw [hu, if_pos rfl, Option.map_eq_some_iff] at h
      obtain ⟨b', hb, rfl⟩ := h
      refine ⟨?_, rfl⟩
      rw [stepOrd_abs]
      cases hhu : o.head.under with
      | false => rfl
      | true =>
        rw [hhu, if_pos rfl, Option.map_eq_none_iff] at hx
        rw [if_pos rfl, (ih hx hb).1]; rfl
  | app l r ihl ihr =>
    obtain ⟨hl, hr0, hna, _⟩ := stepOrd_app_eq_none.1 hx
    rw [Order.head_head] at hl
    rw [Order.head_eager] at hr0
    have keep : ∀ l' r', stepOrd o.head l' = none → isAbs l' = false →
        (o.eager = true → stepOrd o.head r' = none) →
        stepOrd o.head (app l' r') = none ∧ isAbs (app l' r') = isAbs (app l r) := fun l' r' h1 h2 h3 =>
      ⟨stepOrd_app_eq_none.2 ⟨by rw [Order.head_head]; exact h1, by rw [Order.head_eager]; exact h3, h2,
        fun hd => by rw [Order.head_deep] at hd; cases hd⟩, rfl⟩
    rcases stepOrd_app_cases h with ⟨l1, hl1, _⟩ | ⟨_, ⟨r1, he, hr1, rfl⟩ |
      ⟨_, ⟨b, rfl, _⟩ | ⟨_, _, ⟨l1, hl1, rfl⟩ | ⟨_, he, r1, _, rfl⟩⟩⟩⟩
    · -- in the operator by the `head` order: there is no such step
      rw [hl] at hl1; cases hl1
    · -- in the operand, visited before the application
      exact keep l r1 hl hna fun _ => (ihr (hr0 he) hr1).1
    · -- the contraction: the operator is no abstraction
      cases hna
    · -- in the operator, by the order itself
      exact keep l1 r (ihl hl hl1).1 ((ihl hl hl1).2.trans hna) hr0
    · -- in the operand, visited after the operator
      exact keep l r1 hl hna fun h' => by rw [he] at h'; cases h'

/-- a recursive call that an order makes or skips: the operand before the application is looked at (`eager`), after it
(`deep`, not `eager`) -/
def callIf (b : Bool) (f : Term → Nat → Option (Term × Nat)) (t : Term) (c : Nat) :
    Option (Term × Nat) :=
  if b then f t c else some (t, c)

/-- what a traversal does with an application once operator (`l`) and operand (`r`) have been
visited: contract if there is a redex and budget, otherwise reduce further if `deep`.  The branch
`| _ => none` is never taken (`isAbs l` holds there); it is there because `betaNor`, `betaHno` and
`betaHap` of `Model/Reduce.lean` test `isAbs` first and match afterwards. -/
def finish (L : Nat) (self : Order → Term → Nat → Option (Term × Nat)) (o : Order) (l r : Term)
    (c : Nat) : Option (Term × Nat) :=
  if isAbs l && budget L c then
    match l with
    | abs b => self o (contract b r) (c + 1)
    | _ => none
  else if o.deep then
    match self o l c with
    | none => none
    | some (l', c1) =>
      match callIf (!o.eager) (self o) r c1 with
      | none => none
      | some (r', c2) => some (app l' r', c2)
  else some (app l r, c)

/-- one level of the traversal of order `o`; `self` stands for the recursive calls -/
def visit (L : Nat) (self : Order → Term → Nat → Option (Term × Nat)) (o : Order) (t : Term)
    (c : Nat) : Option (Term × Nat) :=
  if gate L c then some (t, c) else
  match t with
  | var i => some (var i, c)
  | abs b =>
    if o.under then
      match self o b c with
      | none => none
      | some (b', c1) => some (abs b', c1)
    else some (abs b, c)
  | app l r =>
    match self o.head l c with
    | none => none
    | some (l', c1) =>
      match callIf o.eager (self o) r c1 with
      | none => none
      | some (r', c2) => finish L self o l' r' c2

theorem finish_of_not_deep {L : Nat} {self : Order → Term → Nat → Option (Term × Nat)} {o : Order}
    (hd : o.deep = false) (l r : Term) (c : Nat) :
    finish L self o l r c =
      match l with
      | abs b => if budget L c then self o (contract b r) (c + 1) else some (app l r, c)
      | _ => some (app l r, c) := by
  cases l <;> simp only [finish, isAbs, hd, Bool.false_and, Bool.true_and, Bool.false_eq_true, if_false]

section
variable {L : Nat} {self : Order → Term → Nat → Option (Term × Nat)} {o : Order}

theorem callIf_true (f : Term → Nat → Option (Term × Nat)) (t : Term) (c : Nat) :
    callIf true f t c = f t c := rfl

theorem callIf_false (f : Term → Nat → Option (Term × Nat)) (t : Term) (c : Nat) :
    callIf false f t c = some (t, c) := rfl

theorem finish_red {b r : Term} {c : Nat} (hb : budget L c = true) :
    finish L self o (abs b) r c = self o (contract b r) (c + 1) := by
  simp only [finish, isAbs, hb, Bool.and_self, if_true]

theorem finish_shallow {l r : Term} {c : Nat} (hred : (isAbs l && budget L c) = false)
    (hd : o.deep = false) : finish L self o l r c = some (app l r, c) := by
  simp only [finish, hred, hd, Bool.false_eq_true, if_false]

theorem finish_deep {l r l' r' : Term} {c c1 c2 : Nat} (hred : (isAbs l && budget L c) = false)
    (hd : o.deep = true) (hl : self o l c = some (l', c1))
    (hr : callIf (!o.eager) (self o) r c1 = some (r', c2)) :
    finish L self o l r c = some (app l' r', c2) := by
  simp only [finish, hred, hd, hl, hr, Bool.false_eq_true, if_false, if_true]

theorem finish_eq_some {l r : Term} {c : Nat} {p : Term × Nat} (h : finish L self o l r c = some p) :
    (∃ b, l = abs b ∧ budget L c = true ∧ self o (contract b r) (c + 1) = some p) ∨
    ((isAbs l && budget L c) = false ∧
      ((o.deep = false ∧ p = (app l r, c)) ∨
       (o.deep = true ∧ ∃ l' c1 r' c2, self o l c = some (l', c1) ∧
          callIf (!o.eager) (self o) r c1 = some (r', c2) ∧ p = (app l' r', c2)))) := by
  unfold finish at h
  split at h
  · rename_i hred
    rw [Bool.and_eq_true] at hred
    split at h
    · exact Or.inl ⟨_, rfl, hred.2, h⟩
    · cases h
  · rename_i hred
    refine Or.inr ⟨by simpa using hred, ?_⟩
    split at h
    · rename_i hd
      split at h
      · cases h
      · rename_i l' c1 hl
        split at h
        · cases h
        · rename_i r' c2 hr
          cases h
          exact Or.inr ⟨hd, l', c1, r', c2, hl, hr, rfl⟩
    · rename_i hd
      cases h
      exact Or.inl ⟨by simpa using hd, rfl⟩

theorem visit_gate {t : Term} {c : Nat} (hg : gate L c = true) : visit L self o t c = some (t, c) := by
  simp only [visit, hg, if_true]

theorem visit_var {i c : Nat} : visit L self o (var i) c = some (var i, c) := by
  unfold visit
  split <;> rfl

theorem visit_abs_stop {b : Term} {c : Nat} (hu : o.under = false) :
    visit L self o (abs b) c = some (abs b, c) := by
  unfold visit
  split
  · rfl
  · simp only [hu, Bool.false_eq_true, if_false]

theorem visit_abs {b b' : Term} {c c' : Nat} (hg : gate L c = false) (hu : o.under = true)
    (hb : self o b c = some (b', c')) : visit L self o (abs b) c = some (abs b', c') := by
  simp only [visit, hg, hu, hb, Bool.false_eq_true, if_false, if_true]

theorem visit_app {l r l' r' : Term} {c c1 c2 : Nat} (hg : gate L c = false)
    (hl : self o.head l c = some (l', c1)) (hr : callIf o.eager (self o) r c1 = some (r', c2)) :
    visit L self o (app l r) c = finish L self o l' r' c2 := by
  simp only [visit, hg, hl, hr, Bool.false_eq_true, if_false]

theorem visit_abs_eq_some {b : Term} {c : Nat} {p : Term × Nat} (hg : gate L c = false)
    (hu : o.under = true) (h : visit L self o (abs b) c = some p) :
    ∃ b' c', self o b c = some (b', c') ∧ p = (abs b', c') := by
  simp only [visit, hg, hu, Bool.false_eq_true, if_false, if_true] at h
  split at h
  · cases h
  · cases h; exact ⟨_, _, ‹_›, rfl⟩

theorem visit_app_eq_some {l r : Term} {c : Nat} {p : Term × Nat} (hg : gate L c = false)
    (h : visit L self o (app l r) c = some p) :
    ∃ l' c1 r' c2, self o.head l c = some (l', c1) ∧
      callIf o.eager (self o) r c1 = some (r', c2) ∧ finish L self o l' r' c2 = some p := by
  simp only [visit, hg, Bool.false_eq_true, if_false] at h
  split at h
  · cases h
  · split at h
    · cases h
    · exact ⟨_, _, _, _, ‹_›, ‹_›, h⟩

theorem visit_abs_bind {b : Term} {c : Nat} (hg : gate L c = false) (hu : o.under = true) :
    visit L self o (abs b) c = (self o b c).bind fun p => some (abs p.1, p.2) := by
  simp only [visit, hg, hu, Bool.false_eq_true, if_false, if_true]
  cases self o b c <;> rfl

theorem visit_app_bind {l r : Term} {c : Nat} (hg : gate L c = false) :
    visit L self o (app l r) c =
      (self o.head l c).bind fun p =>
        (callIf o.eager (self o) r p.2).bind fun q => finish L self o p.1 q.1 q.2 := by
  simp only [visit, hg, Bool.false_eq_true, if_false]
  cases self o.head l c with
  | none => rfl
  | some p => cases h : callIf o.eager (self o) r p.2 <;> simp only [Option.bind_some, Option.bind_none, h]

theorem finish_deep_bind {l r : Term} {c : Nat} (hred : (isAbs l && budget L c) = false)
    (hd : o.deep = true) :
    finish L self o l r c =
      (self o l c).bind fun p =>
        (callIf (!o.eager) (self o) r p.2).bind fun q => some (app p.1 q.1, q.2) := by
  simp only [finish, hred, hd, Bool.false_eq_true, if_false, if_true]
  cases self o l c with
  | none => rfl
  | some p =>
    cases h : callIf (!o.eager) (self o) r p.2 <;> simp only [Option.bind_some, Option.bind_none, h]

end

theorem betaOrd_zero (o : Order) (L : Nat) (t : Term) (c : Nat) : betaOrd o L 0 t c = none := by
  cases o <;> rfl

theorem betaOrd_succ (o : Order) (L fuel : Nat) (t : Term) (c : Nat) :
    betaOrd o L (fuel + 1) t c = visit L (fun o' => betaOrd o' L fuel) o t c := by
  cases o <;> cases t
  all_goals try rfl
  case CBN.app => simp only [visit, finish_of_not_deep (o := .CBN) rfl]; rfl
  case HSP.app => simp only [visit, finish_of_not_deep (o := .HSP) rfl]; rfl
  case APP.app => simp only [visit, finish_of_not_deep (o := .APP) rfl]; rfl
  case CBV.app => simp only [visit, finish_of_not_deep (o := .CBV) rfl]; rfl

end Term
end LC
