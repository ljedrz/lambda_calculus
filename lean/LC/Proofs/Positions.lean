/-
Positions: how `subAt`, `redexAt`, `contractAt` and the orders `leftOf`, `before` on positions behave under each term
constructor, and the leftmost-outermost redex (`isLMO`) under each constructor.
-/
import LC.Spec.Selection

namespace LC
namespace Spec
open Term

/-- the binder counter is only carried along -/
theorem subAtAux_shift (k : Nat) (t : Term) (p : Pos) :
    subAtAux k t p = (subAtAux 0 t p).map (fun x => (x.1, x.2 + k)) := by
  induction p generalizing t k with
  | nil => simp [subAtAux]
  | cons d p ih =>
    cases t with
    | var n => simp [subAtAux]
    | abs b =>
      cases d with
      | L => simp [subAtAux]
      | R => simp [subAtAux]
      | B =>
        -- under the binder both sides count one more: `k + 1` against `1`, then `+ k`
        simp only [subAtAux]
        rw [ih (k + 1), ih 1]
        cases subAtAux 0 b p <;> simp [Nat.add_assoc, Nat.add_comm 1 k]
    | app l r =>
      cases d with
      | L => simpa [subAtAux] using ih _ _
      | R => simpa [subAtAux] using ih _ _
      | B => simp [subAtAux]

theorem subAtAux_le {k n : Nat} {t s : Term} {p : Pos} (h : subAtAux k t p = some (s, n)) : k ≤ n := by
  rw [subAtAux_shift] at h
  cases h0 : subAtAux 0 t p with
  | none => rw [h0] at h; cases h
  | some x =>
    rw [h0] at h
    cases h
    exact Nat.le_add_left _ _

theorem subAtAux_append (k : Nat) (t : Term) (p q : Pos) :
    subAtAux k t (p ++ q) = (subAtAux k t p).bind (fun x => subAtAux x.2 x.1 q) := by
  induction p generalizing k t with
  | nil => simp [subAtAux]
  | cons d p ih => cases t <;> cases d <;> simp [subAtAux, ih]

/-- a map on terms that passes through `abs` (going one binder deeper) and through `app` acts on the subterm at every
position, at the depth of that position -/
theorem subAtAux_map {F : Nat → Term → Term} (habs : ∀ d b, F d (abs b) = abs (F (d + 1) b))
    (happ : ∀ d l r, F d (app l r) = app (F d l) (F d r)) {p : Pos} {t s : Term} {d k n : Nat}
    (h : subAtAux k t p = some (s, n)) : subAtAux k (F d t) p = some (F (d + (n - k)) s, n) := by
  induction p generalizing t d k with
  | nil =>
    simp only [subAtAux, Option.some.injEq, Prod.mk.injEq] at h
    obtain ⟨rfl, rfl⟩ := h
    simp [subAtAux]
  | cons x p ih =>
    cases t with
    | var i => simp [subAtAux] at h
    | abs b =>
      cases x with
      | B =>
        simp only [subAtAux] at h
        have hle := subAtAux_le h
        rw [habs, subAtAux, ih (d := d + 1) h, show d + 1 + (n - (k + 1)) = d + (n - k) by omega]
      | L => simp [subAtAux] at h
      | R => simp [subAtAux] at h
    | app l r =>
      cases x with
      | B => simp [subAtAux] at h
      | L => simp only [subAtAux] at h; rw [happ, subAtAux, ih h]
      | R => simp only [subAtAux] at h; rw [happ, subAtAux, ih h]

theorem subAt_nil (t : Term) : subAt t [] = some (t, 0) := by simp [subAt, subAtAux]

theorem subAt_var_cons (n : Nat) (d : Dir) (p : Pos) : subAt (var n) (d :: p) = none := by
  simp [subAt, subAtAux]

theorem subAt_abs_B (b : Term) (p : Pos) :
    subAt (abs b) (Dir.B :: p) = (subAt b p).map (fun x => (x.1, x.2 + 1)) := by
  simp only [subAt, subAtAux]; rw [subAtAux_shift]

theorem subAt_abs_L (b : Term) (p : Pos) : subAt (abs b) (Dir.L :: p) = none := by
  simp [subAt, subAtAux]

theorem subAt_abs_R (b : Term) (p : Pos) : subAt (abs b) (Dir.R :: p) = none := by
  simp [subAt, subAtAux]

theorem subAt_app_L (l r : Term) (p : Pos) : subAt (app l r) (Dir.L :: p) = subAt l p := by
  simp [subAt, subAtAux]

theorem subAt_app_R (l r : Term) (p : Pos) : subAt (app l r) (Dir.R :: p) = subAt r p := by
  simp [subAt, subAtAux]

theorem subAt_app_B (l r : Term) (p : Pos) : subAt (app l r) (Dir.B :: p) = none := by
  simp [subAt, subAtAux]

theorem redexAt_var {n : Nat} {p : Pos} : ¬ redexAt (var n) p := by
  rintro ⟨b, a, k, h⟩
  cases p with
  | nil => simp [subAt_nil] at h
  | cons d p => simp [subAt_var_cons] at h

theorem redexAt_abs_B {b : Term} {p : Pos} : redexAt (abs b) (Dir.B :: p) ↔ redexAt b p := by
  unfold redexAt
  rw [subAt_abs_B]
  constructor
  · rintro ⟨b', a, k, h⟩
    cases hs : subAt b p with
    | none => simp [hs] at h
    | some x =>
      obtain ⟨s, n⟩ := x
      simp only [hs, Option.map_some, Option.some.injEq, Prod.mk.injEq] at h
      exact ⟨b', a, n, by rw [h.1]⟩
  · rintro ⟨b', a, k, h⟩
    exact ⟨b', a, k + 1, by simp [h]⟩

theorem redexAt_abs_iff {b : Term} {p : Pos} :
    redexAt (abs b) p ↔ ∃ p', p = Dir.B :: p' ∧ redexAt b p' := by
  constructor
  · intro h
    cases p with
    | nil => obtain ⟨b', a, k, h⟩ := h; simp [subAt_nil] at h
    | cons d p =>
      cases d with
      | B => exact ⟨p, rfl, redexAt_abs_B.1 h⟩
      | L => obtain ⟨b', a, k, h⟩ := h; simp [subAt_abs_L] at h
      | R => obtain ⟨b', a, k, h⟩ := h; simp [subAt_abs_R] at h
  · rintro ⟨p', rfl, h⟩
    exact redexAt_abs_B.2 h

theorem isAbs_true {l : Term} (h : isAbs l = true) : ∃ b, l = abs b := by
  cases l with
  | abs b => exact ⟨b, rfl⟩
  | var n => cases h
  | app l r => cases h

theorem redexAt_app_nil {l r : Term} : redexAt (app l r) [] ↔ isAbs l = true := by
  unfold redexAt
  rw [subAt_nil]
  constructor
  · rintro ⟨b, a, k, h⟩
    simp only [Option.some.injEq, Prod.mk.injEq, app.injEq] at h
    rw [h.1.1]; rfl
  · intro h
    obtain ⟨b, rfl⟩ := isAbs_true h
    exact ⟨b, r, 0, rfl⟩

theorem redexAt_app_L {l r : Term} {p : Pos} : redexAt (app l r) (Dir.L :: p) ↔ redexAt l p := by
  unfold redexAt; rw [subAt_app_L]

theorem redexAt_app_R {l r : Term} {p : Pos} : redexAt (app l r) (Dir.R :: p) ↔ redexAt r p := by
  unfold redexAt; rw [subAt_app_R]

theorem redexAt_app_B {l r : Term} {p : Pos} : ¬ redexAt (app l r) (Dir.B :: p) := by
  rintro ⟨b, a, k, h⟩; simp [subAt_app_B] at h

/-- the redex positions of an application: the root if the operator is an abstraction, those of the operator, those
of the operand -/
theorem redexAt_app_iff {l r : Term} {q : Pos} :
    redexAt (app l r) q ↔ (q = [] ∧ isAbs l = true) ∨ (∃ q', q = Dir.L :: q' ∧ redexAt l q') ∨
      (∃ q', q = Dir.R :: q' ∧ redexAt r q') := by
  constructor
  · intro h
    cases q with
    | nil => exact Or.inl ⟨rfl, redexAt_app_nil.1 h⟩
    | cons d q =>
      cases d with
      | L => exact Or.inr (Or.inl ⟨q, rfl, redexAt_app_L.1 h⟩)
      | R => exact Or.inr (Or.inr ⟨q, rfl, redexAt_app_R.1 h⟩)
      | B => exact absurd h redexAt_app_B
  · rintro (⟨rfl, h⟩ | ⟨q, rfl, h⟩ | ⟨q, rfl, h⟩)
    · exact redexAt_app_nil.2 h
    · exact redexAt_app_L.2 h
    · exact redexAt_app_R.2 h

theorem no_redex_abs {b : Term} (h : ∀ q, ¬ redexAt b q) : ∀ q, ¬ redexAt (abs b) q := by
  intro q hq
  obtain ⟨q', rfl, hq'⟩ := redexAt_abs_iff.1 hq
  exact h q' hq'

theorem no_redex_app {l r : Term} (ha : isAbs l = false) (hl : ∀ q, ¬ redexAt l q) (hr : ∀ q, ¬ redexAt r q) :
    ∀ q, ¬ redexAt (app l r) q := by
  intro q hq
  rcases redexAt_app_iff.1 hq with ⟨_, h⟩ | ⟨q', _, h⟩ | ⟨q', _, h⟩
  · rw [ha] at h; cases h
  · exact hl q' h
  · exact hr q' h

theorem contractAt_root (b a : Term) : contractAt (app (abs b) a) [] = substTop b a := by
  simp [contractAt, subAt_nil, replaceAt]

theorem contractAt_app_L (l r : Term) (p : Pos) :
    contractAt (app l r) (Dir.L :: p) = app (contractAt l p) r := by
  unfold contractAt
  rw [subAt_app_L]
  split <;> simp [replaceAt]

theorem contractAt_app_R (l r : Term) (p : Pos) :
    contractAt (app l r) (Dir.R :: p) = app l (contractAt r p) := by
  unfold contractAt
  rw [subAt_app_R]
  split <;> simp [replaceAt]

theorem contractAt_abs_B (b : Term) (p : Pos) :
    contractAt (abs b) (Dir.B :: p) = abs (contractAt b p) := by
  unfold contractAt
  rw [subAt_abs_B]
  cases hs : subAt b p with
  | none => simp
  | some x =>
    obtain ⟨s, n⟩ := x
    -- the subterm at `p` is the same on both sides, so both sides contract or both do not
    simp only [Option.map_some]
    split <;> simp_all [replaceAt]

theorem leftOf_cons {d e : Dir} {p q : Pos} :
    leftOf (d :: p) (e :: q) ↔ (d = Dir.L ∧ e = Dir.R) ∨ (d = e ∧ leftOf p q) := by
  constructor
  · rintro ⟨r, p', q', hp, hq⟩
    cases r with
    | nil =>
      simp only [List.nil_append, List.cons.injEq] at hp hq
      exact Or.inl ⟨hp.1, hq.1⟩
    | cons c r =>
      simp only [List.cons_append, List.cons.injEq] at hp hq
      exact Or.inr ⟨hp.1.trans hq.1.symm, r, p', q', hp.2, hq.2⟩
  · rintro (⟨rfl, rfl⟩ | ⟨rfl, r, p', q', rfl, rfl⟩)
    · exact ⟨[], p, q, rfl, rfl⟩
    · exact ⟨d :: r, p', q', rfl, rfl⟩

theorem not_leftOf_nil_left {q : Pos} : ¬ leftOf [] q := by
  rintro ⟨r, p', q', hp, _⟩
  cases r <;> simp at hp

theorem not_leftOf_nil_right {p : Pos} : ¬ leftOf p [] := by
  rintro ⟨r, p', q', _, hq⟩
  cases r <;> simp at hq

theorem leftOf_asymm {p q : Pos} : leftOf p q → ¬ leftOf q p := by
  induction p generalizing q with
  | nil => intro h; exact absurd h not_leftOf_nil_left
  | cons d p ih =>
    cases q with
    | nil => intro h; exact absurd h not_leftOf_nil_right
    | cons e q =>
      rw [leftOf_cons, leftOf_cons]
      rintro (⟨rfl, rfl⟩ | ⟨rfl, h⟩) (⟨h1, h2⟩ | ⟨_, h'⟩)
      · cases h1
      · rename_i h1; cases h1
      · cases h1.symm.trans h2
      · exact ih h h'

theorem before_nil_left {q : Pos} : before [] q ↔ q ≠ [] := by
  unfold before
  constructor
  · rintro (⟨s, hs, rfl⟩ | h)
    · simpa using hs
    · exact absurd h not_leftOf_nil_left
  · intro h; exact Or.inl ⟨q, h, rfl⟩

theorem not_before_nil_right {p : Pos} : ¬ before p [] := by
  rintro (⟨s, hs, h⟩ | h)
  · cases p with
    | nil => exact hs (by simpa using h.symm)
    | cons d p => simp at h
  · exact not_leftOf_nil_right h

theorem before_cons {d e : Dir} {p q : Pos} :
    before (d :: p) (e :: q) ↔ (d = Dir.L ∧ e = Dir.R) ∨ (d = e ∧ before p q) := by
  unfold before
  rw [leftOf_cons]
  constructor
  · rintro (⟨s, hs, h⟩ | h | h)
    · simp only [List.cons_append, List.cons.injEq] at h
      exact Or.inr ⟨h.1.symm, Or.inl ⟨s, hs, h.2⟩⟩
    · exact Or.inl h
    · exact Or.inr ⟨h.1, Or.inr h.2⟩
  · rintro (h | ⟨rfl, ⟨s, hs, rfl⟩ | h⟩)
    · exact Or.inr (Or.inl h)
    · exact Or.inl ⟨s, hs, rfl⟩
    · exact Or.inr (Or.inr ⟨rfl, h⟩)

theorem before_asymm {p q : Pos} : before p q → ¬ before q p := by
  induction p generalizing q with
  | nil => intro _ h; exact not_before_nil_right h
  | cons d p ih =>
    cases q with
    | nil => intro h; exact absurd h not_before_nil_right
    | cons e q =>
      rw [before_cons, before_cons]
      rintro (⟨rfl, rfl⟩ | ⟨rfl, h⟩) (⟨h1, h2⟩ | ⟨h1, h'⟩)
      · cases h1
      · cases h1
      · cases h1.symm.trans h2
      · exact ih h h'

/-- why each order selects at most one redex -/
theorem first_unique {R : Pos → Prop} {lt : Pos → Pos → Prop} (asymm : ∀ {p q}, lt p q → ¬ lt q p) {p q : Pos}
    (hp : R p ∧ ∀ r, R r → r = p ∨ lt p r) (hq : R q ∧ ∀ r, R r → r = q ∨ lt q r) : p = q := by
  rcases hp.2 q hq.1 with h | h
  · exact h.symm
  · rcases hq.2 p hp.1 with h' | h'
    · exact h'
    · exact absurd h' (asymm h)

theorem weak_nil : weak [] := by simp [weak]

theorem weak_cons {d : Dir} {p : Pos} : weak (d :: p) ↔ d ≠ Dir.B ∧ weak p := by
  simp only [weak, List.mem_cons, not_or, ne_eq, eq_comm]

theorem noArg_nil : noArg [] := by simp [noArg]

theorem noArg_cons {d : Dir} {p : Pos} : noArg (d :: p) ↔ d ≠ Dir.R ∧ noArg p := by
  simp only [noArg, List.mem_cons, not_or, ne_eq, eq_comm]

theorem noArg_append {p q : Pos} : noArg (p ++ q) ↔ noArg p ∧ noArg q := by
  simp [noArg, List.mem_append, not_or]

theorem not_weak_redexAt_abs {b : Term} {p : Pos} (h : redexAt (abs b) p) : ¬ weak p := by
  obtain ⟨p', rfl, _⟩ := redexAt_abs_iff.1 h
  simp [weak_cons]

theorem isLMO_root {l : Term} (r : Term) (h : isAbs l = true) : isLMO (app l r) [] := by
  refine ⟨redexAt_app_nil.2 h, fun q _ => ?_⟩
  cases q with
  | nil => exact Or.inl rfl
  | cons d q => exact Or.inr (before_nil_left.2 (by simp))

theorem isLMO_abs_B {b : Term} {p : Pos} : isLMO (abs b) (Dir.B :: p) ↔ isLMO b p := by
  constructor
  · rintro ⟨h1, h2⟩
    refine ⟨redexAt_abs_B.1 h1, fun q hq => ?_⟩
    simpa [before_cons] using h2 (Dir.B :: q) (redexAt_abs_B.2 hq)
  · rintro ⟨h1, h2⟩
    refine ⟨redexAt_abs_B.2 h1, fun q hq => ?_⟩
    obtain ⟨q', rfl, hq'⟩ := redexAt_abs_iff.1 hq
    simpa [before_cons] using h2 q' hq'

theorem isLMO_of_app_L {l r : Term} {p : Pos} (h : isLMO (app l r) (Dir.L :: p)) : isLMO l p := by
  obtain ⟨h1, h2⟩ := h
  refine ⟨redexAt_app_L.1 h1, fun q hq => ?_⟩
  simpa [before_cons] using h2 (Dir.L :: q) (redexAt_app_L.2 hq)

theorem isLMO_app_L {l r : Term} {p : Pos} (ha : isAbs l = false) (h : isLMO l p) :
    isLMO (app l r) (Dir.L :: p) := by
  obtain ⟨h1, h2⟩ := h
  refine ⟨redexAt_app_L.2 h1, fun q hq => ?_⟩
  rcases redexAt_app_iff.1 hq with ⟨_, h⟩ | ⟨q, rfl, hq⟩ | ⟨q, rfl, _⟩
  · rw [ha] at h; cases h
  · simpa [before_cons] using h2 q hq
  · simp [before_cons]

theorem isLMO_app_R {l r : Term} {p : Pos} (ha : isAbs l = false) (hn : ∀ q, ¬ redexAt l q)
    (h : isLMO r p) : isLMO (app l r) (Dir.R :: p) := by
  obtain ⟨h1, h2⟩ := h
  refine ⟨redexAt_app_R.2 h1, fun q hq => ?_⟩
  rcases redexAt_app_iff.1 hq with ⟨_, h⟩ | ⟨q, _, hq⟩ | ⟨q, rfl, hq⟩
  · rw [ha] at h; cases h
  · exact absurd hq (hn q)
  · simpa [before_cons] using h2 q hq

theorem isLMO_unique {t : Term} {p q : Pos} (hp : isLMO t p) (hq : isLMO t q) : p = q :=
  first_unique (R := redexAt t) (lt := before) before_asymm hp hq

end Spec
end LC
