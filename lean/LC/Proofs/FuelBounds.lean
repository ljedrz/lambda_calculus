/-
Fuel (= depth of the call tree of the traversals of `Model/Reduce.lean`) as a quantity:
the self-application `FB.W`, `FB.Om = Ω`, and the exact fuel the seven
traversals need on `Ω` under a limit `L ≠ 0`: the call depth grows linearly with the number of
contractions although the term never grows (DESIGN §9, "Stack exhaustion").
-/
import LC.Proofs.Complete.All

namespace LC
namespace Term

namespace FB

/-- `λx. x x` -/
abbrev W : Term := abs (app (var 1) (var 1))
/-- `Ω = (λx. x x)(λx. x x)` -/
abbrev Om : Term := app W W

theorem contract_W : contract (app (var 1) (var 1)) W = Om := by decide

/-- the constant `k` of the exact fuel `L + k` an order needs on `Ω` under limit `L` -/
def omK : Order → Nat
  | .NOR | .CBN | .CBV => 1
  | _ => 3

/-- the fuel a traversal needs on `W`: it is an abstraction over an application of variables -/
def wK (o : Order) : Nat := if o.under then 3 else 1

theorem omK_eq (o : Order) : omK o = max (wK o.head) (if o.eager then wK o else 0) := by
  cases o <;> rfl

theorem omK_pos (o : Order) : 1 ≤ omK o := by cases o <;> simp [omK]

theorem ord_W (o : Order) (L f c : Nat) (hg : gate L c = false) :
    betaOrd o L f W c = if wK o ≤ f then some (W, c) else none := by
  cases hu : o.under with
  | false =>
    cases f with
    | zero => rw [betaOrd_zero]; simp [wK, hu]
    | succ f => rw [betaOrd_succ, visit_abs_stop hu]; simp [wK, hu]
  | true =>
    have hwk : wK o = 3 := by simp [wK, hu]
    rw [hwk]
    match f with
    | 0 => rw [betaOrd_zero]; rfl
    | 1 =>
      -- the call on the body `1 1` has no fuel
      rw [betaOrd_succ, visit_abs_bind hg hu, betaOrd_zero]; rfl
    | 2 =>
      -- the call on the body has fuel 1, its call on the operator `1` none
      rw [betaOrd_succ, visit_abs_bind hg hu, betaOrd_succ, visit_app_bind hg, betaOrd_zero]; rfl
    | f + 3 =>
      rw [if_pos (by omega)]
      exact betaOrd_nf (by cases o <;> first | rfl | cases hu) (by simp [height]) L c

/-- operator and operand are looked at, which takes fuel, and `Ω` is contracted to `Ω` -/
theorem ord_Om_succ (o : Order) (L f c : Nat) (h : c < L) :
    betaOrd o L (f+1) Om c = if omK o ≤ f then betaOrd o L f Om (c+1) else none := by
  have hg : gate L c = false := gate_eq_false.2 (by omega)
  have hb : budget L c = true := budget_eq_true.2 (by omega)
  rw [betaOrd_succ, visit_app_bind hg, ord_W o.head L f c hg, omK_eq]
  by_cases h1 : wK o.head ≤ f
  · rw [if_pos h1, Option.bind_some]
    cases he : o.eager with
    | false =>
      rw [callIf_false, Option.bind_some, finish_red hb, contract_W, if_pos (by simpa using h1)]
    | true =>
      rw [callIf_true, ord_W o L f c hg]
      by_cases h2 : wK o ≤ f
      · rw [if_pos h2, Option.bind_some, finish_red hb, contract_W, if_pos (by simp; omega)]
      · rw [if_neg h2, if_neg (by simp; omega)]; rfl
  · rw [if_neg h1, if_neg (by omega)]; rfl

/-- the exact behaviour of every traversal on `Ω` below the limit: it returns (with `Ω` and the
full count `L`) iff the fuel is at least the number of remaining contractions plus `omK o` -/
theorem ord_Om (o : Order) (L : Nat) : ∀ f c, c < L →
    betaOrd o L f Om c = if L - c + omK o ≤ f then some (Om, L) else none := by
  intro f
  have hk := omK_pos o
  induction f with
  | zero =>
    intro c _
    rw [betaOrd_zero, if_neg (by omega)]
  | succ f ih =>
    intro c hc
    rw [ord_Om_succ o L f c hc]
    by_cases hkf : omK o ≤ f
    · rw [if_pos hkf]
      by_cases hcl : c + 1 = L
      · obtain ⟨g, rfl⟩ : ∃ g, f = g + 1 := ⟨f - 1, by omega⟩
        rw [hcl, betaOrd_gate (gate_eq_true.2 ⟨by omega, rfl⟩) g.succ_pos, if_pos (by omega)]
      · rw [ih (c+1) (by omega)]
        by_cases hle : L - (c + 1) + omK o ≤ f
        · rw [if_pos hle, if_pos (by omega)]
        · rw [if_neg hle, if_neg (by omega)]
    · rw [if_neg hkf, if_neg (by omega)]

end FB
end Term
end LC
