/-
Relations between the redexes the orders select: NOR's redex lies on the head spine whenever a redex does; on
positions outside abstractions the order of HAP is that of CBV; the redex of APP (of CBV) is the first in
"inner before outer, left before right" among all redexes (among those outside abstractions).
-/
import LC.Proofs.PositionsHap

namespace LC
namespace Spec

/-- whenever the head spine contains a redex, NOR's redex is the outermost one on it -/
theorem isLMO_noArg_of_spine_redex {t : Term} {p q : Pos} (hp : isLMO t p) (hq : redexAt t q)
    (nq : noArg q) : noArg p ∧ ∃ s, q = p ++ s := by
  obtain ⟨p', s, hp', rfl⟩ := spine_redex_lmo t q hq nq
  have := isLMO_unique hp hp'
  subst this
  exact ⟨(noArg_append.1 nq).1, s, rfl⟩

/-- on positions outside abstractions HAP's order is CBV's -/
theorem cbvBefore_of_hapBefore {p q : Pos} (h : hapBefore p q) (wp : weak p) (wq : weak q) : cbvBefore p q := by
  induction h with
  | underB _ _ => exact absurd rfl (weak_cons.1 wp).1
  | inR _ ih => exact cbvBefore_cons.2 (Or.inr ⟨rfl, ih (weak_cons.1 wp).2 (weak_cons.1 wq).2⟩)
  | eagerL_R _ => exact cbvBefore_cons.2 (Or.inl ⟨rfl, rfl⟩)
  | eagerL_root _ => exact cbvBefore_nil_right.2 (List.cons_ne_nil _ _)
  | R_root => exact cbvBefore_nil_right.2 (List.cons_ne_nil _ _)
  | R_lateL nw => exact absurd (weak_cons.1 wq).2 nw
  | root_lateL nw => exact absurd (weak_cons.1 wq).2 nw
  | eager_late _ nw => exact absurd (weak_cons.1 wq).2 nw
  | eager_eager _ _ c => exact cbvBefore_cons.2 (Or.inr ⟨rfl, c⟩)
  | late_late nw _ _ _ => exact absurd (weak_cons.1 wp).2 nw

/-- what CBV's order puts after a position outside abstractions, HAP's order puts after it too -/
theorem hapBefore_of_cbvBefore {p q : Pos} (wp : weak p) (h : cbvBefore p q) : hapBefore p q := by
  induction p generalizing q with
  | nil => exact absurd h not_cbvBefore_nil_left
  | cons d p ih =>
    obtain ⟨hd, wp'⟩ := weak_cons.1 wp
    cases q with
    | nil =>
      cases d with
      | L => exact .eagerL_root wp'
      | R => exact .R_root
      | B => exact absurd rfl hd
    | cons e q =>
      rcases cbvBefore_cons.1 h with ⟨rfl, rfl⟩ | ⟨rfl, h'⟩
      · exact .eagerL_R wp'
      · cases d with
        | L =>
          by_cases wq : weak q
          · exact .eager_eager wp' wq h'
          · exact .eager_late wp' wq
        | R => exact .inR (ih wp' h')
        | B => exact absurd rfl hd

/-- APP's redex is the first redex in the order "inner before outer, left before right".  The converse of
`isLMI_of_first`; it goes through the selector (what `selApp` returns is first, and `isLMI` determines it), because
that a first redex exists at all is what the selector shows. -/
theorem isLMI_first {t : Term} {p : Pos} (h : isLMI t p) :
    redexAt t p ∧ ∀ q, redexAt t q → q = p ∨ cbvBefore p q :=
  (selApp_sound t).1 p ((sel_iff .APP t p).2 h)

theorem isLMIW_first {t : Term} {p : Pos} (h : isLMIW t p) :
    redexAt t p ∧ weak p ∧ ∀ q, redexAt t q → weak q → q = p ∨ cbvBefore p q :=
  (selCbv_sound t).1 p ((sel_iff .CBV t p).2 h)

end Spec
end LC
