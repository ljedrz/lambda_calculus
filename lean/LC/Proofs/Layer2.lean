/-
The three layers in which the encoded operations (C13–C16) are shown to compute what they should:

* layer 1: convergence `t ↠ n` of the application `t` of an operation to encoded arguments to the encoding `n` of the
  expected result, for ALL arguments: by induction for arbitrary (open) payloads (`Proofs/List/*`, the Scott operations
  of `Proofs/Num/ScottParigot.lean`); for the operations on numerals that terminate under HAP it is read off the HAP
  derivation of layer 3 (`Ev.computes`);
* layer 2 (this file): from `t ↠ n` with `n` normal to statements about the reducer itself —
  NOR and HNO with limit 0 return exactly `n`, termination included (via C07), and any of the four normalising orders,
  IF it returns, returns `n` (via C06: `C06_normalising_result` and the uniqueness of normal forms).  `Computes t n` packages these;
* layer 3: for HAP and APP termination is not implied by a general theorem; it is proved per operation, for all
  arguments, by a derivation in the big-step semantics of the eager traversals (`Proofs/Eager/*`, adequate for the
  model reducer by `Proofs/Eager/BigStep.lean`).  The kernel-evaluated grids of `Proofs/Grid.lean` cross-check the
  statements on a few small arguments.
-/
import LC.Props.C06
import LC.Props.C07
import LC.Proofs.Eager.BigStep

namespace LC
open Term Spec

/-- packaged: what a layer-1 convergence theorem yields about `reduce` -/
structure Computes (t n : Term) : Prop where
  conv : Star t n
  normal : isNormal n = true
  nor : ∃ fuel c, reduce .NOR 0 fuel t = some (n, c)
  hno : ∃ fuel c, reduce .HNO 0 fuel t = some (n, c)
  any : ∀ o, normalising o → ∀ fuel r c, reduce o 0 fuel t = some (r, c) → r = n

theorem computes_of_star {t n : Term} (h : Star t n) (hn : isNormal n = true) : Computes t n :=
  have hN := (isNormal_iff_normal n).1 hn
  { conv := h, normal := hn, nor := C07_nor t n h hN, hno := C07_hno t n h hN,
    any := fun o ho fuel r c hr =>
      have ⟨h1, h2⟩ := C06_normalising_result o ho fuel t r c hr
      normal_unique h1 h h2 hN }

/-- a derivation of an eager order that enters abstractions (HAP, APP) ends in a normal form that the term reduces to:
layer 3 gives layers 1 and 2 -/
theorem Ev.computes {o : Order} {t n : Term} (h : Ev o t n) (hu : o.under = true := by rfl)
    (he : o.eager = true := by rfl) : Computes t n :=
  computes_of_star (h.star he) (h.isNormal hu he)

end LC
