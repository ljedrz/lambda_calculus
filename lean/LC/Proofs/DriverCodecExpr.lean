/-
The line protocol of the driver carries values faithfully, part 3: expression trees (`ast`, `fold`).
-/
import LC.Proofs.DriverCodecMore

open LC LC.Term LC.Parser

namespace Drv

theorem decExprF_zero (ws : List String) : decExprF 0 ws = none := by
  unfold decExprF; rfl

theorem decExprF_nil (f : Nat) : decExprF f [] = none := by
  cases f <;> simp [decExprF]

theorem decExprF_cons (f : Nat) (w : String) (rest : List String) : decExprF (f+1) (w :: rest) =
    if w == "A" then some (.Abstraction, rest)
    else if w.startsWith "V" then do
      let i ← (w.drop 1).toString.toNat?
      pure (.Variable i, rest)
    else if w.startsWith "S" then do
      let n ← (w.drop 1).toString.toNat?
      let (es, rest') ← decExprsF f n rest
      pure (.Sequence es, rest')
    else none := by
  rw [decExprF]

theorem decExprsF_count_zero (f : Nat) (ts : List String) : decExprsF f 0 ts = some ([], ts) := by
  unfold decExprsF; rfl

theorem decExprsF_fuel_zero (n : Nat) (ts : List String) : decExprsF 0 (n+1) ts = none := by
  unfold decExprsF; rfl

theorem decExprsF_succ (f n : Nat) (ts : List String) : decExprsF (f+1) (n+1) ts =
    (do let (e, r) ← decExprF f ts
        let (more, r') ← decExprsF f n r
        pure (e :: more, r')) := by
  rw [decExprsF]

/-- what a successful call returns as the rest is a suffix of its input: the decoders consume a prefix (`decExprF` a
non-empty one) and never touch, reorder or invent the words after it -/
theorem decExprF_consumes_aux (f : Nat) :
    (∀ ws e r, decExprF f ws = some (e, r) → ∃ pre, pre ≠ [] ∧ ws = pre ++ r) ∧
    (∀ n ws es r, decExprsF f n ws = some (es, r) → ∃ pre, ws = pre ++ r) := by
  induction f with
  | zero =>
    refine ⟨fun ws e r h => by simp [decExprF_zero] at h, fun n ws es r h => ?_⟩
    cases n with
    | zero => simp [decExprsF_count_zero] at h; exact ⟨[], by simp [h.2]⟩
    | succ n => simp [decExprsF_fuel_zero] at h
  | succ f ih =>
    refine ⟨fun ws e r h => ?_, fun n ws es r h => ?_⟩
    · match ws with
      | [] => simp [decExprF_nil] at h
      | w :: rest =>
        rw [decExprF_cons] at h
        generalize (w.drop 1).toString.toNat? = on at h
        split at h
        · simp at h; exact ⟨[w], by simp, by simp [h.2]⟩
        · split at h
          · cases on with
            | none => simp at h
            | some i => simp at h; exact ⟨[w], by simp, by simp [h.2]⟩
          · split at h
            · simp only [Option.bind_eq_bind, Option.bind_eq_some_iff] at h
              obtain ⟨n, -, ⟨es, r'⟩, h2, h3⟩ := h
              cases h3
              obtain ⟨pre, hp⟩ := ih.2 _ _ _ _ h2
              exact ⟨w :: pre, by simp, by simp [hp]⟩
            · simp at h
    · cases n with
      | zero => simp [decExprsF_count_zero] at h; exact ⟨[], by simp [h.2]⟩
      | succ n =>
        simp only [decExprsF_succ, Option.bind_eq_bind, Option.bind_eq_some_iff] at h
        obtain ⟨⟨e, r1⟩, h1, ⟨more, r2⟩, h2, h3⟩ := h
        cases h3
        obtain ⟨p1, -, hp1⟩ := ih.1 _ _ _ h1
        obtain ⟨p2, (hp2 : r1 = p2 ++ r2)⟩ := ih.2 _ _ _ _ h2
        exact ⟨p1 ++ p2, by simp [hp1, hp2]⟩

theorem decExprF_length {f : Nat} {ws : List String} {e : Expression} {r : List String}
    (h : decExprF f ws = some (e, r)) : r.length < ws.length := by
  obtain ⟨pre, hne, rfl⟩ := (decExprF_consumes_aux f).1 _ _ _ h
  have := List.length_pos_iff.2 hne
  simp only [List.length_append]
  omega

theorem decExprsF_length {f n : Nat} {ws : List String} {es : List Expression} {r : List String}
    (h : decExprsF f n ws = some (es, r)) : r.length ≤ ws.length := by
  obtain ⟨pre, rfl⟩ := (decExprF_consumes_aux f).2 _ _ _ _ h
  simp

/-- fuel beyond `2·|ws|` (resp. `2·|ws| + 1`) changes nothing: each word costs one level of `decExprF` and one
of `decExprsF` -/
theorem decExprF_stable_aux (f : Nat) :
    (∀ ws f', 2 * ws.length ≤ f → f ≤ f' → decExprF f' ws = decExprF f ws) ∧
    (∀ n ws f', 2 * ws.length + 1 ≤ f → f ≤ f' → decExprsF f' n ws = decExprsF f n ws) := by
  induction f with
  | zero =>
    refine ⟨fun ws f' h _ => ?_, fun n ws f' h _ => by omega⟩
    have : ws = [] := List.eq_nil_of_length_eq_zero (by omega)
    subst this
    simp [decExprF_nil]
  | succ f ih =>
    refine ⟨fun ws f' h h' => ?_, fun n ws f' h h' => ?_⟩
    · obtain ⟨f'', rfl⟩ : ∃ f'', f' = f'' + 1 := ⟨f' - 1, by omega⟩
      match ws with
      | [] => simp [decExprF_nil]
      | w :: rest =>
        have key : ∀ n, decExprsF f'' n rest = decExprsF f n rest :=
          fun n => ih.2 n rest f'' (by simp at h; omega) (by omega)
        simp only [decExprF_cons, key]
    · obtain ⟨f'', rfl⟩ : ∃ f'', f' = f'' + 1 := ⟨f' - 1, by omega⟩
      cases n with
      | zero => simp [decExprsF_count_zero]
      | succ n =>
        rw [decExprsF_succ, decExprsF_succ, ih.1 ws f'' (by omega) (by omega)]
        cases h1 : decExprF f ws with
        | none => rfl
        | some p =>
          obtain ⟨e, r1⟩ := p
          have := decExprF_length h1
          simp only [Option.bind_eq_bind, Option.bind_some]
          rw [ih.2 n r1 f'' (by omega) (by omega)]

theorem decExpr_nil : decExpr [] = none := by
  simp [decExpr, decExprF_nil]

theorem decExpr_cons (w : String) (rest : List String) : decExpr (w :: rest) =
    if w == "A" then some (.Abstraction, rest)
    else if w.startsWith "V" then do
      let i ← (w.drop 1).toString.toNat?
      pure (.Variable i, rest)
    else if w.startsWith "S" then do
      let n ← (w.drop 1).toString.toNat?
      let (es, rest') ← decExprs n rest
      pure (.Sequence es, rest')
    else none := by
  have : 2 * (w :: rest).length = (2 * rest.length + 1) + 1 := by simp; omega
  rw [decExpr, this, decExprF_cons]
  rfl

theorem decExprs_zero (ts : List String) : decExprs 0 ts = some ([], ts) := by
  simp [decExprs, decExprsF_count_zero]

theorem decExprs_succ (n : Nat) (ts : List String) : decExprs (n+1) ts =
    (do let (e, r) ← decExpr ts
        let (more, r') ← decExprs n r
        pure (e :: more, r')) := by
  rw [decExprs, decExprsF_succ, decExpr]
  cases h1 : decExprF (2 * ts.length) ts with
  | none => rfl
  | some p =>
    obtain ⟨e, r1⟩ := p
    have := decExprF_length h1
    simp only [Option.bind_eq_bind, Option.bind_some]
    rw [decExprs, (decExprF_stable_aux (2 * r1.length + 1)).2 n r1 (2 * ts.length) (Nat.le_refl _) (by omega)]

theorem decExpr_A (rest : List String) : decExpr ("A" :: rest) = some (.Abstraction, rest) := by
  simp [decExpr_cons]

theorem decExpr_V (s : String) (rest : List String) :
    decExpr (("V" ++ s) :: rest) = s.toNat?.bind fun i => some (.Variable i, rest) := by
  have h1 : "V" ++ s ≠ "A" := fun h => by simpa using congrArg String.toList h
  rw [decExpr_cons]
  simp [h1]
  rw [← String.Slice.toNat?_copy, copy_drop_append _ _ _ (by decide)]

theorem decExpr_S (s : String) (rest : List String) :
    decExpr (("S" ++ s) :: rest) =
      (do let n ← s.toNat?
          let (es, rest') ← decExprs n rest
          pure (.Sequence es, rest')) := by
  have h1 : "S" ++ s ≠ "A" := fun h => by simpa using congrArg String.toList h
  rw [decExpr_cons]
  simp [h1]
  rw [← String.Slice.toNat?_copy, copy_drop_append _ _ _ (by decide)]

theorem exprsWords_eq (es : List Expression) : exprsWords es = (es.map exprWords).flatten := by
  induction es with
  | nil => simp [exprsWords]
  | cons e es ih => simp [exprsWords, ih]

theorem exprWords_ne_nil (e : Expression) : exprWords e ≠ [] := by
  cases e <;> simp [exprWords]

mutual
theorem decExpr_exprWords : ∀ (e : Expression) (rest : List String),
    decExpr (exprWords e ++ rest) = some (e, rest)
  | .Abstraction, rest => by simp [exprWords, decExpr_A]
  | .Variable i, rest => by
    show decExpr (("V" ++ toString i) :: rest) = _
    rw [decExpr_V, toNat?_toString]; rfl
  | .Sequence es, rest => by
    show decExpr (("S" ++ toString es.length) :: (exprsWords es ++ rest)) = _
    rw [decExpr_S, toNat?_toString]
    simp [decExprs_exprsWords es rest]
theorem decExprs_exprsWords : ∀ (es : List Expression) (rest : List String),
    decExprs es.length (exprsWords es ++ rest) = some (es, rest)
  | [], rest => by simp [exprsWords, decExprs_zero]
  | e :: es, rest => by
    simp [exprsWords, decExprs_succ, List.append_assoc, decExpr_exprWords e, decExprs_exprsWords es rest]
end

theorem showExpr_Sequence (es : List Expression) :
    showExpr (.Sequence es) = " ".intercalate (("S" ++ toString es.length) :: es.map showExpr) := by
  rw [showExpr]

mutual
theorem showExpr_eq : ∀ e : Expression, showExpr e = " ".intercalate (exprWords e)
  | .Abstraction => by simp [showExpr, exprWords]
  | .Variable i => by simp [showExpr, exprWords]
  | .Sequence es => by
    rw [showExpr_Sequence, map_showExpr_eq es, exprWords, exprsWords_eq]
    have := intercalate_flatten (ls := [("S" ++ toString es.length)] :: es.map exprWords) (by
      intro l hl
      rcases List.mem_cons.1 hl with rfl | hl
      · simp
      · obtain ⟨e, -, rfl⟩ := List.mem_map.1 hl
        exact exprWords_ne_nil e)
    simpa [Function.comp_def] using this
theorem map_showExpr_eq : ∀ es : List Expression,
    es.map showExpr = es.map (fun e => " ".intercalate (exprWords e))
  | [] => rfl
  | e :: es => by rw [List.map_cons, List.map_cons, showExpr_eq e, map_showExpr_eq es]
end

mutual
theorem exprWords_words : ∀ e : Expression, Words (exprWords e)
  | .Abstraction => lit_words
  | .Variable i => Words.append_right lit_words (not_mem_toString (by decide))
  | .Sequence es => by
    rw [exprWords]
    exact Words.cons (Words.append_right lit_words (not_mem_toString (by decide))) (exprsWords_words es)
theorem exprsWords_words : ∀ es : List Expression, Words (exprsWords es)
  | [] => by rw [exprsWords]; exact Words.nil
  | e :: es => by rw [exprsWords]; exact (exprWords_words e).append (exprsWords_words es)
end

theorem exprWords_inj {e e' : Expression} (h : exprWords e = exprWords e') : e = e' := by
  have e1 := decExpr_exprWords e []
  rw [h, decExpr_exprWords e' []] at e1
  simpa [eq_comm] using e1

theorem resAst_eq (r : Except ParseError Expression) : resAst r = " ".intercalate (resAstWords r) := by
  cases r with
  | ok e => exact (showExpr_eq e ▸ ok_line (exprWords_ne_nil e) :)
  | error e => exact showErr_eq e

end Drv
