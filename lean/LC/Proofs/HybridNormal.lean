/-
Normal order and hybrid normal order are normalising: they reach the β-normal form of every term that has one.
One theorem for both (`deep_normalises`): an order that completes the work of its `head` order (CBN for NOR, HSP for
HNO) in operator and operand is normalising if the `head` order terminates wherever it can (`cbn_terminates`,
`hsp_terminates`).
-/
import LC.Proofs.HeadSpine
import LC.Proofs.Confluence

namespace LC
open Term Spec

theorem Spec.Beta.neutral {t u : Term} (h : Beta t u) (hn : neutral t = true) : neutral u = true := by
  induction h with
  | red b a => simp [Spec.neutral] at hn
  | congAbs _ _ => simp [Spec.neutral] at hn
  | congAppL _ ih => simp only [Spec.neutral] at hn ⊢; exact ih hn
  | congAppR _ _ => simpa [Spec.neutral] using hn

/-- a neutral application has no root redex, so its reducts are applications of reducts -/
theorem Spec.Star.neutral_app_inv {l r n : Term} (hl : neutral l = true) (h : Star (Term.app l r) n) :
    ∃ l' r', n = Term.app l' r' ∧ Star l l' ∧ Star r r' ∧ neutral l' = true := by
  generalize ht : Term.app l r = t at h
  induction h generalizing l r with
  | refl _ => subst ht; exact ⟨l, r, rfl, Star.refl _, Star.refl _, hl⟩
  | head hb _ ih =>
    subst ht
    cases hb with
    | red b a => simp [Spec.neutral] at hl
    | congAppL hb' =>
      obtain ⟨l', r', rfl, h1, h2, h3⟩ := ih (hb'.neutral hl) rfl
      exact ⟨l', r', rfl, Star.head hb' h1, h2, h3⟩
    | congAppR hb' =>
      obtain ⟨l', r', rfl, h1, h2, h3⟩ := ih hl rfl
      exact ⟨l', r', rfl, h1, Star.head hb' h2, h3⟩

/-- a `deep` order that does not reduce operands first reaches the β-normal form `n` of `t`, provided its `head` order
terminates on every term from which a normal form of the `head` order is reachable.

Strong induction on the size of `n`.  `n` is normal for the `head` order, so the `head` order runs from `t` to a term
`H` that is normal for it, and these are steps of the order itself (`stepOrd_of_head`).  By confluence `H` still reduces
to `n`, and reductions from a `head`-normal `λb` or `x P₁ … P_k` are componentwise: the order reaches the smaller normal
forms of the components by the induction hypothesis, operator first. -/
theorem deep_normalises {o : Order} (hd : o.deep = true) (he : o.eager = false)
    (hterm : ∀ {t h : Term}, Star t h → stepOrd o.head h = none →
      ∃ k h', Iter (stepOrd o.head) k t h' ∧ stepOrd o.head h' = none)
    {t n : Term} (h : Star t n) (hn : Normal n) : ∃ k, Iter (stepOrd o) k t n := by
  have hu : o.under = true := by cases o <;> first | rfl | cases hd
  generalize hs : RL.size n = s
  induction s using Nat.strongRecOn generalizing t n with
  | _ s ih =>
    subst hs
    -- the phase of the `head` order
    obtain ⟨m, H, hrun, hH⟩ := hterm h (stepOrd_none_of_normal o.head hn)
    have hrun' : Iter (stepOrd o) m t H := hrun.map id (fun _ _ => stepOrd_of_head he)
    have hHn : Star H n := star_normal_of_star (Iter.steps o hrun').star h hn
    suffices ∃ k, Iter (stepOrd o) k H n by
      obtain ⟨k, hk⟩ := this
      exact ⟨m + k, hrun'.trans hk⟩
    -- the componentwise phase
    cases H with
    | var i => rw [hHn.var_inv]; exact ⟨0, Iter.zero _⟩
    | abs b =>
      obtain ⟨n', rfl, hb⟩ := hHn.abs_inv
      obtain ⟨k, hk⟩ := ih _ (by simp only [RL.size]; omega) hb hn.abs_inv rfl
      exact ⟨k, hk.ord_abs hu⟩
    | app l r =>
      have hl : neutral l = true := by
        obtain ⟨h1, _, h3, _⟩ := stepOrd_app_eq_none.1 hH
        rw [Order.head_head] at h1
        exact (neutral_iff_head_nf he).2 ⟨h1, h3⟩
      obtain ⟨l', r', rfl, h1, h2, _⟩ := hHn.neutral_app_inv hl
      obtain ⟨hnl, hnr⟩ := hn.app_inv
      obtain ⟨k1, hk1⟩ := ih _ (by simp only [RL.size]; omega) h1 hnl rfl
      obtain ⟨k2, hk2⟩ := ih _ (by simp only [RL.size]; omega) h2 hnr rfl
      obtain ⟨hL, hl'⟩ := hk1.ord_app_left_neutral hd he r hl
      have hl2 := ((neutral_iff_head_nf he).1 hl').2
      exact ⟨k1 + k2, hL.trans (hk2.ord_app_right hd he hl2 (stepOrd_none_of_normal o hnl))⟩

/-- the leftmost reduction theorem -/
theorem nor_normalises {t n : Term} (h : Star t n) (hn : Normal n) : ∃ k, Iter stepNor k t n :=
  deep_normalises (o := .NOR) rfl rfl (fun h hw => cbn_terminates h ((RL.stepCbn_none_iff _).1 hw)) h hn

theorem hno_normalises {t n : Term} (h : Star t n) (hn : Normal n) : ∃ k, Iter stepHno k t n :=
  deep_normalises (o := .HNO) rfl rfl (fun h hw => hsp_terminates h ((RL.stepHsp_none_iff _).1 hw)) h hn

end LC
