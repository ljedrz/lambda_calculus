/-
Church–Rosser (confluence of β-reduction) for the 1-based de Bruijn term language with the
inert constant `var 0`, by the Tait–Martin-Löf / Takahashi method: parallel reduction `Par`,
complete development `cd`, the triangle property, the diamond property, and transfer to `Star`.
Corollaries: uniqueness of normal forms, and every reduct of a normalising term reduces to
the normal form.
-/
import LC.Proofs.Beta

namespace LC
open Term

namespace Spec

/-- parallel β-reduction: contract any set of redexes already present in the term -/
inductive Par : Term → Term → Prop
  | var (n : Nat) : Par (var n) (var n)
  | abs {b b' : Term} : Par b b' → Par (abs b) (abs b')
  | app {l l' r r' : Term} : Par l l' → Par r r' → Par (app l r) (app l' r')
  | beta {b b' a a' : Term} : Par b b' → Par a a' → Par (app (abs b) a) (contract b' a')

theorem Par.refl (t : Term) : Par t t := by
  induction t with
  | var n => exact Par.var n
  | abs b ih => exact Par.abs ih
  | app l r ihl ihr => exact Par.app ihl ihr

theorem Par.of_beta {t u : Term} (h : Beta t u) : Par t u := by
  induction h with
  | red b a => rw [substTop_eq]; exact Par.beta (Par.refl b) (Par.refl a)
  | congAbs _ ih => exact Par.abs ih
  | congAppL _ ih => exact Par.app ih (Par.refl _)
  | congAppR _ ih => exact Par.app (Par.refl _) ih

theorem Par.star {t u : Term} (h : Par t u) : Star t u := by
  induction h with
  | var n => exact Star.refl _
  | abs _ ih => exact Star.congAbs ih
  | app _ _ ihl ihr => exact Star.congApp ihl ihr
  | @beta b b' a a' _ _ ihb iha =>
    exact (Star.congApp (Star.congAbs ihb) iha).trans (Star.redc b' a')

theorem Par.shift {t u : Term} (a o : Nat) (h : Par t u) : Par (shiftFV a o t) (shiftFV a o u) := by
  induction h generalizing o with
  | var n => exact Par.refl _
  | abs _ ih => simp only [shiftFV]; exact Par.abs (ih (o+1))
  | app _ _ ihl ihr => simp only [shiftFV]; exact Par.app (ihl o) (ihr o)
  | beta _ _ ihb iha =>
    simp only [shiftFV, shiftFV_contract]; exact Par.beta (ihb (o+1)) (iha o)

theorem Par.subst {t t' s s' : Term} (h : Par t t') (hs : Par s s') (e : Nat) (he : 1 ≤ e) :
    Par (applyAux s e t) (applyAux s' e t') := by
  induction h generalizing e with
  | var n =>
    simp only [applyAux]
    split
    · exact hs.shift _ _
    · split <;> exact Par.refl _
  | abs _ ih => simp only [applyAux]; exact Par.abs (ih (e+1) (by omega))
  | app _ _ ihl ihr => simp only [applyAux]; exact Par.app (ihl e he) (ihr e he)
  | beta _ _ ihb iha =>
    simp only [applyAux, applyAux_contract _ _ he]
    exact Par.beta (ihb (e+1) (by omega)) (iha e he)

theorem Par.contract {b b' a a' : Term} (hb : Par b b') (ha : Par a a') :
    Par (contract b a) (contract b' a') :=
  Par.subst hb ha 1 (by omega)

/-- complete development: contract all redexes present in the term, simultaneously -/
def cd : Term → Term
  | var n => var n
  | abs b => abs (cd b)
  | app (abs b) a => contract (cd b) (cd a)
  | app (var n) r => app (var n) (cd r)
  | app (app l1 l2) r => app (cd (app l1 l2)) (cd r)

theorem Par.abs_inv {b u : Term} (h : Par (Term.abs b) u) : ∃ b', u = Term.abs b' ∧ Par b b' := by
  cases h with
  | abs hb => exact ⟨_, rfl, hb⟩

theorem Par.triangle {t u : Term} (h : Par t u) : Par u (cd t) := by
  induction h with
  | var n => exact Par.var n
  | abs _ ih => simp only [cd]; exact Par.abs ih
  | @app l l' r r' hl hr ihl ihr =>
    cases l with
    | var n =>
      cases hl
      simp only [cd]; exact Par.app (Par.var n) ihr
    | abs b =>
      obtain ⟨b', rfl, _⟩ := hl.abs_inv
      simp only [cd] at ihl ⊢
      obtain ⟨c, hc, hbc⟩ := ihl.abs_inv
      cases hc
      exact Par.beta hbc ihr
    | app l1 l2 => simp only [cd]; exact Par.app ihl ihr
  | beta _ _ ihb iha => simp only [cd]; exact Par.contract ihb iha

theorem Par.diamond {t u v : Term} (h1 : Par t u) (h2 : Par t v) : ∃ w, Par u w ∧ Par v w :=
  ⟨cd t, h1.triangle, h2.triangle⟩

inductive ParStar : Term → Term → Prop
  | refl (t : Term) : ParStar t t
  | head {t u v : Term} : Par t u → ParStar u v → ParStar t v

theorem ParStar.trans {t u v : Term} (h1 : ParStar t u) (h2 : ParStar u v) : ParStar t v := by
  induction h1 with
  | refl _ => exact h2
  | head hp _ ih => exact ParStar.head hp (ih h2)

theorem ParStar.star {t u : Term} (h : ParStar t u) : Star t u := by
  induction h with
  | refl _ => exact Star.refl _
  | head hp _ ih => exact hp.star.trans ih

theorem ParStar.of_star {t u : Term} (h : Star t u) : ParStar t u := by
  induction h with
  | refl _ => exact ParStar.refl _
  | head hb _ ih => exact ParStar.head (Par.of_beta hb) ih

theorem Par.strip {t u v : Term} (h1 : Par t u) (h2 : ParStar t v) :
    ∃ w, ParStar u w ∧ Par v w := by
  induction h2 generalizing u with
  | refl t => exact ⟨u, ParStar.refl _, h1⟩
  | head hp _ ih =>
    obtain ⟨x, hux, hx⟩ := h1.diamond hp
    obtain ⟨w, hxw, hvw⟩ := ih hx
    exact ⟨w, ParStar.head hux hxw, hvw⟩

theorem ParStar.confluence {t u v : Term} (h1 : ParStar t u) (h2 : ParStar t v) :
    ∃ w, ParStar u w ∧ ParStar v w := by
  induction h1 generalizing v with
  | refl t => exact ⟨v, h2, ParStar.refl _⟩
  | head hp _ ih =>
    obtain ⟨x, hx1, hx2⟩ := hp.strip h2
    obtain ⟨w, hw1, hw2⟩ := ih hx1
    exact ⟨w, hw1, ParStar.head hx2 hw2⟩

theorem church_rosser {t u v : Term} (h1 : Star t u) (h2 : Star t v) : ∃ w, Star u w ∧ Star v w := by
  obtain ⟨w, hw1, hw2⟩ := (ParStar.of_star h1).confluence (ParStar.of_star h2)
  exact ⟨w, hw1.star, hw2.star⟩

theorem Star.eq_of_normal {n w : Term} (h : Star n w) (hn : Normal n) : w = n := by
  cases h with
  | refl _ => rfl
  | head hb _ => exact absurd hb (hn _)

theorem star_normal_of_star {t u n : Term} (h1 : Star t u) (h2 : Star t n) (hn : Normal n) : Star u n := by
  obtain ⟨w, hw1, hw2⟩ := church_rosser h1 h2
  rw [hw2.eq_of_normal hn] at hw1
  exact hw1

theorem normal_unique {t n1 n2 : Term} (h1 : Star t n1) (h2 : Star t n2) (hn1 : Normal n1) (hn2 : Normal n2) : n1 = n2 :=
  ((star_normal_of_star h1 h2 hn2).eq_of_normal hn1).symm

end Spec
end LC
