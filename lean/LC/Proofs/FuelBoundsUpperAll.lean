/-
Upper bound on the fuel (call depth) of a traversal, for the property file C04Fuel: a call that returns `k` contractions later with SOME fuel, all iterates of height ≤ `H`, returns
with any fuel ≥ `k + H + 1` (`betaOrd_fuel`, `reduce_fuel`; from `betaOrd_run`).  `heightsOK` is a
checker for the hypothesis on the heights, for the examples.
-/
import LC.Proofs.Complete.All

namespace LC
namespace Term

theorem betaOrd_fuel (o : Order) (L fuel : Nat) (t : Term) (c : Nat) (t' : Term) (k : Nat)
    (h : betaOrd o L fuel t c = some (t', c + k)) (hc : L = 0 ∨ c ≤ L) (H : Nat)
    (hb : Iter.All (height · ≤ H) (stepOrd o) k t) (g : Nat) (hg : k + H + 1 ≤ g) :
    betaOrd o L g t c = some (t', c + k) := by
  obtain ⟨k', e, it, hle, hnf⟩ := betaOrd_sound o L fuel t c t' (c + k) h hc
  obtain rfl : k = k' := by omega
  exact betaOrd_run it (by omega) hnf hb hg

theorem reduce_fuel (o : Order) (L fuel : Nat) (t t' : Term) (k : Nat)
    (h : reduce o L fuel t = some (t', k)) (H : Nat) (hb : Iter.All (height · ≤ H) (stepOrd o) k t)
    (g : Nat) (hg : k + H + 1 ≤ g) : reduce o L g t = some (t', k) := by
  have := betaOrd_fuel o L fuel t 0 t' k (by simpa [reduce] using h) (by omega) H hb g hg
  simpa [reduce] using this

def heightsOK (step : Term → Option Term) (H : Nat) : Nat → Term → Bool
  | 0, t => decide (height t ≤ H)
  | k+1, t => decide (height t ≤ H) &&
    (match step t with
     | none => true
     | some u => heightsOK step H k u)

theorem heightsOK_sound {step : Term → Option Term} {H k : Nat} {t : Term}
    (h : heightsOK step H k t = true) : ∀ j ≤ k, ∀ u, Iter step j t u → height u ≤ H := by
  suffices h : Iter.All (height · ≤ H) step k t from fun j hj u it => h j u hj it
  induction k generalizing t with
  | zero => exact .zero (by simpa [heightsOK] using h)
  | succ k ih =>
    simp only [heightsOK, Bool.and_eq_true, decide_eq_true_eq] at h
    cases hs : step t with
    | none => exact .of_none h.1 hs
    | some u =>
      rw [hs] at h
      exact .succ h.1 hs (ih h.2)

end Term
end LC
