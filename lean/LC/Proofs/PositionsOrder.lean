/-
`hapBefore` (`LC/Spec/SelectionAll.lean`) is a STRICT TOTAL ORDER on the
redex positions of a term: irreflexive / asymmetric (`hapBefore_asymm`, PositionsHap.lean), TRANSITIVE (on all
positions, no side condition) and TRICHOTOMOUS on distinct redex positions of one term.  Hence `isHAP t p` — "p is a
redex and `hapBefore` every other redex" — is literally "p is the minimum of the redex positions".
Likewise `cbvBefore` (transitive; trichotomous on weak positions).
-/
import LC.Proofs.PositionsHap

namespace LC
namespace Spec

theorem cbvBefore_trans {p q r : Pos} : cbvBefore p q → cbvBefore q r → cbvBefore p r := by
  induction p generalizing q r with
  | nil => intro h; exact absurd h not_cbvBefore_nil_left
  | cons d p ih =>
    cases q with
    | nil => intro _ h; exact absurd h not_cbvBefore_nil_left
    | cons e q =>
      cases r with
      | nil => intro _ _; exact cbvBefore_nil_right.2 (by simp)
      | cons g r =>
        rw [cbvBefore_cons, cbvBefore_cons, cbvBefore_cons]
        rintro (⟨rfl, rfl⟩ | ⟨rfl, h⟩) (⟨h1, h2⟩ | ⟨rfl, h'⟩)
        · cases h1
        · exact Or.inl ⟨rfl, rfl⟩
        · exact Or.inl ⟨h1, h2⟩
        · exact Or.inr ⟨rfl, ih h h'⟩

/-- `cbvBefore` is trichotomous on weak positions (no `B`): two distinct ones are nested or diverge at an
application -/
theorem cbvBefore_total {p q : Pos} (wp : weak p) (wq : weak q) (hne : p ≠ q) :
    cbvBefore p q ∨ cbvBefore q p := by
  induction p generalizing q with
  | nil => exact Or.inr (cbvBefore_nil_right.2 (fun h => hne h.symm))
  | cons d p ih =>
    cases q with
    | nil => exact Or.inl (cbvBefore_nil_right.2 (by simp))
    | cons e q =>
      obtain ⟨hd, wp'⟩ := weak_cons.1 wp
      obtain ⟨he, wq'⟩ := weak_cons.1 wq
      rw [cbvBefore_cons, cbvBefore_cons]
      by_cases hde : d = e
      · subst hde
        rcases ih wp' wq' (fun h => hne (by rw [h])) with h | h
        · exact Or.inl (Or.inr ⟨rfl, h⟩)
        · exact Or.inr (Or.inr ⟨rfl, h⟩)
      · -- two different first steps outside abstractions are `L` and `R`, one way or the other
        cases d with
        | B => exact absurd rfl hd
        | L =>
          cases e with
          | B => exact absurd rfl he
          | L => exact absurd rfl hde
          | R => exact Or.inl (Or.inl ⟨rfl, rfl⟩)
        | R =>
          cases e with
          | B => exact absurd rfl he
          | L => exact Or.inr (Or.inl ⟨rfl, rfl⟩)
          | R => exact absurd rfl hde

theorem hapBefore_trans {p q r : Pos} (h1 : hapBefore p q) (h2 : hapBefore q r) : hapBefore p r := by
  induction h1 generalizing r with
  | underB _ ih => cases h2 with | underB h => exact .underB (ih h)
  | inR _ ih =>
    cases h2 with
    | inR h => exact .inR (ih h)
    | R_root => exact .R_root
    | R_lateL nw => exact .R_lateL nw
  | eagerL_R w =>
    cases h2 with
    | inR _ => exact .eagerL_R w
    | R_root => exact .eagerL_root w
    | R_lateL nw => exact .eager_late w nw
  | eagerL_root w => cases h2 with | root_lateL nw => exact .eager_late w nw
  | R_root => cases h2 with | root_lateL nw => exact .R_lateL nw
  | R_lateL nw =>
    cases h2 with
    | eagerL_R w => exact absurd w nw
    | eagerL_root w => exact absurd w nw
    | eager_late w _ => exact absurd w nw
    | eager_eager w _ _ => exact absurd w nw
    | late_late _ nwr _ => exact .R_lateL nwr
  | root_lateL nw =>
    cases h2 with
    | eagerL_R w => exact absurd w nw
    | eagerL_root w => exact absurd w nw
    | eager_late w _ => exact absurd w nw
    | eager_eager w _ _ => exact absurd w nw
    | late_late _ nwr _ => exact .root_lateL nwr
  | eager_late wp nwq =>
    cases h2 with
    | eagerL_R w => exact absurd w nwq
    | eagerL_root w => exact absurd w nwq
    | eager_late w _ => exact absurd w nwq
    | eager_eager w _ _ => exact absurd w nwq
    | late_late _ nwr _ => exact .eager_late wp nwr
  | eager_eager wp wq c =>
    cases h2 with
    | eagerL_R _ => exact .eagerL_R wp
    | eagerL_root _ => exact .eagerL_root wp
    | eager_late _ nwr => exact .eager_late wp nwr
    | eager_eager _ wr c' => exact .eager_eager wp wr (cbvBefore_trans c c')
    | late_late nwq _ _ => exact absurd wq nwq
  | late_late nwp nwq _ ih =>
    cases h2 with
    | eagerL_R w => exact absurd w nwq
    | eagerL_root w => exact absurd w nwq
    | eager_late w _ => exact absurd w nwq
    | eager_eager w _ _ => exact absurd w nwq
    | late_late _ nwr h => exact .late_late nwp nwr (ih h)

theorem hapBefore_irrefl (p : Pos) : ¬ hapBefore p p := fun h => hapBefore_asymm h h

/-- `hapBefore` is trichotomous on the redex positions of a term: two distinct redex positions of the same term are
related one way or the other -/
theorem hapBefore_total (t : Term) :
    ∀ p q, redexAt t p → redexAt t q → p ≠ q → hapBefore p q ∨ hapBefore q p := by
  induction t with
  | var n => intro p q hp; exact absurd hp redexAt_var
  | abs b ih =>
    intro p q hp hq hne
    obtain ⟨p', rfl, hp'⟩ := redexAt_abs_iff.1 hp
    obtain ⟨q', rfl, hq'⟩ := redexAt_abs_iff.1 hq
    rcases ih p' q' hp' hq' (fun h => hne (by rw [h])) with h | h
    · exact Or.inl (.underB h)
    · exact Or.inr (.underB h)
  | app l r ihl ihr =>
    intro p q hp hq hne
    rcases redexAt_app_iff.1 hp with ⟨rfl, _⟩ | ⟨p, rfl, hp⟩ | ⟨p, rfl, hp⟩ <;>
      rcases redexAt_app_iff.1 hq with ⟨rfl, _⟩ | ⟨q, rfl, hq⟩ | ⟨q, rfl, hq⟩
    · exact absurd rfl hne
    · by_cases wq : weak q
      · exact Or.inr (.eagerL_root wq)
      · exact Or.inl (.root_lateL wq)
    · exact Or.inr .R_root
    · by_cases wp : weak p
      · exact Or.inl (.eagerL_root wp)
      · exact Or.inr (.root_lateL wp)
    · have hne' : p ≠ q := fun h => hne (by rw [h])
      by_cases wp : weak p <;> by_cases wq : weak q
      · rcases cbvBefore_total wp wq hne' with h | h
        · exact Or.inl (.eager_eager wp wq h)
        · exact Or.inr (.eager_eager wq wp h)
      · exact Or.inl (.eager_late wp wq)
      · exact Or.inr (.eager_late wq wp)
      · rcases ihl p q hp hq hne' with h | h
        · exact Or.inl (.late_late wp wq h)
        · exact Or.inr (.late_late wq wp h)
    · by_cases wp : weak p
      · exact Or.inl (.eagerL_R wp)
      · exact Or.inr (.R_lateL wp)
    · exact Or.inl .R_root
    · by_cases wq : weak q
      · exact Or.inr (.eagerL_R wq)
      · exact Or.inl (.R_lateL wq)
    · rcases ihr p q hp hq (fun h => hne (by rw [h])) with h | h
      · exact Or.inl (.inR h)
      · exact Or.inr (.inR h)

/-- `isHAP t p` ⇔ `p` is a MINIMAL redex position: a redex that no redex precedes -/
theorem isHAP_iff_minimal {t : Term} {p : Pos} :
    isHAP t p ↔ redexAt t p ∧ ∀ q, redexAt t q → ¬ hapBefore q p := by
  constructor
  · rintro ⟨hp, h⟩
    refine ⟨hp, fun q hq hqp => ?_⟩
    rcases h q hq with rfl | h'
    · exact hapBefore_irrefl _ hqp
    · exact hapBefore_asymm h' hqp
  · rintro ⟨hp, h⟩
    refine ⟨hp, fun q hq => ?_⟩
    by_cases hqp : q = p
    · exact Or.inl hqp
    · rcases hapBefore_total t p q hp hq (fun e => hqp e.symm) with h' | h'
      · exact Or.inr h'
      · exact absurd h' (h q hq)

theorem isHAP_exists {t : Term} {q : Pos} (hq : redexAt t q) : ∃ p, isHAP t p := by
  cases hs : selHap t with
  | none => exact absurd hq ((selHap_sound t).2 hs q)
  | some p => exact ⟨p, (selHap_sound t).1 p hs⟩

end Spec
end LC
