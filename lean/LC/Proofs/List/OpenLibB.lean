/-
C16 — layer 1 of the pair-list library on lists of ARBITRARY (open) terms, part B:
`foldr` (its functional depends on the arbitrary `f`, `a`: open fixed-point unfolding), and the functions involving Church
numerals `length take drop replicate index list`.  Same conventions as part A (`ocell`, `opl`).
-/
import LC.Proofs.List.OpenLibA
import LC.Proofs.Eager.Church

namespace LC
open Term Spec Enc ListMore OpenLib PairLib Eager

namespace OpenLib

/-! ### the fixed-point combinator on an ARBITRARY (open) functional -/

def ZWo (g : Term) : Term := abs (app (shiftFV 1 0 g) (abs (app2 (var 2) (var 2) (var 1))))
def ZFo (g : Term) : Term := app (ZWo g) (ZWo g)

theorem Z_unfold_open (g : Term) : app Gen.Comb.Z g ↠ ZFo g := by
  lc_beta; exact Star.refl _

theorem ZFo_unfold (g : Term) : ZFo g ↠ app g (abs (app (shiftFV 1 0 (ZFo g)) (var 1))) := by
  show app (ZWo g) (ZWo g) ↠ _
  rw [show ZWo g = abs (app (shiftFV 1 0 g) (abs (app2 (var 2) (var 2) (var 1)))) from rfl]
  lc_beta
  exact Star.refl _

theorem ZFo_stub (x v : Term) : app (abs (app (shiftFV 1 0 x) (var 1))) v ↠ app x v := by
  lc_beta; exact Star.refl _

theorem ZFo_closed {g : Term} (h : Closed g) : ZFo g = ZF g := by
  simp only [ZFo, ZWo, ZF, ZW, shiftFV_closed 1 0 h]

def foldrGo (f a : Term) : Term :=
  abs (abs (app4 Gen.PList.is_nil (var 1) (abs (shiftFV 3 0 a))
    (abs (app2 (shiftFV 3 0 f) (app Gen.PList.head (var 2)) (app (var 3) (app Gen.PList.tail (var 2))))) Gen.Comb.I))

/-- the reading of `foldrGo f a` when `f`, `a` are the first two arguments of a law -/
theorem _root_.LC.PInst.foldrGo (f a : Term) (xs : List Term) :
    PInst (f :: a :: xs) 0
      (abs (abs (app4 Gen.PList.is_nil (var 1) (abs (var 5))
        (abs (app2 (var 4) (app Gen.PList.head (var 2)) (app (var 3) (app Gen.PList.tail (var 2))))) Gen.Comb.I)))
      (foldrGo f a) :=
  .abs (.abs (.app (.app₃ .c .bv (.abs .s1) (.abs (.app₂ .s0 (.app .c .bv) (.app .bv (.app .c .bv))))) .c))

theorem foldr_unfold_open (f a l : Term) :
    app3 Gen.PList.foldr f a l ↠ app (ZFo (foldrGo f a)) l :=
  (norR 3 [f, a, l] (.app₃ .c .p0 .p1 .p2) (.app₂ .c (.foldrGo f a _) .p2) (by decide)).trans
    (Star.congAppL _ (Z_unfold_open _))

theorem foldrGo_nil (f a z : Term) : app2 (foldrGo f a) z (pairList []) ↠ a :=
  norR 40 [f, a, z] (.app₂ (.foldrGo f a _) .p2 .c) .p1 (by decide +kernel)

theorem foldrGo_cons (f a z t l : Term) : app2 (foldrGo f a) z (ocell t l) ↠ app2 f t (app z l) :=
  norR 40 [f, a, z, t, l] (.app₂ (.foldrGo f a _) .p2 (.cell .s3 .s4)) (.app₂ .p0 .p3 (.app .p2 .p4)) (by decide +kernel)

end OpenLib

theorem plist_foldr_open (f a : Term) (xs : List Term) :
    app3 Gen.PList.foldr f a (opl xs) ↠ xs.foldr (fun x acc => app2 f x acc) a := by
  lc_trans (foldr_unfold_open f a _)
  induction xs with
  | nil => lc_head (ZFo_unfold _); exact foldrGo_nil f a _
  | cons t ts ih =>
    rw [opl_cons]
    lc_head (ZFo_unfold _); lc_trans (foldrGo_cons f a _ t _)
    exact Star.congAppR _ ((ZFo_stub _ _).trans ih)

namespace OpenLib

theorem pred_succ (n : Nat) : app Gen.Church.pred (intoChurch (n + 1)) ↠ intoChurch n :=
  (church_pred_hap (n + 1)).star

/-! ### take, drop, replicate: the recursion equations for an ARBITRARY count `n` (as in part A), then the numerals -/

theorem take_nil (n : Term) : app2 (ZF takeF) n (pairList []) ↠ pairList [] :=
  norR 40 [n] (.app₂ .c .p0 .c) .c (by decide +kernel)

/-- the run stops where `IS_ZERO n`, `PRED n` are still calls (their bodies are not wanted on an arbitrary `n`) -/
theorem takeF_cons (z n t l : Term) :
    app3 takeF z n (ocell t l) ↠
      app2 (app Gen.Church.is_zero n) (pairList []) (ocell t (app2 z (app Gen.Church.pred n) l)) :=
  (norR 11 [z, n, t, l] (.app₃ .c .p0 .p1 (.cell .s2 .s3))
    (.app₂ (.app .c .p1) .c (.app₂ .c (.app .c (.cell .s2 .s3)) (.app₂ .p0 (.app .c .p1) (.app .c (.cell .s2 .s3)))))
    (by decide +kernel)).trans
  (Star.congAppR _ ((Star.congApp (Star.congAppR _ (head_tuple2 t _)) (Star.congAppR _ (tail_tuple2 _ l))).trans
    (cons_pair_any _ _)))

theorem take_ZF (n : Nat) (xs : List Term) :
    app2 (ZF takeF) (intoChurch n) (opl xs) ↠ opl (xs.take n) := by
  induction xs generalizing n with
  | nil => rw [List.take_nil]; exact take_nil _
  | cons x xs ih =>
    rw [opl_cons]
    lc_head (ZF_app closed_takeF _); lc_trans (takeF_cons _ _ _ _)
    lc_head (church_is_zero_hap n).star
    cases n with
    | zero => exact tru_elim _ _
    | succ n =>
      lc_trans (fls_elim _ _)
      rw [List.take_succ_cons, opl_cons]
      exact ocell_cong (Star.refl _)
        (stub_star2 closed_takeF ((Star.congAppL _ (Star.congAppR _ (pred_succ n))).trans (ih n)))

theorem drop_nil (n : Term) : app2 (ZF dropF) n (pairList []) ↠ pairList [] :=
  norR 40 [n] (.app₂ .c .p0 .c) .c (by decide +kernel)

theorem dropF_cons (z n t l : Term) :
    app3 dropF z n (ocell t l) ↠ app2 (app Gen.Church.is_zero n) (ocell t l) (app2 z (app Gen.Church.pred n) l) :=
  (norR 11 [z, n, t, l] (.app₃ .c .p0 .p1 (.cell .s2 .s3))
    (.app₂ (.app .c .p1) (.cell .s2 .s3) (.app₂ .p0 (.app .c .p1) (.app .c (.cell .s2 .s3)))) (by decide +kernel)).trans
  (Star.congAppR _ (Star.congAppR _ (tail_tuple2 _ l)))

theorem drop_ZF (n : Nat) (xs : List Term) :
    app2 (ZF dropF) (intoChurch n) (opl xs) ↠ opl (xs.drop n) := by
  induction xs generalizing n with
  | nil => rw [List.drop_nil]; exact drop_nil _
  | cons x xs ih =>
    rw [opl_cons]
    lc_head (ZF_app closed_dropF _); lc_trans (dropF_cons _ _ _ _)
    lc_head (church_is_zero_hap n).star
    cases n with
    | zero => rw [List.drop_zero, opl_cons]; exact tru_elim _ _
    | succ n =>
      lc_trans (fls_elim _ _)
      exact stub_star2 closed_dropF ((Star.congAppL _ (Star.congAppR _ (pred_succ n))).trans (ih n))

/-- `REPLICATE n y`: both branches are thunks `λx. …` forced with `I` -/
theorem replicate_unfold (n y : Term) :
    app2 (ZF replicateF) n y ↠
      app3 (app Gen.Church.is_zero n) (abs (pairList []))
        (abs (app2 Gen.Pair.pair (shiftFV 1 0 y)
          (app2 (stub replicateF) (app Gen.Church.pred (shiftFV 1 0 n)) (shiftFV 1 0 y)))) Gen.Comb.I :=
  norR 4 [n, y] (.app₂ .c .p0 .p1)
    (.app₃ (.app .c .p0) (.abs .c) (.abs (.app₂ .c .s1 (.app₂ .c (.app .c .s0) .s1))) .c) (by decide +kernel)

theorem replicate_ZF (n : Nat) (y : Term) :
    app2 (ZF replicateF) (intoChurch n) y ↠ opl (List.replicate n y) := by
  induction n with
  | zero =>
    lc_trans (replicate_unfold _ _)
    lc_head (church_is_zero_hap 0).star; lc_head (tru_elim _ _); lc_beta; exact Star.refl _
  | succ n ih =>
    lc_trans (replicate_unfold _ _)
    lc_head (church_is_zero_hap (n + 1)).star; lc_head (fls_elim _ _); lc_beta
    rw [List.replicate_succ, opl_cons]
    lc_trans (Star.congAppR _ ((Star.congApp (ZF_stub closed_replicateF _) (Star.refl _)).trans
      ((Star.congAppL _ (Star.congAppR _ (pred_succ n))).trans ih)))
    exact pair_mk_open _ _

theorem iter_tail (n : Nat) (xs : List Term) (hn : n ≤ xs.length) :
    iterApp Gen.PList.tail (opl xs) n ↠ opl (xs.drop n) := by
  induction n generalizing xs with
  | zero => exact Star.refl _
  | succ n ih =>
    cases xs with
    | nil => simp at hn
    | cons x xs =>
      rw [iterApp_succ', opl_cons]
      lc_trans (Star.iterApp (Star.refl _) (tail_tuple2 _ _) n)
      exact ih xs (by simpa using hn)

theorem listG_step (f x : Term) (ys : List Term) :
    app3 listG f (opl ys) x ↠ app f (opl (x :: ys)) :=
  (norR 3 [f, opl ys, x] (.app₃ .c .p0 .p1 .p2) (.app .p0 (.app₂ .c .p2 .p1)) (by decide)).trans
    (Star.congAppR _ (cons_pairList_open x ys))

theorem list_acc (xs ys : List Term) :
    xs.foldl (fun acc x => app acc x) (app (iterApp listG Gen.PList.reverse xs.length) (opl ys)) ↠
      opl (ys.reverse ++ xs) := by
  induction xs generalizing ys with
  | nil => simpa using plist_reverse_open ys
  | cons x xs ih =>
    rw [List.length_cons, iterApp_succ, List.foldl_cons]
    lc_trans (C17.star_foldl (listG_step _ x ys) xs)
    have h := ih (x :: ys)
    rw [List.reverse_cons, List.append_assoc] at h
    exact h

end OpenLib

theorem plist_take_open (n : Nat) (xs : List Term) :
    app2 Gen.PList.take (intoChurch n) (opl xs) ↠ opl (xs.take n) := by
  rw [take_eq]; lc_head (Z_unfold closed_takeF); exact take_ZF n xs

theorem plist_drop_open (n : Nat) (xs : List Term) :
    app2 Gen.PList.drop (intoChurch n) (opl xs) ↠ opl (xs.drop n) := by
  rw [drop_eq]; lc_head (Z_unfold closed_dropF); exact drop_ZF n xs

theorem plist_replicate_open (n : Nat) (y : Term) :
    app2 Gen.PList.replicate (intoChurch n) y ↠ opl (List.replicate n y) := by
  rw [replicate_eq]; lc_head (Z_unfold closed_replicateF); exact replicate_ZF n y

theorem plist_index_open (xs : List Term) (n : Nat) (hn : n < xs.length) :
    app2 Gen.PList.index (intoChurch n) (opl xs) ↠ xs[n] := by
  have h : app2 Gen.PList.index (intoChurch n) (opl xs) ↠ app Gen.PList.head (app2 (intoChurch n) Gen.PList.tail (opl xs)) :=
    norR 2 [intoChurch n, opl xs] (.app₂ .c .p0 .p1) (.app .c (.app₂ .p0 .c .p1)) (by decide)
  lc_trans h
  lc_trans (Star.congAppR _ ((church_elim n _ _).trans (iter_tail n xs (Nat.le_of_lt hn))))
  rw [List.drop_eq_getElem_cons hn, opl_cons]
  exact head_tuple2 _ _

theorem plist_list_open (xs : List Term) :
    (xs.foldl (fun acc x => app acc x) (app Gen.PList.list (intoChurch xs.length))) ↠ opl xs := by
  have h1 : app Gen.PList.list (intoChurch xs.length) ↠
      app (iterApp listG Gen.PList.reverse xs.length) (pairList []) := by
    rw [list_eq]; lc_beta; lc_head (church_elim _ _ _); exact Star.refl _
  lc_trans (C17.star_foldl h1 xs)
  have h := list_acc xs []
  rw [opl_nil] at h
  simpa using h

/-! ## `length` on the RAW conversion of ANY list: no hypothesis on the elements at all

(the elements are never inspected; a `tail` substitutes into the remaining cells, which stay a conversion of the same
length: `applyAux_pairList`) -/

namespace OpenLib

theorem applyAux_pairList (r : Term) (d : Nat) (hd : 1 ≤ d) (ts : List Term) :
    ∃ ts', ts'.length = ts.length ∧ applyAux r d (pairList ts) = pairList ts' := by
  induction ts generalizing d with
  | nil =>
    refine ⟨[], rfl, ?_⟩
    have h1 : ¬ 1 = d + 1 + 1 := by omega
    have h2 : ¬ 1 > d + 1 + 1 := by omega
    simp only [pairList, applyAux, h1, h2, if_false]
  | cons t ts ih =>
    obtain ⟨ts', hl, he⟩ := ih (d + 1) (by omega)
    refine ⟨applyAux r (d + 1) t :: ts', by simp [hl], ?_⟩
    have h1 : ¬ 1 = d + 1 := by omega
    have h2 : ¬ 1 > d + 1 := by omega
    simp only [pairList, applyAux, h1, h2, if_false, he]

theorem tail_rawcell (t l : Term) : app Gen.PList.tail (tuple2 t l) ↠ applyAux Gen.Bool.fls 1 l := by
  unfold tuple2
  lc_beta
  lc_head (Star.redc _ _)
  simp only [contract, applyAux, if_true, Nat.sub_self, shiftFV_zero]
  exact fls_elim _ _

/-- the equation of `LENGTH` for an ARBITRARY third argument `c` (a raw cell is not an `ocell`) -/
theorem lengthF_eq (z a c : Term) :
    app3 lengthF z a c ↠ app4 Gen.PList.is_nil c (abs (shiftFV 1 0 a))
      (abs (app2 (shiftFV 1 0 z) (app Gen.Church.succ (shiftFV 1 0 a)) (app Gen.PList.tail (shiftFV 1 0 c)))) Gen.Comb.I :=
  norR 3 [z, a, c] (.app₃ .c .p0 .p1 .p2)
    (.app (.app₃ .c .p2 (.abs .s1) (.abs (.app₂ .s0 (.app .c .s1) (.app .c .s2)))) .c) (by decide +kernel)

theorem length_any_acc (n : Nat) : ∀ (xs : List Term), xs.length = n → ∀ k,
    app2 (ZF lengthF) (intoChurch k) (pairList xs) ↠ intoChurch (k + n) := by
  induction n with
  | zero =>
    intro xs hx k
    cases xs with
    | cons x xs => simp at hx
    | nil =>
      lc_head (ZF_app closed_lengthF _); lc_trans (lengthF_eq _ _ _)
      lc_head is_nil_nil_pair; lc_head (tru_elim _ _); lc_beta; exact Star.refl _
  | succ n ih =>
    intro xs hx k
    cases xs with
    | nil => simp at hx
    | cons x xs =>
      show app2 (ZF lengthF) (intoChurch k) (tuple2 x (pairList xs)) ↠ _
      obtain ⟨ts', hl, he⟩ := applyAux_pairList Gen.Bool.fls 1 (Nat.le_refl 1) xs
      generalize pairList xs = l at *
      lc_head (ZF_app closed_lengthF _); lc_trans (lengthF_eq _ _ _)
      lc_head (is_nil_tuple2 x l); lc_head (fls_elim _ _); lc_beta
      lc_head (ZF_stub closed_lengthF _)
      lc_trans (Star.congApp (Star.congAppR _ (church_succ_hap k).star) (tail_rawcell _ _))
      rw [he, show k + (n + 1) = (k + 1) + n by omega]
      exact ih ts' (by simpa [hl] using hx) (k + 1)

end OpenLib

theorem plist_length_any (xs : List Term) : app Gen.PList.length (pairList xs) ↠ intoChurch xs.length := by
  rw [length_eq]; lc_head (Z_unfold closed_lengthF)
  have h := length_any_acc xs.length xs rfl 0
  rw [Nat.zero_add] at h; exact h

end LC
