/-
The pair list on CLOSED terms: `is_nil` of a conversion; `head`, `tail` of the empty list.
-/
import LC.Proofs.List.OpenLibB

namespace LC
open Term Spec Enc

namespace PairLibB

theorem is_nil_correct {ts : List Term} (hts : ∀ u ∈ ts, Closed u) :
    app Gen.PList.is_nil (pairList ts) ↠ fromBool ts.isEmpty :=
  pairListEnc.isNil_conv hts

/-- `TAIL NIL` is NOT `NIL`: it is the identity `λx.x` -/
theorem tail_nil : app Gen.PList.tail (pairList []) ↠ Gen.Comb.I := tail_nil_pair

/-- `HEAD NIL` is the identity `λx.x` -/
theorem head_nil : app Gen.PList.head (pairList []) ↠ Gen.Comb.I := head_nil_pair

end PairLibB

end LC
