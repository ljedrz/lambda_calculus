/-
C16 — eager evaluation (order HAP) of the FIRST-ORDER pair-list library functions (`length reverse append index
last init take drop replicate zip list`) on lists of ARBITRARY admissible elements (`C16.HapValue`: closed HAP values):
one derivation per function `Z F`, about `ZF F`, by induction on the list.  Each step is one run of the verified evaluator
(`LC/Proofs/Eager/Reflect.lean`): the cell is written out as a cell of two placeholders (so the evaluator computes its
observers itself), the result of the recursive call stands behind a placeholder, and the recursive call through the stub
(`ev_stub*`, `stub_hap3`, on `TAIL l`: `tail_facts`) is what is looked up.
-/
import LC.Proofs.List.MoreHap
import LC.Proofs.Eager.ChurchHapB

namespace LC
open Term Spec Enc RL Eager C16 PairLib ChurchHapB

namespace EagerListMore

/-- what the derivations look up about a cell: its tail (the recursive call is made on `TAIL l`) -/
theorem tail_facts {x : Term} {xs : List Term} (hv : ∀ u ∈ x :: xs, HapValue u) :
    Ev .CBV (app Gen.PList.tail (pairList (x :: xs))) (pairList xs) ∧
    Ev .HAP (app Gen.PList.tail (pairList (x :: xs))) (pairList xs) :=
  ⟨cbv_tail_cell (hv x List.mem_cons_self) (hapValue_pairList (forall_tail hv)),
    hap_tail_cell (hv x List.mem_cons_self) (hapValue_pairList (forall_tail hv))⟩

theorem head_fact {x : Term} {xs : List Term} (hv : ∀ u ∈ x :: xs, HapValue u) :
    Ev .CBV (app Gen.PList.head (pairList (x :: xs))) x :=
  cbv_head_cell (hv x List.mem_cons_self) (hapValue_pairList (forall_tail hv))

/-- the two parts of a cell as placeholders -/
theorem _root_.LC.Eager.Vals.cell {x : Term} {xs : List Term} (hv : ∀ u ∈ x :: xs, HapValue u) {nv : Nat} {ys : List Term}
    (hys : Vals nv ys) : Vals (nv + 1 + 1) (x :: pairList xs :: ys) :=
  .value (hv x List.mem_cons_self) (.value (hapValue_pairList (forall_tail hv)) hys)

/-- the accumulator `sq k` is the CBV value of `SUCCᵏ ZERO` (`ChurchHapB.sq`; `hap_sq`: HAP normalises it to `k̄`) -/
theorem length_core (xs : List Term) (hv : ∀ x ∈ xs, HapValue x) :
    ∀ k, Ev .HAP (app2 (ZF lengthF) (sq k) (pairList xs)) (intoChurch (k + xs.length)) := by
  induction xs with
  | nil =>
    intro k
    -- the accumulator is a weak value: what is looked up is its normal form
    exact evR .HAP 101 (.value (hapValue_church k) (.weak (closed_sq k) (isWNF_sq k) .nil)) .nil
      (.cons .ph1 .ph0 (hap_sq k) .nil) 30 (.app (.app .c .ph1) .c) .ph0 (by decide +kernel)
  | cons x xs ih =>
    intro k
    have hrec := ev_stub2 (o := .HAP) closed_lengthF (cbv_succ_sq k) (tail_facts hv).2 (ih (forall_tail hv) (k + 1))
    rw [show k + (x :: xs).length = k + 1 + xs.length by simp; omega]
    -- placeholders: the cell, the result, then the accumulator; looked up: the recursive call
    exact evR .HAP 101 (.cell hv (.value (hapValue_church (k + 1 + xs.length)) (.weak (closed_sq k) (isWNF_sq k) .nil))) .nil
      (.cons (.app (.app .c (.app .c .ph3)) (.app .c (.tuple2 .ph0 .ph1))) .ph2 hrec .nil) 30
      (.app (.app .c .ph3) (.tuple2 .ph0 .ph1)) .ph2 (by decide +kernel)

theorem append_core (xs ys : List Term) (hx : ∀ x ∈ xs, HapValue x) (hy : ∀ y ∈ ys, HapValue y) :
    Ev .HAP (app2 (ZF appendF) (pairList xs) (pairList ys)) (pairList (xs ++ ys)) := by
  have hB := hapValue_pairList hy
  induction xs with
  | nil => exact evR .HAP 101 (.value hB .nil) .nil .nil 30 (.app (.app .c .c) .ph0) .ph0 (by decide +kernel)
  | cons x xs ih =>
    have hrec := ev_stub2 (o := .HAP) closed_appendF (tail_facts hx).1 hB.ev (ih (forall_tail hx))
    have hR : HapValue (pairList (xs ++ ys)) := hapValue_pairList fun t ht =>
      (List.mem_append.1 ht).elim (forall_tail hx t) (hy t)
    -- placeholders: the cell, the second list, the result of the recursive call; looked up: the call
    exact evR .HAP 101 (.cell hx (.value hB (.value hR .nil))) .nil
      (.cons (.app (.app .c (.app .c (.tuple2 .ph0 .ph1))) .ph2) .ph3 hrec .nil) 30
      (.app (.app .c (.tuple2 .ph0 .ph1)) .ph2) (.tuple2 .ph0 .ph3) (by decide +kernel)

/-- what `last` returns: `NIL` for the empty list -/
def lastT : List Term → Term
  | [] => pairList []
  | [x] => x
  | _ :: y :: ys => lastT (y :: ys)

theorem lastT_eq (xs : List Term) (h : xs ≠ []) : lastT xs = xs.getLast h := by
  induction xs with
  | nil => exact absurd rfl h
  | cons x xs ih =>
    cases xs with
    | nil => rfl
    | cons y ys => rw [lastT, ih (List.cons_ne_nil y ys), List.getLast_cons (List.cons_ne_nil y ys)]

theorem hapValue_lastT (xs : List Term) (hv : ∀ x ∈ xs, HapValue x) : HapValue (lastT xs) := by
  induction xs with
  | nil => exact .mk' (by decide) (by decide)
  | cons x xs ih =>
    cases xs with
    | nil => exact hv x List.mem_cons_self
    | cons y ys => exact ih (forall_tail hv)

/-- `LAST`: the recursive call is NOT thunked, so under HAP it is evaluated for every cell, also for the last one (where
it returns `NIL` and is dropped) -/
theorem last_core (xs : List Term) (hv : ∀ x ∈ xs, HapValue x) :
    Ev .HAP (app (ZF lastF) (pairList xs)) (lastT xs) := by
  induction xs with
  | nil => exact evR .HAP 101 .nil .nil .nil 30 .c .c (by decide +kernel)
  | cons x xs ih =>
    have hrec := ev_stub (o := .HAP) closed_lastF (tail_facts hv).2 (ih (forall_tail hv))
    cases xs with
    | nil =>
      -- placeholder: the element; the tail is `NIL`; looked up: the recursive call
      exact evR .HAP 101 (.value (hv x List.mem_cons_self) .nil) .nil
        (.cons (.app .c (.app .c (.tuple2 .ph0 .c))) .c hrec .nil) 30 (.app .c (.tuple2 .ph0 .c)) .ph0 (by decide +kernel)
    | cons y ys =>
      -- placeholders: the head, the cell of the tail, the result of the recursive call; looked up: the call
      exact evR .HAP 101 (.value (hv x List.mem_cons_self) (.cell (forall_tail hv)
          (.value (hapValue_lastT (y :: ys) (forall_tail hv)) .nil))) .nil
        (.cons (.app .c (.app .c (.tuple2 .ph0 (.tuple2 .ph1 .ph2)))) .ph3 hrec .nil) 30
        (.app .c (.tuple2 .ph0 (.tuple2 .ph1 .ph2))) .ph3 (by decide +kernel)

theorem init_core (xs : List Term) (hv : ∀ x ∈ xs, HapValue x) :
    Ev .HAP (app (ZF initF) (pairList xs)) (pairList xs.dropLast) := by
  induction xs with
  | nil => exact evR .HAP 101 .nil .nil .nil 30 .c .c (by decide +kernel)
  | cons x xs ih =>
    have hrec := ev_stub (o := .HAP) closed_initF (tail_facts hv).2 (ih (forall_tail hv))
    cases xs with
    | nil =>
      show Ev .HAP _ (pairList [])
      -- placeholder: the element; the tail is `NIL`; looked up: the recursive call
      exact evR .HAP 101 (.value (hv x List.mem_cons_self) .nil) .nil
        (.cons (.app .c (.app .c (.tuple2 .ph0 .c))) .c hrec .nil) 30 (.app .c (.tuple2 .ph0 .c)) .c (by decide +kernel)
    | cons y ys =>
      -- placeholders: the head, the cell of the tail, the result of the recursive call; looked up: the call
      exact evR .HAP 101 (.value (hv x List.mem_cons_self) (.cell (forall_tail hv) (.value
          (hapValue_pairList fun t ht => forall_tail hv t ((List.dropLast_sublist (y :: ys)).subset ht)) .nil))) .nil
        (.cons (.app .c (.app .c (.tuple2 .ph0 (.tuple2 .ph1 .ph2)))) .ph3 hrec .nil) 30
        (.app .c (.tuple2 .ph0 (.tuple2 .ph1 .ph2))) (.tuple2 .ph0 .ph3) (by decide +kernel)

/-! ### take, drop, replicate (the count is any CBV value `v` of a Church numeral: `ONum v j`)

Under HAP both branches of `IS_ZERO n NIL (CONS …)` are evaluated: the recursion always runs to the end of the list. -/

theorem take_core (xs : List Term) (hv : ∀ x ∈ xs, HapValue x) :
    ∀ (v : Term) (j : Nat), ONum v j → Ev .HAP (app2 (ZF takeF) v (pairList xs)) (pairList (xs.take j)) := by
  induction xs with
  | nil =>
    intro v j hj
    rw [List.take_nil]
    exact evR .HAP 101 (.onum hj .nil) .nil .nil 30 (.app (.app .c .ph0) .c) .c (by decide +kernel)
  | cons x xs ih =>
    intro v j hj
    have hp := cbv_pred_onum hj
    have hrec := ev_stub2 (o := .HAP) closed_takeF hp.1 (tail_facts hv).2 (ih (forall_tail hv) _ (j - 1) hp.2)
    have hR : HapValue (pairList (xs.take (j - 1))) :=
      hapValue_pairList fun t ht => forall_tail hv t (List.mem_of_mem_take ht)
    -- placeholders: the cell, the result of the recursive call, then the count; looked up: `IS_ZERO n`, the call
    have vals := Vals.cell hv (.value hR (.onum hj .nil))
    cases j with
    | zero =>
      have hz : Ev .CBV (app Gen.Church.is_zero v) Gen.Bool.tru := church_is_zero_cbv hj
      rw [List.take_zero]
      exact evR .HAP 101 vals (.cons (.app .c .ph3) .c hz .nil)
        (.cons (.app (.app .c (.app .c .ph3)) (.app .c (.tuple2 .ph0 .ph1))) .ph2 hrec .nil) 40
        (.app (.app .c .ph3) (.tuple2 .ph0 .ph1)) .c (by decide +kernel)
    | succ j =>
      have hz : Ev .CBV (app Gen.Church.is_zero v) Gen.Bool.fls := church_is_zero_cbv hj
      rw [List.take_succ_cons]
      exact evR .HAP 101 vals (.cons (.app .c .ph3) .c hz .nil)
        (.cons (.app (.app .c (.app .c .ph3)) (.app .c (.tuple2 .ph0 .ph1))) .ph2 hrec .nil) 40
        (.app (.app .c .ph3) (.tuple2 .ph0 .ph1)) (.tuple2 .ph0 .ph2) (by decide +kernel)

theorem drop_core (xs : List Term) (hv : ∀ x ∈ xs, HapValue x) :
    ∀ (v : Term) (j : Nat), ONum v j → Ev .HAP (app2 (ZF dropF) v (pairList xs)) (pairList (xs.drop j)) := by
  induction xs with
  | nil =>
    intro v j hj
    rw [List.drop_nil]
    exact evR .HAP 101 (.onum hj .nil) .nil .nil 30 (.app (.app .c .ph0) .c) .c (by decide +kernel)
  | cons x xs ih =>
    intro v j hj
    have hp := cbv_pred_onum hj
    have hrec := ev_stub2 (o := .HAP) closed_dropF hp.1 (tail_facts hv).2 (ih (forall_tail hv) _ (j - 1) hp.2)
    have hR : HapValue (pairList (xs.drop (j - 1))) :=
      hapValue_pairList fun t ht => forall_tail hv t (List.mem_of_mem_drop ht)
    -- placeholders: the cell, the result of the recursive call, then the count; looked up: `IS_ZERO n`, the call
    have vals := Vals.cell hv (.value hR (.onum hj .nil))
    cases j with
    | zero =>
      have hz : Ev .CBV (app Gen.Church.is_zero v) Gen.Bool.tru := church_is_zero_cbv hj
      rw [List.drop_zero]
      exact evR .HAP 101 vals (.cons (.app .c .ph3) .c hz .nil)
        (.cons (.app (.app .c (.app .c .ph3)) (.app .c (.tuple2 .ph0 .ph1))) .ph2 hrec .nil) 40
        (.app (.app .c .ph3) (.tuple2 .ph0 .ph1)) (.tuple2 .ph0 .ph1) (by decide +kernel)
    | succ j =>
      have hz : Ev .CBV (app Gen.Church.is_zero v) Gen.Bool.fls := church_is_zero_cbv hj
      rw [List.drop_succ_cons]
      exact evR .HAP 101 vals (.cons (.app .c .ph3) .c hz .nil)
        (.cons (.app (.app .c (.app .c .ph3)) (.app .c (.tuple2 .ph0 .ph1))) .ph2 hrec .nil) 40
        (.app (.app .c .ph3) (.tuple2 .ph0 .ph1)) .ph2 (by decide +kernel)

theorem replicate_core {y : Term} (hy : HapValue y) :
    ∀ (j : Nat) (v : Term), ONum v j → Ev .HAP (app2 (ZF replicateF) v y) (pairList (List.replicate j y)) := by
  intro j
  induction j with
  | zero =>
    intro v hj
    have hz : Ev .CBV (app Gen.Church.is_zero v) Gen.Bool.tru := church_is_zero_cbv hj
    show Ev .HAP _ (pairList [])
    exact evR .HAP 101 (.value hy (.onum hj .nil)) (.cons (.app .c .ph1) .c hz .nil) .nil 30
      (.app (.app .c .ph1) .ph0) .c (by decide +kernel)
  | succ j ih =>
    intro v hj
    have hz : Ev .CBV (app Gen.Church.is_zero v) Gen.Bool.fls := church_is_zero_cbv hj
    have hp := cbv_pred_onum hj
    have hrec := ev_stub2 (o := .HAP) closed_replicateF hp.1 hy.ev (ih _ hp.2)
    have hR : HapValue (pairList (List.replicate j y)) :=
      hapValue_pairList fun t ht => List.eq_of_mem_replicate ht ▸ hy
    rw [List.replicate_succ]
    -- placeholders: the element, the result of the recursive call, then the count; looked up: `IS_ZERO n`, the call
    exact evR .HAP 101 (.value hy (.value hR (.onum hj .nil))) (.cons (.app .c .ph2) .c hz .nil)
      (.cons (.app (.app .c (.app .c .ph2)) .ph0) .ph1 hrec .nil) 40
      (.app (.app .c .ph2) .ph0) (.tuple2 .ph0 .ph1) (by decide +kernel)

/-! ### zip

The recursion is on `a` only and both branches of `IS_NIL b NIL (…)` are evaluated: when `b` runs out first the recursion
continues with the junk lists `TAIL NIL = I`, `TAIL I = NIL`, … — each such call returns `NIL`. -/

theorem hap_tail_nil : Ev .HAP (app Gen.PList.tail (pairList [])) (abs (var 1)) :=
  evR .HAP 101 .nil .nil .nil 10 .c .c (by decide +kernel)

theorem hap_tail_I : Ev .HAP (app Gen.PList.tail (abs (var 1))) (pairList []) :=
  evR .HAP 101 .nil .nil .nil 10 .c .c (by decide +kernel)

theorem zip_junk (xs : List Term) (hv : ∀ x ∈ xs, HapValue x) :
    Ev .HAP (app2 (ZF zipF) (pairList xs) (pairList [])) (pairList []) ∧
    Ev .HAP (app2 (ZF zipF) (pairList xs) (abs (var 1))) (pairList []) := by
  induction xs with
  | nil =>
    exact ⟨evR .HAP 101 .nil .nil .nil 30 .c .c (by decide +kernel), evR .HAP 101 .nil .nil .nil 30 .c .c (by decide +kernel)⟩
  | cons x xs ih =>
    have ih' := ih (forall_tail hv)
    have hrec1 := ev_stub2 (o := .HAP) closed_zipF (tail_facts hv).1 hap_tail_nil ih'.2
    have hrec2 := ev_stub2 (o := .HAP) closed_zipF (tail_facts hv).1 hap_tail_I ih'.1
    -- placeholders: the cell; looked up: the call on the junk tail (`TAIL NIL`, `TAIL I`)
    exact ⟨evR .HAP 101 (.cell hv .nil) .nil
        (.cons (.app (.app .c (.app .c (.tuple2 .ph0 .ph1))) .c) .c hrec1 .nil) 40
        (.app (.app .c (.tuple2 .ph0 .ph1)) .c) .c (by decide +kernel),
      evR .HAP 101 (.cell hv .nil) .nil
        (.cons (.app (.app .c (.app .c (.tuple2 .ph0 .ph1))) .c) .c hrec2 .nil) 40
        (.app (.app .c (.tuple2 .ph0 .ph1)) .c) .c (by decide +kernel)⟩

theorem hapValue_zip {xs ys : List Term} (hx : ∀ x ∈ xs, HapValue x) (hy : ∀ y ∈ ys, HapValue y) :
    ∀ t ∈ (xs.zip ys).map (fun p => tuple2 p.1 p.2), HapValue t := by
  intro t ht
  obtain ⟨p, hp, rfl⟩ := List.mem_map.1 ht
  have h1 := hx _ (List.of_mem_zip hp).1
  have h2 := hy _ (List.of_mem_zip hp).2
  exact .mk' (closed_tuple2 h1.closed h2.closed) (normal_tuple2 h1.normal h2.normal)

theorem zip_core (xs : List Term) (hx : ∀ x ∈ xs, HapValue x) :
    ∀ (ys : List Term), (∀ y ∈ ys, HapValue y) →
      Ev .HAP (app2 (ZF zipF) (pairList xs) (pairList ys)) (pairList ((xs.zip ys).map (fun p => tuple2 p.1 p.2))) := by
  induction xs with
  | nil =>
    intro ys hy
    show Ev .HAP _ (pairList [])
    exact evR .HAP 101 (.value (hapValue_pairList hy) .nil) .nil .nil 30 (.app (.app .c .c) .ph0) .c (by decide +kernel)
  | cons x xs ih =>
    intro ys hy
    cases ys with
    | nil =>
      have hrec := ev_stub2 (o := .HAP) closed_zipF (tail_facts hx).1 hap_tail_nil (zip_junk xs (forall_tail hx)).2
      show Ev .HAP _ (pairList [])
      exact evR .HAP 101 (.cell hx .nil) .nil
        (.cons (.app (.app .c (.app .c (.tuple2 .ph0 .ph1))) .c) .c hrec .nil) 40
        (.app (.app .c (.tuple2 .ph0 .ph1)) .c) .c (by decide +kernel)
    | cons y ys =>
      have hrec := ev_stub2 (o := .HAP) closed_zipF (tail_facts hx).1 (tail_facts hy).2 (ih (forall_tail hx) ys (forall_tail hy))
      have hR := hapValue_pairList (hapValue_zip (forall_tail hx) (forall_tail hy))
      rw [List.zip_cons_cons, List.map_cons]
      -- placeholders: the two cells, the result of the recursive call; looked up: the call
      exact evR .HAP 101 (.cell hx (.cell hy (.value hR .nil))) .nil
        (.cons (.app (.app .c (.app .c (.tuple2 .ph0 .ph1))) (.app .c (.tuple2 .ph2 .ph3))) .ph4 hrec .nil) 40
        (.app (.app .c (.tuple2 .ph0 .ph1)) (.tuple2 .ph2 .ph3))
        (.tuple2 (.tuple2 .ph0 .ph2) .ph4) (by decide +kernel)

theorem reverse_core (xs : List Term) (hv : ∀ x ∈ xs, HapValue x) :
    ∀ (acc : List Term), (∀ a ∈ acc, HapValue a) →
      Ev .HAP (app2 (ZF reverseF) (pairList acc) (pairList xs)) (pairList (xs.reverse ++ acc)) := by
  induction xs with
  | nil =>
    intro acc ha
    exact evR .HAP 101 (.value (hapValue_pairList ha) .nil) .nil .nil 30 (.app (.app .c .ph0) .c) .ph0 (by decide +kernel)
  | cons x xs ih =>
    intro acc ha
    have hx := hv x List.mem_cons_self
    have hA := hapValue_pairList ha
    have ha' : ∀ a ∈ x :: acc, HapValue a := List.forall_mem_cons.2 ⟨hx, ha⟩
    have hX : Ev .CBV (app2 Gen.PList.cons (app Gen.PList.head (pairList (x :: xs))) (pairList acc)) (pairList (x :: acc)) :=
      ev_app2_args (o := .CBV) (head_fact hv) (Ev.of_isWNF (isNormal_isWNF hA.normal))
        (cbv_cons_cell hx hA)
    have hrec := ev_stub2 (o := .HAP) closed_reverseF hX (tail_facts hv).2 (ih (forall_tail hv) (x :: acc) ha')
    rw [List.reverse_cons, List.append_assoc, List.singleton_append]
    -- placeholders: the cell, the accumulator, the result; looked up: the call `z (CONS (HEAD l) a) (TAIL l)`
    exact evR .HAP 101 (.cell hv (.value hA (.value (hapValue_pairList (xs := xs.reverse ++ x :: acc)
        fun t ht => (List.mem_append.1 ht).elim (fun h => forall_tail hv t (List.mem_reverse.1 h)) (ha' t)) .nil))) .nil
      (.cons (.app (.app .c (.app (.app .c (.app .c (.tuple2 .ph0 .ph1))) .ph2)) (.app .c (.tuple2 .ph0 .ph1))) .ph3 hrec .nil) 30
      (.app (.app .c .ph2) (.tuple2 .ph0 .ph1)) .ph3 (by decide +kernel)

/-! the collector of `LIST ≡ λn.n (λfax.f (CONS x a)) REVERSE NIL`

`LIST n̄ x₁ … xₙ`: all applications but the last are in operator position (CBV): `LIST n̄` evaluates `REVERSE` to a value
`R0`, builds the collector closures `W n` and then `V (n-1) []`; every argument but the last moves one element into the
accumulator (`V (k+1) acc ↦ V k (x :: acc)`); the last application runs `R0` (reverse) on the accumulator under HAP. -/

def W (R0 : Term) : Nat → Term
  | 0 => R0
  | k + 1 => abs (abs (app (W R0 k) (app2 Gen.PList.cons (var 1) (var 2))))

theorem closed_W {R0 : Term} (hR : Closed R0) (k : Nat) : Closed (W R0 k) := by
  induction k with
  | zero => exact hR
  | succ k ih => lc_simp [W]

theorem isWNF_W {R0 : Term} (wR : isWNF R0 = true) (k : Nat) : isWNF (W R0 k) = true := by
  cases k with
  | zero => exact wR
  | succ k => rfl

/-- the state of the collector after some arguments: `λx. W k (CONS x acc)` -/
def V (R0 : Term) (k : Nat) (acc : Term) : Term := abs (app (W R0 k) (app2 Gen.PList.cons (var 1) acc))

theorem cbv_list_init {R0 : Term} (hR : Ev .CBV Gen.PList.reverse R0) (cR : Closed R0) (wR : isWNF R0 = true)
    (m : Nat) : Ev .CBV (app Gen.PList.list (intoChurch (m + 1))) (V R0 m (pairList [])) := by
  have hW : Ev .CBV (iterApp listG R0 (m + 1)) (W R0 (m + 1)) :=
    ev_iterApp (o := .CBV) (w := W R0) (Ev.of_isWNF wR) (fun k =>
      evR1 .CBV 101 (.weak (closed_W cR k) (isWNF_W wR k) .nil) .nil 10 (.app .c .ph0)
        (.abs (.abs (.app .ph0 (.app (.app .c (.fv (by decide))) (.fv (by decide)))))) (by decide +kernel)) (m + 1)
  have hn := Ev.app_arg hR (ev_church_elim (o := .CBV) (m + 1) rfl wR hW)
  -- placeholders: the count, then `W R0 m`; `n G REVERSE` is looked up as it stands
  exact evR1 .CBV 101 (.church (m + 1) (.weak (closed_W cR m) (isWNF_W wR m) .nil))
    (.cons (.app (.app .ph0 .c) .c) (.abs (.abs (.app .ph1 (.app (.app .c (.fv (by decide))) (.fv (by decide)))))) hn .nil) 10
    (.app .c .ph0) (.abs (.app .ph1 (.app (.app .c (.fv (by decide))) .c))) (by decide +kernel)

theorem _root_.LC.plist_reverse_hap_values (xs : List Term) (hv : ∀ x ∈ xs, HapValue x) :
    Ev .HAP (app Gen.PList.reverse (pairList xs)) (pairList xs.reverse) := by
  have h := hap_Z2 closed_reverseF rfl (reverse_core xs hv [] (by simp))
  rw [List.append_nil] at h
  rw [reverse_eq]
  exact h

/-- the CBV value of `REVERSE` (computed): what `LIST n` holds on to -/
noncomputable def reverseV : Term := (evalR 0 .CBV 101 [] [] 20 Gen.PList.reverse).getD (var 0)

theorem cbv_reverseV : Ev .CBV Gen.PList.reverse reverseV := evR1 .CBV 101 .nil .nil 20 .c .c (by decide +kernel)

theorem closed_reverseV : Closed reverseV := by decide +kernel

theorem hap_reverseV (xs : List Term) (hv : ∀ x ∈ xs, HapValue x) :
    Ev .HAP (app reverseV (pairList xs)) (pairList xs.reverse) :=
  ev_app_of_fn_value cbv_reverseV (plist_reverse_hap_values xs hv)

section Collector
variable {R0 : Term} (cR : Closed R0) (wR : isWNF R0 = true) {acc : List Term} (ha : ∀ a ∈ acc, HapValue a)
  {x : Term} (hx : HapValue x)
include cR wR ha hx

theorem cbv_V_step (k : Nat) :
    Ev .CBV (app (V R0 (k + 1) (pairList acc)) x) (V R0 k (pairList (x :: acc))) := by
  have hA := hapValue_pairList ha
  simp only [V, W]
  -- placeholders: the new element, the accumulator, then the collector `W R0 k`
  exact evR1 .CBV 101 (.value hx (.value hA (.weak (closed_W cR k) (isWNF_W wR k) .nil))) .nil 20
    (.app (.abs (.app (.abs (.abs (.app .ph2 (.app (.app .c (.fv (by decide))) (.fv (by decide))))))
      (.app (.app .c (.fv (by decide))) .ph1))) .ph0)
    (.abs (.app .ph2 (.app (.app .c (.fv (by decide))) (.tuple2 .ph0 .ph1))))
    (by decide +kernel)

theorem hap_V_last (hrev : ∀ (xs : List Term), (∀ x ∈ xs, HapValue x) → Ev .HAP (app R0 (pairList xs)) (pairList xs.reverse)) :
    Ev .HAP (app (V R0 0 (pairList acc)) x) (pairList (x :: acc).reverse) := by
  have hA := hapValue_pairList ha
  have ha' : ∀ a ∈ x :: acc, HapValue a := List.forall_mem_cons.2 ⟨hx, ha⟩
  have hR := hapValue_pairList (xs := (x :: acc).reverse) fun t ht => ha' t (List.mem_reverse.1 ht)
  simp only [V, W]
  -- placeholders: the last element, the accumulator, the result, then `R0`; looked up: `R0` on the finished cell
  exact evR .HAP 101 (.value hx (.value hA (.value hR (.weak cR wR .nil)))) .nil
    (.cons (.app .ph3 (.tuple2 .ph0 .ph1)) .ph2 (hrev _ ha') .nil) 20
    (.app (.abs (.app .ph3 (.app (.app .c (.fv (by decide))) .ph1))) .ph0) .ph2 (by decide +kernel)

end Collector

theorem cbv_list_feed {R0 : Term} (cR : Closed R0) (wR : isWNF R0 = true) (ys : List Term) (hy : ∀ y ∈ ys, HapValue y) :
    ∀ (h : Term) (k : Nat) (acc : List Term), (∀ a ∈ acc, HapValue a) → Ev .CBV h (V R0 (ys.length + k) (pairList acc)) →
      Ev .CBV (ys.foldl app h) (V R0 k (pairList (ys.reverse ++ acc))) := by
  induction ys with
  | nil => intro h k acc _ hh; simpa using hh
  | cons y ys ih =>
    intro h k acc ha hh
    have hy0 := hy y List.mem_cons_self
    rw [List.foldl_cons, List.reverse_cons, List.append_assoc, List.singleton_append]
    rw [List.length_cons, Nat.add_right_comm] at hh
    exact ih (forall_tail hy) _ k (y :: acc) (List.forall_mem_cons.2 ⟨hy0, ha⟩)
      (Ev.app_congr hh (Ev.of_isWNF (isNormal_isWNF hy0.normal)) (cbv_V_step cR wR ha hy0 _))

end EagerListMore
open EagerListMore

/-! ## the statements about `LENGTH l`, `APPEND a b`, … (the fixed point `Z F` unfolded once) -/

theorem plist_length_hap_values (ts : List Term) (h : ∀ t ∈ ts, HapValue t) :
    Ev .HAP (app Gen.PList.length (pairList ts)) (intoChurch ts.length) := by
  have h := hap_Z2 closed_lengthF rfl (length_core ts h 0)
  rw [Nat.zero_add] at h
  rw [length_eq]
  exact h

theorem plist_append_hap_values (ts us : List Term) (ht : ∀ t ∈ ts, HapValue t) (hu : ∀ t ∈ us, HapValue t) :
    Ev .HAP (app2 Gen.PList.append (pairList ts) (pairList us)) (pairList (ts ++ us)) := by
  rw [append_eq]
  exact hap_Z2 closed_appendF rfl (append_core ts us ht hu)

theorem hap_iter_tail (ts : List Term) (h : ∀ t ∈ ts, HapValue t) (i : Nat) (hi : i ≤ ts.length) :
    Ev .HAP (iterApp Gen.PList.tail (pairList ts) i) (pairList (ts.drop i)) := by
  induction i with
  | zero => simp only [iterApp_zero, List.drop_zero]; exact (hapValue_pairList h).ev
  | succ i ih =>
    rw [iterApp_succ]
    refine Ev.app_arg (ih (by omega)) ?_
    have hi' : i < ts.length := by omega
    rw [List.drop_eq_getElem_cons hi']
    exact (tail_facts fun u hu => h u (List.mem_of_mem_drop (by rw [List.drop_eq_getElem_cons hi']; exact hu))).2

theorem plist_index_hap_values (ts : List Term) (h : ∀ t ∈ ts, HapValue t) (i : Nat) (hi : i < ts.length) :
    Ev .HAP (app2 Gen.PList.index (intoChurch i) (pairList ts)) ts[i] := by
  have hd : ∀ u ∈ ts[i] :: ts.drop (i + 1), HapValue u := fun u hu =>
    h u (List.mem_of_mem_drop (by rw [List.drop_eq_getElem_cons hi]; exact hu))
  have hD := hapValue_pairList hd
  have h1 := ev_church_elim (o := .HAP) i rfl (hapValue_pairList h).normal (hap_iter_tail ts h i (by omega))
  rw [List.drop_eq_getElem_cons hi] at h1
  -- placeholders: the index, the list, the list from the index on, the element; `i TAIL l` is looked up as it stands
  exact evR .HAP 101 (.church i (.value (hapValue_pairList h) (.value hD (.value (hd _ List.mem_cons_self) .nil)))) .nil
    (.cons (.app (.app .ph0 .c) .ph1) .ph2 h1 (.cons (.app .c .ph2) .ph3
      (hap_head_cell (hd _ List.mem_cons_self) (hapValue_pairList (forall_tail hd))) .nil)) 10
    (.app (.app .c .ph0) .ph1) .ph3 (by decide +kernel)

theorem plist_last_hap_values (ts : List Term) (h : ∀ t ∈ ts, HapValue t) (hne : ts ≠ []) :
    Ev .HAP (app Gen.PList.last (pairList ts)) (ts.getLast hne) := by
  rw [last_eq, ← lastT_eq ts hne]
  exact hap_Z1 closed_lastF rfl (last_core ts h)

theorem plist_init_hap_values (ts : List Term) (h : ∀ t ∈ ts, HapValue t) :
    Ev .HAP (app Gen.PList.init (pairList ts)) (pairList ts.dropLast) := by
  rw [init_eq]
  exact hap_Z1 closed_initF rfl (init_core ts h)

theorem plist_take_hap_values (k : Nat) (ts : List Term) (h : ∀ t ∈ ts, HapValue t) :
    Ev .HAP (app2 Gen.PList.take (intoChurch k) (pairList ts)) (pairList (ts.take k)) := by
  rw [take_eq]
  exact hap_Z2 closed_takeF rfl (take_core ts h _ k (onum_intoChurch k))

theorem plist_drop_hap_values (k : Nat) (ts : List Term) (h : ∀ t ∈ ts, HapValue t) :
    Ev .HAP (app2 Gen.PList.drop (intoChurch k) (pairList ts)) (pairList (ts.drop k)) := by
  rw [drop_eq]
  exact hap_Z2 closed_dropF rfl (drop_core ts h _ k (onum_intoChurch k))

theorem plist_replicate_hap_values (k : Nat) (y : Term) (hy : HapValue y) :
    Ev .HAP (app2 Gen.PList.replicate (intoChurch k) y) (pairList (List.replicate k y)) := by
  rw [replicate_eq]
  exact hap_Z2 closed_replicateF rfl (replicate_core hy k _ (onum_intoChurch k))

theorem plist_zip_hap_values (ts us : List Term) (ht : ∀ t ∈ ts, HapValue t) (hu : ∀ t ∈ us, HapValue t) :
    Ev .HAP (app2 Gen.PList.zip (pairList ts) (pairList us))
      (pairList ((ts.zip us).map (fun p => tuple2 p.1 p.2))) := by
  rw [zip_eq]
  exact hap_Z2 closed_zipF rfl (zip_core ts ht us hu)

theorem plist_list_hap_values (ts : List Term) (h : ∀ t ∈ ts, HapValue t) :
    Ev .HAP (ts.foldl app (app Gen.PList.list (intoChurch ts.length))) (pairList ts) := by
  have cR := closed_reverseV
  have wR := cbv_reverseV.isWNF
  rcases List.eq_nil_or_concat ts with rfl | ⟨ys, z, rfl⟩
  · exact evR .HAP 101 .nil .nil .nil 40 .c .c (by decide +kernel)
  · have hys : ∀ y ∈ ys, HapValue y := fun y hy => h y (by simp [hy])
    have hz : HapValue z := h z (by simp)
    rw [List.concat_eq_append, List.foldl_append, List.length_append]
    simp only [List.foldl_cons, List.foldl_nil, List.length_cons, List.length_nil]
    have h1 := cbv_list_feed cR wR ys hys _ 0 [] (by simp) (by
      rw [Nat.add_zero]; exact cbv_list_init cbv_reverseV cR wR ys.length)
    have h2 := hap_V_last cR wR (acc := ys.reverse ++ []) (fun a ha => hys a (by simpa using ha)) hz hap_reverseV
    rw [List.reverse_cons, List.reverse_append, List.reverse_reverse, List.reverse_nil, List.nil_append] at h2
    exact Ev.app_fn h1 h2

end LC
