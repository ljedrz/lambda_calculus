/-
The pair list on CLOSED terms: `head`, `tail` of a conversion, congruence of a pair.  The library functions on closed
elements are the `C16_*_terms` of `LC/Props/C16Base.lean`: the conversion `pairList xs` of closed elements is `OpenLib.opl xs`
(`opl_closed`), so each is the instance of its form for arbitrary elements (`LC/Proofs/List/OpenLibA.lean`, `OpenLibB.lean`).
-/
import LC.Proofs.List.OpenLibB

namespace LC
open Term Spec Enc

namespace PairLibA

theorem closed_nil : Closed (pairList []) := by decide

theorem head_correct {t : Term} {ts : List Term} (ht : Closed t) (hts : ∀ u ∈ ts, Closed u) :
    app Gen.PList.head (pairList (t :: ts)) ↠ t := pair_fst ht (closed_pairList hts)

theorem tail_correct {t : Term} {ts : List Term} (ht : Closed t) (hts : ∀ u ∈ ts, Closed u) :
    app Gen.PList.tail (pairList (t :: ts)) ↠ pairList ts := pair_snd ht (closed_pairList hts)

theorem tuple_cong {a a' b b' : Term} (ha : a ↠ a') (hb : b ↠ b') : tuple2 a b ↠ tuple2 a' b' :=
  Star.congAbs (Star.congApp (Star.congAppR _ ha) hb)

end PairLibA

end LC
