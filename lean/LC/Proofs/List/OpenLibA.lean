/-
C16 — the pair-list library on lists of ARBITRARY (open) terms up to β-reduction, part A
(reverse, append, map, foldl, filter, take_while, drop_while, last, init, zip, zip_with; `foldr` is in part B).

A cell is `ocell t l = tuple2 (shiftFV 1 0 t) (shiftFV 1 0 l)` — ARBITRARY components correctly placed under the
binder of the pair —, a list `opl us = pairList (placed 1 0 us)` (`placed`: `LC/Proofs/List/Basic.lean`): the Rust
conversion of the elements shifted over the binders they sit under.  Function arguments (`f`, `p`, start values) are
arbitrary terms too.  For closed elements `opl us = pairList us`.
Reduction inside a cell needs that `↠` is kept by shifting: `Spec.Star.shiftFV` below, from `Par.shift` of
`LC/Proofs/Confluence.lean`.
-/
import LC.Proofs.List.More
import LC.Proofs.List.Functionals
import LC.Proofs.NorRead
import LC.Proofs.Confluence

namespace LC
open Term Spec Enc ListMore PairLib Eager

namespace OpenLib

/-! `opl us` is `pairListEnc.olist us` (`LC/Proofs/List/Basic.lean`), and the laws of `cons`, `head`, `tail`, `is_nil` on
cells and on `pairList (placed 1 0 us)` proved there are used as they are; `opl_cons` is the bridge. -/

/-- a pair-list cell with ARBITRARY components, placed under the binder of the pair -/
def ocell (t l : Term) : Term := tuple2 (shiftFV 1 0 t) (shiftFV 1 0 l)

/-- the pair list of ARBITRARY terms (each placed under the binders it sits under) -/
def opl (us : List Term) : Term := pairList (placed 1 0 us)

theorem opl_nil : opl [] = pairList [] := rfl
theorem opl_cons (u : Term) (us : List Term) : opl (u :: us) = ocell u (opl us) := pairList_placed_cons u us
theorem opl_closed {us : List Term} (h : ∀ u ∈ us, Closed u) : opl us = pairList us := by
  unfold opl; rw [placed_closed 1 0 h]

theorem ocell_closed {t l : Term} (ht : Closed t) (hl : Closed l) : ocell t l = tuple2 t l := by
  rw [ocell, shiftFV_closed 1 0 ht, shiftFV_closed 1 0 hl]

/-- `IS_NIL l` after its contraction, on a list -/
theorem sel_opl (us : List Term) :
    app2 (opl us) (abs (abs (abs (abs (abs (var 1)))))) Gen.Bool.tru ↠ fromBool us.isEmpty := by
  cases us with
  | nil => exact pairList_elim_nil _ _
  | cons u us => rw [opl_cons]; lc_head (tuple2_elim_open _ _ _); lc_beta 3; exact Star.refl _

theorem _root_.LC.Spec.Star.shiftFV {t u : Term} (h : Star t u) (a o : Nat) : Star (shiftFV a o t) (shiftFV a o u) := by
  induction h with
  | refl _ => exact Star.refl _
  | head hb _ ih => exact (Par.shift a o (Par.of_beta hb)).star.trans ih

theorem ocell_cong {t t' l l' : Term} (ht : t ↠ t') (hl : l ↠ l') : ocell t l ↠ ocell t' l' :=
  Star.congAbs (Star.congApp (Star.congAppR _ (ht.shiftFV 1 0)) (hl.shiftFV 1 0))

/-- a recursive call through the stub -/
theorem stub_star {F : Term} (hF : Closed F) {x r : Term} (h : app (ZF F) x ↠ r) :
    app (stub F) x ↠ r := (ZF_stub hF x).trans h

theorem stub_star2 {F : Term} (hF : Closed F) {x y r : Term} (h : app2 (ZF F) x y ↠ r) :
    app2 (stub F) x y ↠ r := (ZF_stub2 hF x y).trans h

theorem stub_star3 {F : Term} (hF : Closed F) {x y w r : Term} (h : app3 (ZF F) x y w ↠ r) :
    app3 (stub F) x y w ↠ r := (Star.congAppL _ (ZF_stub2 hF x y)).trans h

/-! ### the recursion equations

Each is one normal-order run on placeholders, read by `norR` (`LC/Proofs/NorRead.lean`).  The functional `F`, applied to an
ARBITRARY term `z` in place of the recursive call and to a cell, runs to its normal form, in which the recursive call is
`z …`; the recursion itself is `ZF_app` (unfold once) and `stub_star` (the call through the stub). -/

theorem rev_nil (a : Term) : app2 (ZF reverseF) a (pairList []) ↠ a :=
  norR 40 [a] (.app₂ .c .p0 .c) .p0 (by decide +kernel)

theorem reverseF_cons (z a t l : Term) : app3 reverseF z a (ocell t l) ↠ app2 z (ocell t a) l :=
  norR 40 [z, a, t, l] (.app₃ .c .p0 .p1 (.cell .s2 .s3)) (.app₂ .p0 (.cell .s2 .s1) .p3) (by decide +kernel)

theorem rev_aux (xs acc : List Term) :
    app2 (ZF reverseF) (opl acc) (opl xs) ↠ opl (xs.reverse ++ acc) := by
  induction xs generalizing acc with
  | nil => exact rev_nil _
  | cons t ts ih =>
    rw [opl_cons]
    lc_head (ZF_app closed_reverseF _); lc_trans (reverseF_cons _ _ _ _)
    rw [← opl_cons, List.reverse_cons, List.append_assoc]
    exact stub_star2 closed_reverseF (ih (t :: acc))

theorem appendF_nil (z b : Term) : app3 appendF z (pairList []) b ↠ b :=
  norR 40 [z, b] (.app₃ .c .p0 .c .p1) .p1 (by decide +kernel)

/-- the functional on an ARBITRARY term `z` in place of the recursive call: the run ends in the normal form -/
theorem appendF_cons (z t l b : Term) : app3 appendF z (ocell t l) b ↠ ocell t (app2 z l b) :=
  norR 40 [z, t, l, b] (.app₃ .c .p0 (.cell .s1 .s2) .p3) (.cell .s1 (.app₂ .s0 .s2 .s3)) (by decide +kernel)

theorem map_nil (f : Term) : app2 (ZF mapF) f (pairList []) ↠ pairList [] :=
  norR 40 [f] (.app₂ .c .p0 .c) .c (by decide +kernel)

theorem mapF_cons (z f t l : Term) : app3 mapF z f (ocell t l) ↠ ocell (app f t) (app2 z f l) :=
  norR 40 [z, f, t, l] (.app₃ .c .p0 .p1 (.cell .s2 .s3)) (.cell (.app .s1 .s2) (.app₂ .s0 .s1 .s3)) (by decide +kernel)

theorem foldl_nil (f s : Term) : app3 (ZF foldlF) f s (pairList []) ↠ s :=
  norR 40 [f, s] (.app₃ .c .p0 .p1 .c) .p1 (by decide +kernel)

theorem foldlF_cons (z f s t l : Term) : app4 foldlF z f s (ocell t l) ↠ app3 z f (app2 f s t) l :=
  norR 40 [z, f, s, t, l] (.app (.app₃ .c .p0 .p1 .p2) (.cell .s3 .s4)) (.app₃ .p0 .p1 (.app₂ .p1 .p2 .p3) .p4)
    (by decide +kernel)

theorem filter_nil (p : Term) : app2 (ZF filterF) p (pairList []) ↠ pairList [] :=
  norR 40 [p] (.app₂ .c .p0 .c) .c (by decide +kernel)

/-- `CONS t` after its first contraction, applied -/
theorem consv_elim (t r : Term) : app (abs (tuple2 (shiftFV 2 0 t) (var 2))) r ↠ ocell t r :=
  norR 1 [t, r] (.app (.abs (.cell .s0 .bv)) .p1) (.cell .s0 .s1) (by decide)

theorem filterF_cons (z p t l : Term) :
    app3 filterF z p (ocell t l) ↠ app3 (app p t) (abs (tuple2 (shiftFV 2 0 t) (var 2))) Gen.Comb.I (app2 z p l) :=
  norR 40 [z, p, t, l] (.app₃ .c .p0 .p1 (.cell .s2 .s3)) (.app₃ (.app .p1 .p2) (.abs (.cell .s2 .bv)) .c (.app₂ .p0 .p1 .p3))
    (by decide +kernel)

theorem take_while_nil (p : Term) : app2 (ZF takeWhileF) p (pairList []) ↠ pairList [] :=
  norR 40 [p] (.app₂ .c .p0 .c) .c (by decide +kernel)

theorem takeWhileF_cons (z p t l : Term) :
    app3 takeWhileF z p (ocell t l) ↠ app2 (app p t) (ocell t (app2 z p l)) (pairList []) :=
  norR 40 [z, p, t, l] (.app₃ .c .p0 .p1 (.cell .s2 .s3)) (.app₂ (.app .p1 .p2) (.cell .s2 (.app₂ .s0 .s1 .s3)) .c)
    (by decide +kernel)

theorem drop_while_nil (p : Term) : app2 (ZF dropWhileF) p (pairList []) ↠ pairList [] :=
  norR 40 [p] (.app₂ .c .p0 .c) .c (by decide +kernel)

theorem dropWhileF_cons (z p t l : Term) :
    app3 dropWhileF z p (ocell t l) ↠ app2 (app p t) (app2 z p l) (ocell t l) :=
  norR 40 [z, p, t, l] (.app₃ .c .p0 .p1 (.cell .s2 .s3)) (.app₂ (.app .p1 .p2) (.app₂ .p0 .p1 .p3) (.cell .s2 .s3))
    (by decide +kernel)

theorem last_nil : app (ZF lastF) (pairList []) ↠ pairList [] :=
  norR 40 [] (.app .c .c) .c (by decide +kernel)

theorem lastF_cons (z t l : Term) :
    app2 lastF z (ocell t l) ↠ app2 (app2 l (abs (abs (abs (abs (abs (var 1)))))) Gen.Bool.tru) t (app z l) :=
  norR 40 [z, t, l] (.app₂ .c .p0 (.cell .s1 .s2)) (.app₂ (.app₂ .p2 .c .c) .p1 (.app .p0 .p2)) (by decide +kernel)

theorem init_nil : app (ZF initF) (pairList []) ↠ pairList [] :=
  norR 40 [] (.app .c .c) .c (by decide +kernel)

theorem initF_cons (z t l : Term) :
    app2 initF z (ocell t l) ↠
      app2 (app2 l (abs (abs (abs (abs (abs (var 1)))))) Gen.Bool.tru) (pairList []) (ocell t (app z l)) :=
  norR 40 [z, t, l] (.app₂ .c .p0 (.cell .s1 .s2)) (.app₂ (.app₂ .p2 .c .c) .c (.cell .s1 (.app .s0 .s2))) (by decide +kernel)

theorem zip_nil_left (b : Term) : app2 (ZF zipF) (pairList []) b ↠ pairList [] :=
  norR 40 [b] (.app₂ .c .c .p0) .c (by decide +kernel)

theorem zip_nil_right (t l : Term) : app2 (ZF zipF) (ocell t l) (pairList []) ↠ pairList [] :=
  norR 40 [t, l] (.app₂ .c (.cell .s0 .s1) .c) .c (by decide +kernel)

theorem zipF_cons (z t l u m : Term) :
    app3 zipF z (ocell t l) (ocell u m) ↠ ocell (ocell t u) (app2 z l m) :=
  norR 60 [z, t, l, u, m] (.app₃ .c .p0 (.cell .s1 .s2) (.cell .s3 .s4))
    (.cell (.shift (.cell .s1 .s3)) (.app₂ .s0 .s2 .s4)) (by decide +kernel)

theorem zip_with_nil_left (f b : Term) : app3 (ZF zipWithF) f (pairList []) b ↠ pairList [] :=
  norR 40 [f, b] (.app₃ .c .p0 .c .p1) .c (by decide +kernel)

theorem zip_with_nil_right (f t l : Term) : app3 (ZF zipWithF) f (ocell t l) (pairList []) ↠ pairList [] :=
  norR 40 [f, t, l] (.app₃ .c .p0 (.cell .s1 .s2) .c) .c (by decide +kernel)

theorem zipWithF_cons (z f t l u m : Term) :
    app4 zipWithF z f (ocell t l) (ocell u m) ↠ ocell (app2 f t u) (app3 z f l m) :=
  norR 60 [z, f, t, l, u, m]
    (.app (.app₃ .c .p0 .p1 (.cell .s2 .s3)) (.cell .s4 (.sh 5)))
    (.cell (.app₂ .s1 .s2 .s4) (.app₃ .s0 .s1 .s3 (.sh 5))) (by decide +kernel)

end OpenLib

open OpenLib

theorem plist_reverse_open (xs : List Term) : app Gen.PList.reverse (opl xs) ↠ opl xs.reverse := by
  rw [reverse_eq]; lc_head (Z_unfold closed_reverseF)
  have := rev_aux xs []
  rwa [List.append_nil] at this

theorem plist_append_open (xs ys : List Term) : app2 Gen.PList.append (opl xs) (opl ys) ↠ opl (xs ++ ys) := by
  rw [append_eq]; lc_head (Z_unfold closed_appendF)
  induction xs with
  | nil => lc_head (ZF_app closed_appendF _); exact appendF_nil _ _
  | cons t ts ih =>
    rw [opl_cons]
    lc_head (ZF_app closed_appendF _)
    lc_trans (appendF_cons _ _ _ _)
    rw [List.cons_append, opl_cons]
    exact ocell_cong (Star.refl _) (stub_star2 closed_appendF ih)

theorem plist_map_open (f : Term) (xs : List Term) :
    app2 Gen.PList.map f (opl xs) ↠ opl (xs.map (app f)) := by
  rw [map_eq]; lc_head (Z_unfold closed_mapF)
  induction xs with
  | nil => exact map_nil f
  | cons t ts ih =>
    rw [opl_cons]
    lc_head (ZF_app closed_mapF _); lc_trans (mapF_cons _ _ _ _)
    rw [List.map_cons, opl_cons]
    exact ocell_cong (Star.refl _) (stub_star2 closed_mapF ih)

theorem plist_foldl_open (f s : Term) (xs : List Term) :
    app3 Gen.PList.foldl f s (opl xs) ↠ xs.foldl (fun acc x => app2 f acc x) s := by
  rw [foldl_eq]; lc_head (Z_unfold closed_foldlF)
  induction xs generalizing s with
  | nil => exact foldl_nil f s
  | cons t ts ih =>
    rw [opl_cons]
    lc_head (ZF_app closed_foldlF _); lc_trans (foldlF_cons _ _ _ _ _)
    exact stub_star3 closed_foldlF (ih (app2 f s t))

theorem plist_filter_open (p : Term) (xs : List Term)
    (keep : Term → Bool) (hkeep : ∀ x ∈ xs, app p x ↠ fromBool (keep x)) :
    app2 Gen.PList.filter p (opl xs) ↠ opl (xs.filter keep) := by
  rw [filter_eq]; lc_head (Z_unfold closed_filterF)
  induction xs with
  | nil => exact filter_nil p
  | cons t ts ih =>
    have ih' := stub_star2 closed_filterF (ih (C16.forall_tail hkeep))
    rw [opl_cons]
    lc_head (ZF_app closed_filterF _); lc_trans (filterF_cons _ _ _ _)
    lc_head (hkeep t (by simp)); lc_head (fromBool_elim _ _ _)
    rw [List.filter_cons]
    cases hk : keep t
    · simp only [Bool.false_eq_true, if_false]
      lc_trans (C17_I _); exact ih'
    · simp only [if_true]
      lc_trans (consv_elim _ _); rw [opl_cons]
      exact ocell_cong (Star.refl _) ih'

theorem plist_take_while_open (p : Term) (xs : List Term)
    (keep : Term → Bool) (hkeep : ∀ x ∈ xs, app p x ↠ fromBool (keep x)) :
    app2 Gen.PList.take_while p (opl xs) ↠ opl (xs.takeWhile keep) := by
  rw [take_while_eq]; lc_head (Z_unfold closed_takeWhileF)
  induction xs with
  | nil => exact take_while_nil p
  | cons t ts ih =>
    have ih' := ih (C16.forall_tail hkeep)
    rw [opl_cons]
    lc_head (ZF_app closed_takeWhileF _); lc_trans (takeWhileF_cons _ _ _ _)
    lc_head (hkeep t (by simp)); lc_trans (fromBool_elim _ _ _)
    rw [List.takeWhile_cons]
    cases hk : keep t
    · exact Star.refl _
    · simp only [if_true]; rw [opl_cons]
      exact ocell_cong (Star.refl _) (stub_star2 closed_takeWhileF ih')

theorem plist_drop_while_open (p : Term) (xs : List Term)
    (keep : Term → Bool) (hkeep : ∀ x ∈ xs, app p x ↠ fromBool (keep x)) :
    app2 Gen.PList.drop_while p (opl xs) ↠ opl (xs.dropWhile keep) := by
  rw [drop_while_eq]; lc_head (Z_unfold closed_dropWhileF)
  induction xs with
  | nil => exact drop_while_nil p
  | cons t ts ih =>
    have ih' := ih (C16.forall_tail hkeep)
    rw [opl_cons]
    lc_head (ZF_app closed_dropWhileF _); lc_trans (dropWhileF_cons _ _ _ _)
    lc_head (hkeep t (by simp)); lc_trans (fromBool_elim _ _ _)
    rw [List.dropWhile_cons]
    cases hk : keep t
    · simp only [Bool.false_eq_true, if_false]; rw [opl_cons]; exact Star.refl _
    · exact stub_star2 closed_dropWhileF ih'

theorem plist_last_open (xs : List Term) (hne : xs ≠ []) :
    app Gen.PList.last (opl xs) ↠ xs.getLast hne := by
  rw [last_eq]; lc_head (Z_unfold closed_lastF)
  induction xs with
  | nil => exact absurd rfl hne
  | cons t ts ih =>
    rw [opl_cons]
    lc_head (ZF_app closed_lastF _); lc_trans (lastF_cons _ _ _)
    cases ts with
    | nil => lc_head (sel_opl []); exact tru_elim _ _
    | cons u us =>
      lc_head (sel_opl (u :: us)); lc_trans (fls_elim _ _)
      rw [List.getLast_cons_cons]
      exact stub_star closed_lastF (ih (by simp))

theorem plist_init_open (xs : List Term) : app Gen.PList.init (opl xs) ↠ opl xs.dropLast := by
  rw [init_eq]; lc_head (Z_unfold closed_initF)
  induction xs with
  | nil => exact init_nil
  | cons t ts ih =>
    rw [opl_cons]
    lc_head (ZF_app closed_initF _); lc_trans (initF_cons _ _ _)
    cases ts with
    | nil => lc_head (sel_opl []); exact tru_elim _ _
    | cons u us =>
      lc_head (sel_opl (u :: us)); lc_trans (fls_elim _ _)
      rw [List.dropLast_cons_cons, opl_cons t]
      exact ocell_cong (Star.refl _) (stub_star closed_initF ih)

theorem plist_zip_open (xs ys : List Term) :
    app2 Gen.PList.zip (opl xs) (opl ys) ↠ opl ((xs.zip ys).map (fun p => ocell p.1 p.2)) := by
  rw [zip_eq]; lc_head (Z_unfold closed_zipF)
  induction xs generalizing ys with
  | nil => exact zip_nil_left _
  | cons t ts ih =>
    cases ys with
    | nil => rw [opl_cons]; exact zip_nil_right _ _
    | cons u us =>
      rw [opl_cons, opl_cons]
      lc_head (ZF_app closed_zipF _); lc_trans (zipF_cons _ _ _ _ _)
      rw [List.zip_cons_cons, List.map_cons, opl_cons]
      exact ocell_cong (Star.refl _) (stub_star2 closed_zipF (ih us))

theorem plist_zip_with_open (f : Term) (xs ys : List Term) :
    app3 Gen.PList.zip_with f (opl xs) (opl ys) ↠ opl ((xs.zip ys).map (fun p => app2 f p.1 p.2)) := by
  rw [zip_with_eq]; lc_head (Z_unfold closed_zipWithF)
  induction xs generalizing ys with
  | nil => exact zip_with_nil_left _ _
  | cons t ts ih =>
    cases ys with
    | nil => rw [opl_cons]; exact zip_with_nil_right _ _ _
    | cons u us =>
      rw [opl_cons, opl_cons]
      lc_head (ZF_app closed_zipWithF _); lc_trans (zipWithF_cons _ _ _ _ _ _)
      rw [List.zip_cons_cons, List.map_cons, opl_cons]
      exact ocell_cong (Star.refl _) (stub_star3 closed_zipWithF (ih us))

end LC
