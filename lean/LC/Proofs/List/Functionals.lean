/-
The recursive functions of the pair-list library (`/repo/src/data/list/pair.rs`) are fixed points `Z F` of the combinator
`Z`; here the functionals `F` are named, read off the generated constants (`appArg`/`appFn` take an application apart),
with the two ground facts every proof about such a function starts from: the shape `… = Z F` and `Closed F`.
-/
import LC.Proofs.Num.Toolkit

namespace LC
open Term Spec Enc

namespace PairLibA

/-- `LAST ≡ Z (λzl.IS_NIL l (λx.NIL) (λx.IS_NIL (TAIL l) (HEAD l) (z (TAIL l))) I)` -/
def lastF : Term := appArg Gen.PList.last

/-- `INIT ≡ Z (λzl.IS_NIL l (λx.NIL) (λx.IS_NIL (TAIL l) NIL (CONS (HEAD l) (z (TAIL l)))) I)` -/
def initF : Term := appArg Gen.PList.init

end PairLibA

namespace PairLib
export PairLibA (lastF initF)

/-- `LENGTH ≡ Z (λzal.IS_NIL l (λx.a) (λx.z (SUCC a) (TAIL l)) I) ZERO` -/
def lengthF : Term := appArg (appFn Gen.PList.length)
theorem length_eq : Gen.PList.length = app2 Gen.Comb.Z lengthF (intoChurch 0) := by decide
theorem closed_lengthF : Closed lengthF := by decide

/-- `REVERSE ≡ Z (λzal.IS_NIL l (λx.a) (λx.z (CONS (HEAD l) a) (TAIL l)) I) NIL` -/
def reverseF : Term := appArg (appFn Gen.PList.reverse)
theorem reverse_eq : Gen.PList.reverse = app2 Gen.Comb.Z reverseF (pairList []) := by decide
theorem closed_reverseF : Closed reverseF := by decide

/-- `APPEND ≡ Z (λzab.IS_NIL a (λx.b) (λx.CONS (HEAD a) (z (TAIL a) b)) I)` -/
def appendF : Term := appArg Gen.PList.append
theorem append_eq : Gen.PList.append = app Gen.Comb.Z appendF := by decide
theorem closed_appendF : Closed appendF := by decide

/-- `MAP ≡ Z (λzfl.IS_NIL l (λx.NIL) (λx.CONS (f (HEAD l)) (z f (TAIL l))) I)` -/
def mapF : Term := appArg Gen.PList.map
theorem map_eq : Gen.PList.map = app Gen.Comb.Z mapF := by decide
theorem closed_mapF : Closed mapF := by decide

/-- `FOLDL ≡ Z (λzfsl.IS_NIL l (λx.s) (λx.z f (f s (HEAD l)) (TAIL l)) I)` -/
def foldlF : Term := appArg Gen.PList.foldl
theorem foldl_eq : Gen.PList.foldl = app Gen.Comb.Z foldlF := by decide
theorem closed_foldlF : Closed foldlF := by decide

/-- `FILTER ≡ Z (λzpl.IS_NIL l (λx.NIL) (λx.p (HEAD l) (CONS (HEAD l)) I (z p (TAIL l))) I)` -/
def filterF : Term := appArg Gen.PList.filter
theorem filter_eq : Gen.PList.filter = app Gen.Comb.Z filterF := by decide
theorem closed_filterF : Closed filterF := by decide

/-- `TAKE_WHILE ≡ Z (λzfl. IS_NIL l (λx.NIL) (λx.f (HEAD l) (CONS (HEAD l) (z f (TAIL l))) NIL) I)` -/
def takeWhileF : Term := appArg Gen.PList.take_while
theorem take_while_eq : Gen.PList.take_while = app Gen.Comb.Z takeWhileF := by decide
theorem closed_takeWhileF : Closed takeWhileF := by decide

/-- `DROP_WHILE ≡ Z (λzfl.IS_NIL l (λx.NIL) (λx.f (HEAD l) (z f (TAIL l)) l) I)` -/
def dropWhileF : Term := appArg Gen.PList.drop_while
theorem drop_while_eq : Gen.PList.drop_while = app Gen.Comb.Z dropWhileF := by decide
theorem closed_dropWhileF : Closed dropWhileF := by decide

theorem last_eq : Gen.PList.last = app Gen.Comb.Z lastF := by decide
theorem closed_lastF : Closed lastF := by decide

theorem init_eq : Gen.PList.init = app Gen.Comb.Z initF := by decide
theorem closed_initF : Closed initF := by decide

/-- `ZIP ≡ Z (λzab.IS_NIL a (λx.NIL) (λx.IS_NIL b NIL (CONS (CONS (HEAD a) (HEAD b)) (z (TAIL a) (TAIL b)))) I)` -/
def zipF : Term := appArg Gen.PList.zip
theorem zip_eq : Gen.PList.zip = app Gen.Comb.Z zipF := by decide
theorem closed_zipF : Closed zipF := by decide

/-- `ZIP_WITH ≡ Z (λzfab.IS_NIL a (λx.NIL) (λx.IS_NIL b NIL (CONS (f (HEAD a) (HEAD b)) (z f (TAIL a) (TAIL b)))) I)` -/
def zipWithF : Term := appArg Gen.PList.zip_with
theorem zip_with_eq : Gen.PList.zip_with = app Gen.Comb.Z zipWithF := by decide
theorem closed_zipWithF : Closed zipWithF := by decide

/-- `TAKE ≡ Z (λznl.IS_NIL l (λx.NIL) (λx.IS_ZERO n NIL (CONS (HEAD l) (z (PRED n) (TAIL l)))) I)` -/
def takeF : Term := appArg Gen.PList.take
theorem take_eq : Gen.PList.take = app Gen.Comb.Z takeF := by decide
theorem closed_takeF : Closed takeF := by decide

/-- `DROP ≡ Z (λznl.IS_NIL l (λx.NIL) (λx.IS_ZERO n l (z (PRED n) (TAIL l))) I)` -/
def dropF : Term := appArg Gen.PList.drop
theorem drop_eq : Gen.PList.drop = app Gen.Comb.Z dropF := by decide
theorem closed_dropF : Closed dropF := by decide

/-- `REPLICATE ≡ Z (λzny.IS_ZERO n (λx.NIL) (λx.PAIR y (z (PRED n) y)) I)` -/
def replicateF : Term := appArg Gen.PList.replicate
theorem replicate_eq : Gen.PList.replicate = app Gen.Comb.Z replicateF := by decide
theorem closed_replicateF : Closed replicateF := by decide

/-- the step `λfax.f (CONS x a)` of `LIST ≡ λn.n (λfax.f (CONS x a)) REVERSE NIL`, named without copying its tree -/
def listG : Term := appArg (appFn (appFn (absBody Gen.PList.list)))
theorem list_eq :
    Gen.PList.list = abs (app2 (app (var 1) listG) Gen.PList.reverse (pairList [])) := by decide

end PairLib
end LC
