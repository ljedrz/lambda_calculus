/-
C16 — constructors and observers of the four list encodings, up to β-reduction

"nil/cons/head/tail/is_nil of the pair, Church, Scott and Parigot list modules behave as constructors and
observers of sequences (is_nil is TRUE exactly on the empty list, head and tail of a cons return its parts -
also for arbitrary, non-numeral element and tail terms), and the list conversions produce exactly what
repeated cons produces."

The Rust `Vec` conversions (`pairList`, `churchList`, `scottList`, `parigotList`) put the elements under the binders of
the list WITHOUT shifting them; `cons` is capture-avoiding.  So everything is proved for ARBITRARY (open) payloads first,
and the statements about closed payloads are corollaries: `ListEnc` (below) is the interface of a list encoding — the laws of a
sequence on the list that repeated `cons` builds from arbitrary terms — from which they follow for the four encodings at once.

`cons a x` is computed by running the generated constant on placeholders (`norR`, `LC/Proofs/NorRead.lean`).
-/
import LC.Proofs.Num.Toolkit
import LC.Proofs.NorRead
import LC.Props.C12
import LC.Props.C17

namespace LC
open Term Spec Enc

theorem C16.forall_tail {α : Type} {p : α → Prop} {t : α} {ts : List α} (h : ∀ u ∈ t :: ts, p u) : ∀ u ∈ ts, p u :=
  fun u hu => h u (List.mem_cons_of_mem _ hu)

theorem C16.forall_map {α : Type} {p : Term → Prop} {f : α → Term} (hf : ∀ a, p (f a)) (l : List α) : ∀ t ∈ l.map f, p t :=
  List.forall_mem_map.2 fun a _ => hf a

namespace ListMore

/-! ### what `cons a x` reduces to, for arbitrary `a`, `x`: a cell with both placed under its binders -/

theorem cons_pair_any (a x : Term) :
    app2 Gen.PList.cons a x ↠ tuple2 (shiftFV 1 0 a) (shiftFV 1 0 x) :=
  norR 2 [a, x] (.app₂ .c .p0 .p1) (.cell .s0 .s1) (by decide)

theorem cons_church_any (a x : Term) :
    app2 Gen.CList.cons a x ↠
      abs (abs (app2 (var 1) (shiftFV 2 0 a) (app2 (shiftFV 2 0 x) (var 2) (var 1)))) :=
  norR 3 [a, x] (.app₂ .c .p0 .p1) (.abs (.abs (.app₂ .bv .s0 (.app₂ .s1 .bv .bv)))) (by decide)

theorem cons_scott_any (a x : Term) :
    app2 Gen.SList.cons a x ↠ abs (abs (app2 (var 1) (shiftFV 2 0 a) (shiftFV 2 0 x))) :=
  norR 2 [a, x] (.app₂ .c .p0 .p1) (.abs (.abs (.app₂ .bv .s0 .s1))) (by decide)

theorem cons_parigot_any (a x : Term) :
    app2 Gen.GList.cons a x ↠
      abs (abs (app3 (var 1) (shiftFV 2 0 a) (shiftFV 2 0 x) (app2 (shiftFV 2 0 x) (var 2) (var 1)))) :=
  norR 3 [a, x] (.app₂ .c .p0 .p1) (.abs (.abs (.app₃ .bv .s0 .s1 (.app₂ .s1 .bv .bv)))) (by decide)

theorem k5_law (x y z : Term) : app3 (abs (abs (abs (abs (abs (var 1)))))) x y z ↠ abs (abs (var 1)) :=
  norR 3 [x, y, z] (.app₃ .c .p0 .p1 .p2) .c (by decide)

theorem k4_law (x y : Term) : app2 (abs (abs (abs (abs (var 1))))) x y ↠ abs (abs (var 1)) :=
  norR 3 [x, y] (.app₂ .c .p0 .p1) .c (by decide)

theorem beta2 (b a c : Term) : app2 (abs (abs b)) a c ↠ applyAux c 1 (applyAux a 2 b) :=
  (Star.congAppL _ (Star.redc _ _)).trans (Star.redc _ _)

/-! ### the observers on a cell

The pair cell is `tuple2 t l`, the Scott and Church cell `λλ. 1 t l`, the Parigot cell `λλ. 1 t l b`.  `is_nil` discards
everything; `head` returns the head, which has to be placed under the binders of the cell (`shiftFV`) — the rest of the cell
is ARBITRARY, also terms that refer to the cell's own binders —; `tail` likewise. -/

theorem head_tuple2 (u l : Term) : app Gen.PList.head (tuple2 (shiftFV 1 0 u) l) ↠ u := by
  unfold tuple2
  lc_beta
  lc_head (Star.redc _ _)
  lc_simp
  lc_beta 2; exact Star.refl _

theorem tail_tuple2 (t l : Term) : app Gen.PList.tail (tuple2 t (shiftFV 1 0 l)) ↠ l := by
  unfold tuple2
  lc_beta
  lc_head (Star.redc _ _)
  lc_simp
  lc_beta 2; exact Star.refl _

theorem is_nil_tuple2 (t l : Term) : app Gen.PList.is_nil (tuple2 t l) ↠ fromBool false := by
  unfold tuple2
  lc_beta
  lc_head (Star.redc _ _)
  simp only [contract, applyAux, if_true, Nat.sub_self, shiftFV_zero]
  exact k5_law _ _ _

/-- the Scott list observers; `Gen.CList.head` and `Gen.CList.is_nil` are the same terms -/
theorem head_cell2 (u l : Term) : app Gen.SList.head (abs (abs (app2 (var 1) (shiftFV 2 0 u) l))) ↠ u := by
  lc_beta
  lc_trans (beta2 _ _ _)
  lc_simp
  lc_beta 2; exact Star.refl _

theorem tail_cell2 (t l : Term) : app Gen.SList.tail (abs (abs (app2 (var 1) t (shiftFV 2 0 l)))) ↠ l := by
  lc_beta
  lc_trans (beta2 _ _ _)
  lc_simp
  lc_beta 2; exact Star.refl _

theorem is_nil_cell2 (t l : Term) : app Gen.SList.is_nil (abs (abs (app2 (var 1) t l))) ↠ fromBool false := by
  lc_beta
  lc_trans (beta2 _ _ _)
  lc_simp
  exact k4_law _ _

theorem head_cell3 (u l b : Term) : app Gen.GList.head (abs (abs (app3 (var 1) (shiftFV 2 0 u) l b))) ↠ u := by
  lc_beta
  lc_trans (beta2 _ _ _)
  lc_simp
  lc_beta 3; exact Star.refl _

theorem tail_cell3 (t l b : Term) : app Gen.GList.tail (abs (abs (app3 (var 1) t (shiftFV 2 0 l) b))) ↠ l := by
  lc_beta
  lc_trans (beta2 _ _ _)
  lc_simp
  lc_beta 3; exact Star.refl _

/-- holds with the repaired `IS_NIL ≡ λl.l TRUE (λaxr.FALSE)` (three-argument cons handler) -/
theorem is_nil_cell3 (t l b : Term) : app Gen.GList.is_nil (abs (abs (app3 (var 1) t l b))) ↠ fromBool false := by
  lc_beta
  lc_trans (beta2 _ _ _)
  lc_simp
  exact k5_law _ _ _

end ListMore
open ListMore

/-! ### `is_nil nil`

(The observers on `cons a x` for arbitrary `a`, `x` are `cons_*_any` followed by the cell lemma: `C16_head_cons_*`,
`C16_tail_cons_*`, `C16_is_nil_cons_*` in `LC/Props/C16Base.lean`; for the Church (fold) list `tail (cons a x) ↠ x` needs `x`
to be a list: see Church `tail` below.) -/

theorem is_nil_nil_pair : app Gen.PList.is_nil Gen.PList.nil ↠ fromBool true :=
  C17.star_of_norSteps 10 _ _ (by decide)

theorem is_nil_nil_scott : app Gen.SList.is_nil Gen.SList.nil ↠ fromBool true :=
  C17.star_of_norSteps 10 _ _ (by decide)

theorem is_nil_nil_parigot : app Gen.GList.is_nil Gen.GList.nil ↠ fromBool true :=
  C17.star_of_norSteps 10 _ _ (by decide)

theorem is_nil_nil_church : app Gen.CList.is_nil Gen.CList.nil ↠ fromBool true :=
  C17.star_of_norSteps 10 _ _ (by decide)

namespace ListMore

/-! ## `is_nil` on the RAW conversions: NO hypothesis on the elements

(`head` needs only that the HEAD element is closed, `tail` only that the TAIL LIST is closed as a whole: `C16_head_*_any`,
`C16_tail_*_any` in `LC/Props/C16More.lean`, from the cell lemmas above.) -/

theorem is_nil_pairList_any (ts : List Term) : app Gen.PList.is_nil (pairList ts) ↠ fromBool ts.isEmpty := by
  cases ts with
  | nil => exact is_nil_nil_pair
  | cons t ts => exact is_nil_tuple2 t _

theorem is_nil_scottList_any (ts : List Term) : app Gen.SList.is_nil (scottList ts) ↠ fromBool ts.isEmpty := by
  cases ts with
  | nil => exact is_nil_nil_scott
  | cons t ts => exact is_nil_cell2 t _

theorem is_nil_churchList_any (ts : List Term) : app Gen.CList.is_nil (churchList ts) ↠ fromBool ts.isEmpty := by
  cases ts with
  | nil => exact is_nil_nil_church
  | cons t ts => exact is_nil_cell2 t _

/-! ## lists of ARBITRARY (open) elements -/

/-- the Church list of ARBITRARY terms `us`, shifted over the list's two binders (what repeated `cons` builds) -/
def openChurchList (us : List Term) : Term := churchList (us.map (shiftFV 2 0))

/-- what Church `tail` returns on `openChurchList us` (`tail_churchList_acc_open` below): the list of the rest, `UD` for the
empty list -/
def openTl : List Term → Term
  | [] => var 0
  | _ :: us => openChurchList us

/-- `placed k d us`: the elements of `us` shifted over the binders they sit under in a pair (`k = 1`) / Scott (`k = 2`) list
that is itself under `d` further binders: element `i` is shifted by `d + k·(i+1)` -/
def placed (k : Nat) (d : Nat) : List Term → List Term
  | [] => []
  | u :: us => shiftFV (d + k) 0 u :: placed k (d + k) us

theorem placed_closed (k d : Nat) {us : List Term} (h : ∀ u ∈ us, Closed u) : placed k d us = us := by
  induction us generalizing d with
  | nil => rfl
  | cons u us ih =>
    rw [placed, shiftFV_closed _ 0 (h u (by simp)), ih _ (C16.forall_tail h)]

theorem placed_length (k d : Nat) (us : List Term) : (placed k d us).length = us.length := by
  induction us generalizing d with
  | nil => rfl
  | cons u us ih => simp [placed, ih]

theorem placed_isEmpty (k d : Nat) (us : List Term) : (placed k d us).isEmpty = us.isEmpty := by
  cases us <;> rfl

theorem normal_placed (k d : Nat) {us : List Term} (h : ∀ u ∈ us, isNormal u = true) :
    ∀ t ∈ placed k d us, isNormal t = true := by
  induction us generalizing d with
  | nil => intro t ht; cases ht
  | cons u us ih =>
    intro t ht
    rcases List.mem_cons.1 ht with rfl | ht
    · rw [isNormal_shiftFV]; exact h u (by simp)
    · exact ih (d + k) (C16.forall_tail h) t ht

theorem shiftFV_pairList_placed (c d : Nat) (h : c ≤ d) (us : List Term) :
    shiftFV 1 c (pairList (placed 1 d us)) = pairList (placed 1 (d + 1) us) := by
  induction us generalizing c d with
  | nil => rfl
  | cons u us ih =>
    simp only [placed, pairList, shiftFV]
    rw [shiftFV_shiftFV_within 1 (d + 1) 0 (c + 1) (by omega) (by omega), ih (c + 1) (d + 1) (by omega)]
    have e : 1 + (d + 1) = d + 1 + 1 := by omega
    have hc : ¬ 1 > c + 1 := by omega
    simp only [e, hc, if_false]

theorem tuple2_elim_open (a b f : Term) : app (tuple2 (shiftFV 1 0 a) (shiftFV 1 0 b)) f ↠ app2 f a b := by
  unfold tuple2; lc_beta; exact Star.refl _

theorem pairList_placed_cons (u : Term) (us : List Term) :
    pairList (placed 1 0 (u :: us)) = tuple2 (shiftFV 1 0 u) (shiftFV 1 0 (pairList (placed 1 0 us))) := by
  rw [shiftFV_pairList_placed 0 0 (Nat.le_refl 0)]; rfl

theorem cons_pairList_open (u : Term) (us : List Term) :
    app2 Gen.PList.cons u (pairList (placed 1 0 us)) ↠ pairList (placed 1 0 (u :: us)) := by
  rw [pairList_placed_cons]; exact cons_pair_any _ _

theorem head_pairList_open (u : Term) (us : List Term) :
    app Gen.PList.head (pairList (placed 1 0 (u :: us))) ↠ u := by
  rw [pairList_placed_cons]; exact head_tuple2 _ _

theorem tail_pairList_open (u : Term) (us : List Term) :
    app Gen.PList.tail (pairList (placed 1 0 (u :: us))) ↠ pairList (placed 1 0 us) := by
  rw [pairList_placed_cons]; exact tail_tuple2 _ _

theorem is_nil_pairList_open (us : List Term) :
    app Gen.PList.is_nil (pairList (placed 1 0 us)) ↠ fromBool us.isEmpty := by
  rw [← placed_isEmpty 1 0 us]; exact is_nil_pairList_any _

theorem shiftFV_scottList_placed (c d : Nat) (h : c ≤ d) (us : List Term) :
    shiftFV 2 c (scottList (placed 2 d us)) = scottList (placed 2 (d + 2) us) := by
  induction us generalizing c d with
  | nil => simp [placed, scottList, shiftFV]
  | cons u us ih =>
    simp only [placed, scottList, shiftFV]
    rw [shiftFV_shiftFV_within 2 (d + 2) 0 (c + 1 + 1) (by omega) (by omega), ih (c + 1 + 1) (d + 2) (by omega)]
    have e : 2 + (d + 2) = d + 2 + 2 := by omega
    have hc : ¬ 1 > c + 1 + 1 := by omega
    simp only [e, hc, if_false]

theorem scottList_placed_cons (u : Term) (us : List Term) :
    scottList (placed 2 0 (u :: us)) =
      abs (abs (app2 (var 1) (shiftFV 2 0 u) (shiftFV 2 0 (scottList (placed 2 0 us))))) := by
  rw [shiftFV_scottList_placed 0 0 (Nat.le_refl 0)]; rfl

theorem cons_scottList_open (u : Term) (us : List Term) :
    app2 Gen.SList.cons u (scottList (placed 2 0 us)) ↠ scottList (placed 2 0 (u :: us)) := by
  rw [scottList_placed_cons]; exact cons_scott_any _ _

theorem head_scottList_open (u : Term) (us : List Term) :
    app Gen.SList.head (scottList (placed 2 0 (u :: us))) ↠ u := by
  rw [scottList_placed_cons]; exact head_cell2 _ _

theorem tail_scottList_open (u : Term) (us : List Term) :
    app Gen.SList.tail (scottList (placed 2 0 (u :: us))) ↠ scottList (placed 2 0 us) := by
  rw [scottList_placed_cons]; exact tail_cell2 _ _

theorem is_nil_scottList_open (us : List Term) :
    app Gen.SList.is_nil (scottList (placed 2 0 us)) ↠ fromBool us.isEmpty := by
  rw [← placed_isEmpty 2 0 us]; exact is_nil_scottList_any _

/-! ### Church (fold) list

An index `1` / `2` free in an element is captured by the list's own binders (it then denotes the cons function / the nil
value of the fold).  A list of arbitrary terms `us`, correctly placed under the two binders, is
`churchList (us.map (shiftFV 2 0))`. -/

theorem applyAux_self (d : Nat) (t : Term) :
    applyAux (var 1) (d + 1) (applyAux (var 2) (d + 2) (shiftFV 2 (d + 2) t)) = t := by
  induction t generalizing d with
  | var i => grind [shiftFV, applyAux]
  | abs b ih => simp only [shiftFV, applyAux]; rw [ih (d + 1)]
  | app l r ihl ihr => simp only [shiftFV, applyAux]; rw [ihl, ihr]

theorem eta2 (b : Term) : app2 (shiftFV 2 0 (abs (abs b))) (var 2) (var 1) ↠ b := by
  lc_trans (beta2 _ _ _)
  rw [applyAux_self 0]; exact Star.refl _

/-- `cons a (into_church ts) ↠ into_church (a↑2 :: ts)`: ARBITRARY `a` and `ts` (no closedness) -/
theorem cons_churchList_open (a : Term) (ts : List Term) :
    app2 Gen.CList.cons a (churchList ts) ↠ churchList (shiftFV 2 0 a :: ts) := by
  lc_trans (cons_church_any a _)
  show _ ↠ abs (abs (app2 (var 1) (shiftFV 2 0 a) (churchListBody ts)))
  exact Star.congAbs (Star.congAbs (Star.congAppR _ (eta2 _)))

theorem openChurchList_nil : openChurchList [] = Gen.CList.nil := by decide

theorem map_shiftFV_closed {us : List Term} (h : ∀ u ∈ us, Closed u) (a o : Nat) : us.map (shiftFV a o) = us := by
  conv => rhs; rw [← List.map_id us]
  exact List.map_congr_left fun u hu => shiftFV_closed a o (h u hu)

theorem openChurchList_closed {us : List Term} (h : ∀ u ∈ us, Closed u) : openChurchList us = churchList us := by
  rw [openChurchList, map_shiftFV_closed h]

theorem cons_openChurchList (a : Term) (us : List Term) :
    app2 Gen.CList.cons a (openChurchList us) ↠ openChurchList (a :: us) :=
  cons_churchList_open a _

theorem starElem_shiftFV (n c : Term) : starElem n c ∘ shiftFV 2 0 = id := by
  funext u; lc_simp [starElem]

theorem churchList_elim_raw (ts : List Term) (n c : Term) :
    app2 (churchList ts) n c ↠ (ts.map (starElem n c)).foldr (fun t acc => app2 c t acc) n := by
  lc_trans (beta2 _ _ _)
  rw [churchListBody_inst_raw]; exact Star.refl _

theorem head_churchList_open (u : Term) (us : List Term) :
    app Gen.CList.head (openChurchList (u :: us)) ↠ u :=
  head_cell2 u _

theorem is_nil_churchList_open (us : List Term) :
    app Gen.CList.is_nil (openChurchList us) ↠ fromBool us.isEmpty := by
  have := is_nil_churchList_any (us.map (shiftFV 2 0))
  rwa [List.isEmpty_map] at this

/-! ### Parigot list

A Parigot cell `λλ. 1 t L (unabs2 L)` holds its tail TWICE, at two different binder depths (`L` under the cell's two
binders, `unabs2 L` directly as part of the cell's body), so an open element occurs at two different shifts: the list
that repeated `cons` builds from open terms is not `parigotList` of any list.  It is the following term. -/

def openParigotList (d : Nat) : List Term → Term
  | [] => abs (abs (var 2))
  | u :: us =>
    abs (abs (app3 (var 1) (shiftFV (d + 2) 0 u) (openParigotList (d + 2) us) (unabs2 (openParigotList d us))))

theorem openParigotList_shape (d : Nat) (us : List Term) : ∃ b, openParigotList d us = abs (abs b) := by
  cases us with
  | nil => exact ⟨_, rfl⟩
  | cons u us => exact ⟨_, rfl⟩

theorem openParigotList_closed (d : Nat) {us : List Term} (h : ∀ u ∈ us, Closed u) :
    openParigotList d us = parigotList us := by
  induction us generalizing d with
  | nil => rfl
  | cons u us ih =>
    have h' : ∀ v ∈ us, Closed v := C16.forall_tail h
    rw [openParigotList, parigotList, shiftFV_closed _ 0 (h u (by simp)), ih _ h', ih _ h']

theorem shiftFV_unabs2 (a c : Nat) (b : Term) :
    shiftFV a (c + 1 + 1) (unabs2 (abs (abs b))) = unabs2 (shiftFV a c (abs (abs b))) := rfl

theorem shiftFV_openParigotList (c d : Nat) (h : c ≤ d) (us : List Term) :
    shiftFV 2 c (openParigotList d us) = openParigotList (d + 2) us := by
  induction us generalizing c d with
  | nil => simp [openParigotList, shiftFV]
  | cons u us ih =>
    obtain ⟨b, hb⟩ := openParigotList_shape d us
    have e3 : shiftFV 2 (c + 1 + 1) (unabs2 (openParigotList d us)) = unabs2 (openParigotList (d + 2) us) := by
      rw [← ih c d h, hb]; rfl
    simp only [openParigotList, shiftFV]
    rw [shiftFV_shiftFV_within 2 (d + 2) 0 (c + 1 + 1) (by omega) (by omega), ih (c + 1 + 1) (d + 2) (by omega), e3]
    have e : 2 + (d + 2) = d + 2 + 2 := by omega
    have hc : ¬ 1 > c + 1 + 1 := by omega
    simp only [e, hc, if_false]

theorem openParigotList_cons (u : Term) (us : List Term) :
    openParigotList 0 (u :: us) =
      abs (abs (app3 (var 1) (shiftFV 2 0 u) (shiftFV 2 0 (openParigotList 0 us)) (unabs2 (openParigotList 0 us)))) := by
  rw [shiftFV_openParigotList 0 0 (Nat.le_refl 0)]; rfl

theorem cons_openParigotList (a : Term) (us : List Term) :
    app2 Gen.GList.cons a (openParigotList 0 us) ↠ openParigotList 0 (a :: us) := by
  lc_trans (cons_parigot_any _ _)
  rw [openParigotList_cons]
  obtain ⟨b, hb⟩ := openParigotList_shape 0 us
  rw [hb]
  exact Star.congAbs (Star.congAbs (Star.congAppR _ (eta2 b)))

theorem head_parigotList_open (u : Term) (us : List Term) :
    app Gen.GList.head (openParigotList 0 (u :: us)) ↠ u :=
  head_cell3 u _ _

theorem tail_parigotList_open (u : Term) (us : List Term) :
    app Gen.GList.tail (openParigotList 0 (u :: us)) ↠ openParigotList 0 us := by
  rw [openParigotList_cons]; exact tail_cell3 _ _ _

theorem is_nil_parigotList_open (us : List Term) :
    app Gen.GList.is_nil (openParigotList 0 us) ↠ fromBool us.isEmpty := by
  cases us with
  | nil => exact is_nil_nil_parigot
  | cons u us => exact is_nil_cell3 _ _ _

end ListMore

/-! ## Church `tail`: `TAIL ≡ λl.FST (l (PAIR UD NIL) (λap. PAIR (SND p) (CONS a (SND p))))` -/

namespace ListBasic

/-- the start value `PAIR UD NIL` of the fold in `TAIL`, read off the generated constant -/
def tailNil : Term :=
  match Gen.CList.tail with
  | abs (app _ (app (app _ n) _)) => n
  | _ => var 0

/-- the step function `λap. PAIR (SND p) (CONS a (SND p))` of the fold in `TAIL`, read off the generated constant -/
def tailStep : Term :=
  match Gen.CList.tail with
  | abs (app _ (app (app _ _) c)) => c
  | _ => var 0

theorem tailNil_eq : tailNil = app2 Gen.Pair.pair (var 0) Gen.CList.nil := by decide

theorem tailStep_law (a p : Term) :
    app2 tailStep a p ↠ app2 Gen.Pair.pair (app Gen.Pair.snd p) (app2 Gen.CList.cons a (app Gen.Pair.snd p)) :=
  norR 2 [a, p] (.app₂ .c .p0 .p1) (.app₂ .c (.app .c .p1) (.app₂ .c .p0 (.app .c .p1))) (by decide)

theorem tail_unfold (l : Term) : app Gen.CList.tail l ↠ app Gen.Pair.fst (app2 l tailNil tailStep) :=
  norR 1 [l] (.app .c .p0) (.app .c (.app₂ .p0 .c .c)) (by decide)

end ListBasic
open ListBasic

namespace ListMore

theorem tail_fold_open (us : List Term) :
    us.foldr (fun t acc => app2 tailStep t acc) tailNil ↠ app2 Gen.Pair.pair (openTl us) (openChurchList us) := by
  induction us with
  | nil => rw [List.foldr_nil, tailNil_eq, openChurchList_nil]; exact Star.refl _
  | cons u us ih =>
    rw [List.foldr_cons]
    lc_trans (Star.congAppR _ ih)
    lc_trans (tailStep_law _ _)
    have hsnd := C17_snd (openTl us) (openChurchList us)
    lc_trans (Star.congApp (Star.congAppR _ hsnd) (Star.congAppR _ hsnd))
    exact Star.congAppR _ (cons_openChurchList u us)

theorem tail_churchList_raw (ts : List Term) :
    app Gen.CList.tail (churchList ts) ↠ openTl (ts.map (starElem tailNil tailStep)) := by
  lc_trans (tail_unfold _)
  lc_trans (Star.congAppR _ ((churchList_elim_raw ts _ _).trans (tail_fold_open _)))
  exact C17_fst _ _

theorem tail_churchList_acc_open (us : List Term) :
    app Gen.CList.tail (openChurchList us) ↠ openTl us := by
  have := tail_churchList_raw (us.map (shiftFV 2 0))
  rwa [List.map_map, starElem_shiftFV, List.map_id] at this

theorem tail_churchList_open (u : Term) (us : List Term) :
    app Gen.CList.tail (openChurchList (u :: us)) ↠ openChurchList us :=
  tail_churchList_acc_open (u :: us)

theorem tail_cons_openChurchList (a : Term) (us : List Term) :
    app Gen.CList.tail (app2 Gen.CList.cons a (openChurchList us)) ↠ openChurchList us :=
  (Star.congAppR _ (cons_openChurchList a us)).trans (tail_churchList_open a us)

end ListMore

namespace ListBasic

theorem unabs2_parigotList (ts : List Term) : unabs2 (parigotList ts) = parigotListBody ts := by
  rw [parigotList_eq]; rfl

end ListBasic

/-! ### the Church list of normal terms is normal (the other three: `C12.pairList_normal`, `C12.scottList_normal`, `C12.parigotList_normal`) -/

theorem normal_churchList (ts : List Term) (h : ∀ t ∈ ts, isNormal t = true) : isNormal (churchList ts) = true :=
  (C12_lists_normal ts h).2.1

/-! ## the four encodings as instances of ONE interface

`ListEnc`: constructors, observers, the Rust conversion `conv` (elements not shifted) and `olist`, the list that repeated
`cons` builds from ARBITRARY terms, with the laws of a sequence on `olist`.  What C16 says about conversions and observers,
for open and for closed elements, follows once from the laws; the encodings differ only in how they establish them (a
cell for pair/Scott/Parigot, a fold for Church). -/

structure ListEnc where
  (nil cons head tail isNil : Term)
  /-- the `Vec` conversion of the crate: the elements are put under the list's binders as they are -/
  conv : List Term → Term
  /-- the list of arbitrary terms, each placed (shifted) under the binders it sits under: `pairList (placed 1 0 us)`
  (named `OpenLib.opl us` in the pair-list library, `LC/Proofs/List/OpenLibA.lean`), `scottList (placed 2 0 us)`,
  `openChurchList us`, `openParigotList 0 us` -/
  olist : List Term → Term
  olist_nil : olist [] = nil
  olist_closed : ∀ {us : List Term}, (∀ u ∈ us, Closed u) → olist us = conv us
  cons_olist : ∀ u us, app2 cons u (olist us) ↠ olist (u :: us)
  head_olist : ∀ u us, app head (olist (u :: us)) ↠ u
  tail_olist : ∀ u us, app tail (olist (u :: us)) ↠ olist us
  isNil_olist : ∀ us, app isNil (olist us) ↠ fromBool us.isEmpty
  normal_conv : ∀ ts, (∀ t ∈ ts, isNormal t = true) → isNormal (conv ts) = true

namespace ListEnc
variable (E : ListEnc)

theorem conv_is_cons_open (us : List Term) : us.foldr (fun t acc => app2 E.cons t acc) E.nil ↠ E.olist us := by
  induction us with
  | nil => rw [E.olist_nil]; exact Star.refl _
  | cons u us ih => exact (Star.congAppR _ ih).trans (E.cons_olist u us)

section Closed
variable {t : Term} {ts : List Term} (ht : Closed t) (hts : ∀ u ∈ ts, Closed u)
include hts

theorem conv_is_cons : ts.foldr (fun t acc => app2 E.cons t acc) E.nil ↠ E.conv ts := by
  have := E.conv_is_cons_open ts; rwa [E.olist_closed hts] at this

theorem isNil_conv : app E.isNil (E.conv ts) ↠ fromBool ts.isEmpty := by
  have := E.isNil_olist ts; rwa [E.olist_closed hts] at this

include ht
theorem closed_cons : ∀ u ∈ t :: ts, Closed u := by simpa using ⟨ht, hts⟩

theorem cons_conv : app2 E.cons t (E.conv ts) ↠ E.conv (t :: ts) := by
  have := E.cons_olist t ts; rwa [E.olist_closed hts, E.olist_closed (closed_cons ht hts)] at this

theorem head_conv : app E.head (E.conv (t :: ts)) ↠ t := by
  have := E.head_olist t ts; rwa [E.olist_closed (closed_cons ht hts)] at this

theorem tail_conv : app E.tail (E.conv (t :: ts)) ↠ E.conv ts := by
  have := E.tail_olist t ts; rwa [E.olist_closed (closed_cons ht hts), E.olist_closed hts] at this

theorem tail_cons_conv : app E.tail (app2 E.cons t (E.conv ts)) ↠ E.conv ts :=
  (Star.congAppR _ (E.cons_conv ht hts)).trans (E.tail_conv ht hts)

end Closed

theorem conv_is_nf_of_cons (ts : List Term) (h : ∀ t ∈ ts, Closed t) (hn : ∀ t ∈ ts, isNormal t = true)
    (w : Term) (hw : ts.foldr (fun t acc => app2 E.cons t acc) E.nil ↠ w) : w ↠ E.conv ts :=
  star_normal_of_star hw (E.conv_is_cons h) ((isNormal_iff_normal _).1 (E.normal_conv ts hn))

end ListEnc

def pairListEnc : ListEnc where
  nil := Gen.PList.nil; cons := Gen.PList.cons; head := Gen.PList.head; tail := Gen.PList.tail; isNil := Gen.PList.is_nil
  conv := pairList
  olist us := pairList (placed 1 0 us)
  olist_nil := rfl
  olist_closed h := by rw [placed_closed 1 0 h]
  cons_olist := cons_pairList_open
  head_olist := head_pairList_open
  tail_olist := tail_pairList_open
  isNil_olist := is_nil_pairList_open
  normal_conv := C12.pairList_normal

def scottListEnc : ListEnc where
  nil := Gen.SList.nil; cons := Gen.SList.cons; head := Gen.SList.head; tail := Gen.SList.tail; isNil := Gen.SList.is_nil
  conv := scottList
  olist us := scottList (placed 2 0 us)
  olist_nil := rfl
  olist_closed h := by rw [placed_closed 2 0 h]
  cons_olist := cons_scottList_open
  head_olist := head_scottList_open
  tail_olist := tail_scottList_open
  isNil_olist := is_nil_scottList_open
  normal_conv := C12.scottList_normal

def churchListEnc : ListEnc where
  nil := Gen.CList.nil; cons := Gen.CList.cons; head := Gen.CList.head; tail := Gen.CList.tail; isNil := Gen.CList.is_nil
  conv := churchList
  olist := openChurchList
  olist_nil := openChurchList_nil
  olist_closed := openChurchList_closed
  cons_olist := cons_openChurchList
  head_olist := head_churchList_open
  tail_olist := tail_churchList_open
  isNil_olist := is_nil_churchList_open
  normal_conv := normal_churchList

def parigotListEnc : ListEnc where
  nil := Gen.GList.nil; cons := Gen.GList.cons; head := Gen.GList.head; tail := Gen.GList.tail; isNil := Gen.GList.is_nil
  conv := parigotList
  olist := openParigotList 0
  olist_nil := rfl
  olist_closed := openParigotList_closed 0
  cons_olist := cons_openParigotList
  head_olist := head_parigotList_open
  tail_olist := tail_parigotList_open
  isNil_olist := is_nil_parigotList_open
  normal_conv := C12.parigotList_normal

theorem cons_churchList (t : Term) (ts : List Term) (ht : Closed t) (hts : ∀ u ∈ ts, Closed u) :
    app2 Gen.CList.cons t (churchList ts) ↠ churchList (t :: ts) := churchListEnc.cons_conv ht hts

/-- hence the conversion's result is THE normal form of the repeated cons (any reduct of the cons chain still reduces
to it), for closed normal elements -/
theorem conv_is_nf_of_cons_pair (ts : List Term) (h : ∀ t ∈ ts, Closed t) (hn : ∀ t ∈ ts, isNormal t = true)
    (w : Term) (hw : ts.foldr (fun t acc => app2 Gen.PList.cons t acc) Gen.PList.nil ↠ w) : w ↠ pairList ts :=
  pairListEnc.conv_is_nf_of_cons ts h hn w hw

theorem conv_is_nf_of_cons_church (ts : List Term) (h : ∀ t ∈ ts, Closed t) (hn : ∀ t ∈ ts, isNormal t = true)
    (w : Term) (hw : ts.foldr (fun t acc => app2 Gen.CList.cons t acc) Gen.CList.nil ↠ w) : w ↠ churchList ts :=
  churchListEnc.conv_is_nf_of_cons ts h hn w hw

theorem conv_is_nf_of_cons_scott (ts : List Term) (h : ∀ t ∈ ts, Closed t) (hn : ∀ t ∈ ts, isNormal t = true)
    (w : Term) (hw : ts.foldr (fun t acc => app2 Gen.SList.cons t acc) Gen.SList.nil ↠ w) : w ↠ scottList ts :=
  scottListEnc.conv_is_nf_of_cons ts h hn w hw

theorem conv_is_nf_of_cons_parigot (ts : List Term) (h : ∀ t ∈ ts, Closed t) (hn : ∀ t ∈ ts, isNormal t = true)
    (w : Term) (hw : ts.foldr (fun t acc => app2 Gen.GList.cons t acc) Gen.GList.nil ↠ w) :
    w ↠ parigotList ts :=
  parigotListEnc.conv_is_nf_of_cons ts h hn w hw

/-- the tail of the empty Church list is the crate's "undefined" marker `UD` (= `var 0`), not a list -/
theorem tail_churchList_nil : app Gen.CList.tail (churchList []) ↠ var 0 :=
  tail_churchList_acc_open []

set_option linter.unusedVariables false in
/-- `head (cons a l)` where `l` is the conversion of a `Vec` of closed terms.  The two hypotheses are not used:
`C16_head_cons_church` is the law for an arbitrary `a` and an arbitrary term in place of `l`. -/
theorem head_cons_church (a : Term) (ts : List Term) (ha : Closed a) (h : ∀ t ∈ ts, Closed t) :
    app Gen.CList.head (app2 Gen.CList.cons a (churchList ts)) ↠ a :=
  (Star.congAppR _ (cons_church_any a _)).trans (head_cell2 a _)

/-! ### the observers are partial: `head`/`tail` of the empty list give `UD` (= `var 0`; pair list: `I` / `FALSE`-like junk) -/

theorem head_nil_church : app Gen.CList.head Gen.CList.nil ↠ var 0 := C17.star_of_norSteps 10 _ _ (by decide)
theorem head_nil_scott : app Gen.SList.head Gen.SList.nil ↠ var 0 := C17.star_of_norSteps 10 _ _ (by decide)
theorem tail_nil_scott : app Gen.SList.tail Gen.SList.nil ↠ var 0 := C17.star_of_norSteps 10 _ _ (by decide)
theorem head_nil_parigot : app Gen.GList.head Gen.GList.nil ↠ var 0 := C17.star_of_norSteps 10 _ _ (by decide)
theorem tail_nil_parigot : app Gen.GList.tail Gen.GList.nil ↠ var 0 := C17.star_of_norSteps 10 _ _ (by decide)
theorem head_nil_pair : app Gen.PList.head Gen.PList.nil ↠ Gen.Comb.I := C17.star_of_norSteps 10 _ _ (by decide)
theorem tail_nil_pair : app Gen.PList.tail Gen.PList.nil ↠ Gen.Comb.I := C17.star_of_norSteps 10 _ _ (by decide)

/-! ### non-vacuity: open payloads, concrete lists -/

namespace ListBasic
def q₁ : Term := app (var 3) (var 1)
def q₂ : Term := var 7
def q₃ : Term := abs (app (var 1) (var 4))
end ListBasic

example : app Gen.PList.head (app2 Gen.PList.cons q₁ q₂) ↠ app (var 3) (var 1) :=
  (Star.congAppR _ (cons_pair_any q₁ q₂)).trans (head_tuple2 q₁ _)
example : app Gen.PList.tail (app2 Gen.PList.cons q₁ q₂) ↠ var 7 :=
  (Star.congAppR _ (cons_pair_any q₁ q₂)).trans (tail_tuple2 _ q₂)
example : app Gen.SList.tail (app2 Gen.SList.cons q₃ q₁) ↠ app (var 3) (var 1) :=
  (Star.congAppR _ (cons_scott_any q₃ q₁)).trans (tail_cell2 _ q₁)
example : app Gen.GList.head (app2 Gen.GList.cons q₃ q₂) ↠ abs (app (var 1) (var 4)) :=
  (Star.congAppR _ (cons_parigot_any q₃ q₂)).trans (head_cell3 q₃ _ _)
example : app Gen.GList.is_nil (app2 Gen.GList.cons q₁ q₂) ↠ Gen.Bool.fls :=
  (Star.congAppR _ (cons_parigot_any q₁ q₂)).trans (is_nil_cell3 _ _ _)
example : app Gen.CList.head (app2 Gen.CList.cons q₃ q₂) ↠ abs (app (var 1) (var 4)) :=
  (Star.congAppR _ (cons_church_any q₃ q₂)).trans (head_cell2 q₃ _)
example : app Gen.CList.is_nil (app2 Gen.CList.cons q₁ q₂) ↠ Gen.Bool.fls :=
  (Star.congAppR _ (cons_church_any q₁ q₂)).trans (is_nil_cell2 _ _)

/-- the same facts checked independently by running the normal-order reducer on the instantiated terms
(capture-avoidance is exercised: `q₃` has a binder, `cons` puts the payloads under two or three binders) -/
example :
    norSteps 20 (app Gen.PList.head (app2 Gen.PList.cons q₁ q₂)) = q₁ ∧
    norSteps 20 (app Gen.PList.tail (app2 Gen.PList.cons q₁ q₂)) = q₂ ∧
    norSteps 20 (app Gen.SList.head (app2 Gen.SList.cons q₃ q₁)) = q₃ ∧
    norSteps 20 (app Gen.SList.tail (app2 Gen.SList.cons q₃ q₁)) = q₁ ∧
    norSteps 20 (app Gen.GList.head (app2 Gen.GList.cons q₃ q₂)) = q₃ ∧
    norSteps 20 (app Gen.GList.tail (app2 Gen.GList.cons q₃ q₂)) = q₂ ∧
    norSteps 20 (app Gen.CList.head (app2 Gen.CList.cons q₃ q₂)) = q₃ ∧
    norSteps 20 (app Gen.GList.is_nil (app2 Gen.GList.cons q₁ q₂)) = fromBool false ∧
    norSteps 20 (app Gen.CList.is_nil (app2 Gen.CList.cons q₁ q₂)) = fromBool false := by decide +kernel

/-- a concrete non-numeral list `[I, K, church 2]`: conversion = normal form of repeated cons, in all four encodings;
`tail` of the Church list -/
example :
    let ts := [Gen.Comb.I, Gen.Comb.K, intoChurch 2]
    norSteps 100 (ts.foldr (fun t acc => app2 Gen.PList.cons t acc) Gen.PList.nil) = pairList ts ∧
    norSteps 100 (ts.foldr (fun t acc => app2 Gen.CList.cons t acc) Gen.CList.nil) = churchList ts ∧
    norSteps 100 (ts.foldr (fun t acc => app2 Gen.SList.cons t acc) Gen.SList.nil) = scottList ts ∧
    norSteps 100 (ts.foldr (fun t acc => app2 Gen.GList.cons t acc) Gen.GList.nil) = parigotList ts ∧
    norSteps 200 (app Gen.CList.tail (churchList ts)) = churchList ts.tail ∧
    norSteps 100 (app Gen.GList.tail (parigotList ts)) = parigotList ts.tail := by decide +kernel

example : app Gen.CList.tail (churchList [Gen.Comb.I, Gen.Comb.K, intoChurch 2]) ↠
    churchList [Gen.Comb.K, intoChurch 2] :=
  churchListEnc.tail_conv (by decide) (by decide)

/-- closedness of the elements is NEEDED for `cons t (xList ts) ↠ xList (t :: ts)`: the Rust conversions put the
elements under binders without shifting them, `cons` is capture-avoiding.  With the open element `var 1`: -/
example :
    norSteps 20 (app2 Gen.PList.cons (var 1) (pairList [])) ≠ pairList [var 1] ∧
    norSteps 20 (app2 Gen.SList.cons (var 1) (scottList [])) ≠ scottList [var 1] := by decide

end LC
