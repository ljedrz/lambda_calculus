/-
C16 — the HIGHER-ORDER pair-list library functions (`map filter take_while drop_while foldl foldr
zip_with`) under the eager order HAP for an ARBITRARY function argument, on lists of arbitrary admissible elements
(`C16.HapValue`).  Generic cores (one derivation per function, by induction on the list), parametrised by what the
evaluation order really does with the function argument:

* `map`, `zip_with`: `f x` stands in a CBV position (the operand of `CONS`, itself the operator of an application): it is
  evaluated by CBV to a WEAK value `w`, which is normalised (HAP) only when the finished list is normalised;
* `filter`, `take_while`, `drop_while`: `p x` is the head of an application: evaluated by CBV, must BE `TRUE`/`FALSE`;
* `foldl`: the accumulator `f s x` is a CBV position: a chain of weak values, the last one normalised at the end;
* `foldr`: the recursive call is the operand of `f x`: evaluated by HAP to a normal form first, then `f x acc` runs (HAP).

Last section: divergence of `reduce .HAP 0` on a CONCRETE term, for the counterexamples of `LC/Props/C16HigherHap.lean`.  The
kernel runs the one-step strategy `stepHap` on the term until it reaches a term that steps to itself (`diverges_of_cycle`);
a run of the reducer is such a step sequence ending in a normal form of the strategy (`reduce_sound`), and there is none
(`no_normal_form_of_cycle`).  This argues on step sequences, not on derivations: `Ev.reduce_none`
(`LC/Proofs/Eager/BigStep.lean`) needs that the term has NO derivation, which for a family of terms is an induction on the
derivation and for one ground term of thirty steps would be that many inversions by hand.
-/
import LC.Proofs.List.MoreHapLib

namespace LC
open Term Spec Enc RL Eager C16 EagerListMore PairLib


namespace HigherHap

theorem hap_tuple2 {a a' b b' : Term} (wa : isWNF a = true) (ha : Ev .HAP a a') (hb : Ev .HAP b b') :
    Ev .HAP (tuple2 a b) (tuple2 a' b') :=
  Ev.abs rfl (Ev.deep rfl (Ev.neu rfl (Ev.var _ 1) rfl (Ev.of_isWNF wa)) rfl hb
    (Ev.deep rfl (Ev.var _ 1) rfl ha (Ev.var _ 1)))

/-! ## MAP ≡ Z (λzfl.IS_NIL l (λx.NIL) (λx.CONS (f (HEAD l)) (z f (TAIL l))) I) -/

/-- what HAP does with `f x` inside `map`/`zip_with`: CBV to a weak value `w`, and `w` is normalised at the very end -/
def CbvThenHap (t r : Term) : Prop := ∃ w, EvalCbv t w ∧ EvalHap w r

theorem CbvThenHap.ev {t r : Term} (h : CbvThenHap t r) : ∃ w, Ev .CBV t w ∧ Ev .HAP w r := by
  obtain ⟨w, h1, h2⟩ := h
  exact ⟨w, .of_cbv h1, .of_hap h2⟩

theorem CbvThenHap.of_ev {t w r : Term} (h1 : Ev .CBV t w) (h2 : Ev .HAP w r) : CbvThenHap t r :=
  ⟨w, h1.toCbv, h2.toHap⟩

theorem CbvThenHap.of_cbv_normal {t r : Term} (h : EvalCbv t r) (hn : isNormal r = true) : CbvThenHap t r :=
  ⟨r, h, (Ev.of_isNormal hn).toHap⟩

theorem CbvThenHap.closed {t r : Term} (h : CbvThenHap t r) (ht : Closed t) : Closed r := by
  obtain ⟨w, h1, h2⟩ := h.ev
  exact closed_of_star h2.star (closed_of_star h1.star ht)

theorem CbvThenHap.normal {t r : Term} (h : CbvThenHap t r) : isNormal r = true := by
  obtain ⟨w, _, h2⟩ := h.ev
  exact h2.isNormal

theorem map_core {α : Type} (F : Term) (cF : Closed F) (wF : isWNF F = true) (e r : α → Term) (ns : List α)
    (hv : ∀ a ∈ ns, HapValue (e a)) (hfx : ∀ a ∈ ns, CbvThenHap (app F (e a)) (r a)) :
    Ev .HAP (app2 (ZF mapF) F (pairList (ns.map e))) (pairList (ns.map r)) := by
  induction ns with
  | nil =>
    show Ev .HAP (app2 _ F (pairList [])) (pairList [])
    exact evR .HAP 101 (.weak cF wF .nil) .nil .nil 30 (.app (.app .c .ph0) .c) .c (by decide +kernel)
  | cons n ns ih =>
    have hv' : ∀ a ∈ ns, HapValue (e a) := forall_tail hv
    have ih' := ih hv' (forall_tail hfx)
    obtain ⟨w, hw1, hw2⟩ := (hfx n List.mem_cons_self).ev
    have hx := hv n List.mem_cons_self
    have cw : Closed w := closed_of_star hw1.star (closed_app cF hx.closed)
    have hR : HapValue (pairList (ns.map r)) :=
      .mk' (closed_of_star ih'.star (closed_app2 (by decide) cF (hapValue_pairList (hv_map hv')).closed)) ih'.isNormal
    have hg : HapValue (r n) := .mk' (closed_of_star hw2.star cw) hw2.isNormal
    have hrec := ev_stub2 (o := .HAP) closed_mapF (Ev.of_isWNF wF) (tail_facts (hv_map hv)).2 ih'
    have hcell := hap_tuple2 hw1.isWNF hw2 hR.ev
    -- placeholders: the cell, the results of the recursive call and of `F x`, then `F` and the weak value of `F x`;
    -- looked up: `F x`, the recursive call, the cell that holds the weak value
    exact evR .HAP 101 (.cell (hv_map hv) (.value hR (.value hg (.weak cF wF (.weak cw hw1.isWNF .nil)))))
      (.cons (.app .ph4 .ph0) .ph5 hw1 .nil)
      (.cons (.app (.app .c .ph4) (.app .c (.tuple2 .ph0 .ph1))) .ph2 hrec
        (.cons (.tuple2 .ph5 .ph2) (.tuple2 .ph3 .ph2) hcell .nil)) 40
      (.app (.app .c .ph4) (.tuple2 .ph0 .ph1)) (.tuple2 .ph3 .ph2) (by decide +kernel)

/-! ## FILTER ≡ Z (λzpl.IS_NIL l (λx.NIL) (λx.p (HEAD l) (CONS (HEAD l)) I (z p (TAIL l))) I)

`p (HEAD l)` is the head of an application: it is evaluated by CBV and its weak value selects the branch. -/

theorem filter_core {α : Type} (P : Term) (cP : Closed P) (wP : isWNF P = true) (e : α → Term) (b : α → Bool)
    (ns : List α) (hv : ∀ a ∈ ns, HapValue (e a)) (hpx : ∀ a ∈ ns, Ev .CBV (app P (e a)) (fromBool (b a))) :
    Ev .HAP (app2 (ZF filterF) P (pairList (ns.map e))) (pairList ((ns.filter b).map e)) := by
  induction ns with
  | nil =>
    show Ev .HAP (app2 _ P (pairList [])) (pairList [])
    exact evR .HAP 101 (.weak cP wP .nil) .nil .nil 30 (.app (.app .c .ph0) .c) .c (by decide +kernel)
  | cons n ns ih =>
    have hv' : ∀ a ∈ ns, HapValue (e a) := forall_tail hv
    have hz := hpx n List.mem_cons_self
    have hrec := ev_stub2 (o := .HAP) closed_filterF (Ev.of_isWNF wP) (tail_facts (hv_map hv)).2
      (ih hv' (forall_tail hpx))
    -- placeholders: the cell, the result of the recursive call, then `P`; looked up: `P x`, the call
    have vals := Vals.cell (hv_map hv)
      (.value (hapValue_pairList (hv_map (ns := ns.filter b) fun a ha => hv' a (List.mem_filter.1 ha).1)) (.weak cP wP .nil))
    rw [List.map_cons]
    cases hb : b n
    · rw [hb] at hz
      rw [List.filter_cons_of_neg (by simp [hb])]
      exact evR .HAP 101 vals (.cons (.app .ph3 .ph0) .c hz .nil)
        (.cons (.app (.app .c .ph3) (.app .c (.tuple2 .ph0 .ph1))) .ph2 hrec .nil) 40
        (.app (.app .c .ph3) (.tuple2 .ph0 .ph1)) .ph2 (by decide +kernel)
    · rw [hb] at hz
      rw [List.filter_cons_of_pos (by simp [hb]), List.map_cons]
      exact evR .HAP 101 vals (.cons (.app .ph3 .ph0) .c hz .nil)
        (.cons (.app (.app .c .ph3) (.app .c (.tuple2 .ph0 .ph1))) .ph2 hrec .nil) 40
        (.app (.app .c .ph3) (.tuple2 .ph0 .ph1)) (.tuple2 .ph0 .ph2) (by decide +kernel)

/-! ## TAKE_WHILE ≡ Z (λzfl. IS_NIL l (λx.NIL) (λx.f (HEAD l) (CONS (HEAD l) (z f (TAIL l))) NIL) I)

The recursive call is in operator position: the whole recursion runs under CBV, only the outermost call is HAP. -/

/-- one table, one reading of the terms: the CBV and the HAP evaluation together -/
theorem cbvHapR (P : Nat) {nv : Nat} {xs : List Term} (hxs : Vals nv xs) {K : List (Term × Term)}
    (hK : Known (Ev .CBV) P xs K) (fuel : Nat) {T T' V V' : Term} (hT : Inst P xs T T') (hV : Inst P xs V V')
    (runC : evalR nv .CBV P K K fuel T = some V) (runH : evalR nv .HAP P K [] fuel T = some V) (hP : 0 < P := by decide) :
    Ev .CBV T' V' ∧ Ev .HAP T' V' :=
  ⟨evR1 .CBV P hxs hK fuel hT hV runC (hP := hP), evR .HAP P hxs hK .nil fuel hT hV runH (hP := hP)⟩

theorem take_while_core {α : Type} (P : Term) (cP : Closed P) (wP : isWNF P = true) (e : α → Term) (b : α → Bool)
    (ns : List α) (hv : ∀ a ∈ ns, HapValue (e a)) (hpx : ∀ a ∈ ns, Ev .CBV (app P (e a)) (fromBool (b a))) :
    Ev .CBV (app2 (ZF takeWhileF) P (pairList (ns.map e))) (pairList ((ns.takeWhile b).map e)) ∧
    Ev .HAP (app2 (ZF takeWhileF) P (pairList (ns.map e))) (pairList ((ns.takeWhile b).map e)) := by
  induction ns with
  | nil =>
    show Ev .CBV (app2 _ P (pairList [])) (pairList []) ∧ Ev .HAP (app2 _ P (pairList [])) (pairList [])
    exact cbvHapR 101 (.weak cP wP .nil) .nil 30 (.app (.app .c .ph0) .c) .c (by decide +kernel) (by decide +kernel)
  | cons n ns ih =>
    have hv' : ∀ a ∈ ns, HapValue (e a) := forall_tail hv
    have hz := hpx n List.mem_cons_self
    have hrec := ev_stub2 (o := .CBV) closed_takeWhileF (Ev.of_isWNF wP) (tail_facts (hv_map hv)).1
      (ih hv' (forall_tail hpx)).1
    -- placeholders: the cell, the result of the recursive call, then `P`; looked up: `P x`, the call (CBV)
    have vals := Vals.cell (hv_map hv)
      (.value (hapValue_pairList (hv_map fun a ha => hv' a ((List.takeWhile_sublist b).subset ha))) (.weak cP wP .nil))
    rw [List.map_cons]
    cases hb : b n
    · rw [hb] at hz
      rw [List.takeWhile_cons_of_neg (by simp [hb])]
      show Ev .CBV _ (pairList []) ∧ Ev .HAP _ (pairList [])
      exact cbvHapR 101 vals
          (.cons (.app .ph3 .ph0) .c hz (.cons (.app (.app .c .ph3) (.app .c (.tuple2 .ph0 .ph1))) .ph2 hrec .nil)) 40
          (.app (.app .c .ph3) (.tuple2 .ph0 .ph1)) .c (by decide +kernel) (by decide +kernel)
    · rw [hb] at hz
      rw [List.takeWhile_cons_of_pos (by simp [hb]), List.map_cons]
      exact cbvHapR 101 vals
          (.cons (.app .ph3 .ph0) .c hz (.cons (.app (.app .c .ph3) (.app .c (.tuple2 .ph0 .ph1))) .ph2 hrec .nil)) 40
          (.app (.app .c .ph3) (.tuple2 .ph0 .ph1)) (.tuple2 .ph0 .ph2) (by decide +kernel) (by decide +kernel)

/-! ## DROP_WHILE ≡ Z (λzfl.IS_NIL l (λx.NIL) (λx.f (HEAD l) (z f (TAIL l)) l) I)

As in `take_while` the recursive call is in operator position (CBV), and it is made whatever `f (HEAD l)` says. -/

theorem drop_while_core {α : Type} (P : Term) (cP : Closed P) (wP : isWNF P = true) (e : α → Term) (b : α → Bool)
    (ns : List α) (hv : ∀ a ∈ ns, HapValue (e a)) (hpx : ∀ a ∈ ns, Ev .CBV (app P (e a)) (fromBool (b a))) :
    Ev .CBV (app2 (ZF dropWhileF) P (pairList (ns.map e))) (pairList ((ns.dropWhile b).map e)) ∧
    Ev .HAP (app2 (ZF dropWhileF) P (pairList (ns.map e))) (pairList ((ns.dropWhile b).map e)) := by
  induction ns with
  | nil =>
    show Ev .CBV (app2 _ P (pairList [])) (pairList []) ∧ Ev .HAP (app2 _ P (pairList [])) (pairList [])
    exact cbvHapR 101 (.weak cP wP .nil) .nil 30 (.app (.app .c .ph0) .c) .c (by decide +kernel) (by decide +kernel)
  | cons n ns ih =>
    have hv' : ∀ a ∈ ns, HapValue (e a) := forall_tail hv
    have hz := hpx n List.mem_cons_self
    have hrec := ev_stub2 (o := .CBV) closed_dropWhileF (Ev.of_isWNF wP) (tail_facts (hv_map hv)).1
      (ih hv' (forall_tail hpx)).1
    -- placeholders: the cell, the result of the recursive call, then `P`; looked up: `P x`, the call (CBV)
    have vals := Vals.cell (hv_map hv)
      (.value (hapValue_pairList (hv_map fun a ha => hv' a ((List.dropWhile_sublist b).subset ha))) (.weak cP wP .nil))
    rw [List.map_cons]
    cases hb : b n
    · rw [hb] at hz
      rw [List.dropWhile_cons_of_neg (by simp [hb]), List.map_cons]
      exact cbvHapR 101 vals
          (.cons (.app .ph3 .ph0) .c hz (.cons (.app (.app .c .ph3) (.app .c (.tuple2 .ph0 .ph1))) .ph2 hrec .nil)) 40
          (.app (.app .c .ph3) (.tuple2 .ph0 .ph1)) (.tuple2 .ph0 .ph1) (by decide +kernel) (by decide +kernel)
    · rw [hb] at hz
      rw [List.dropWhile_cons_of_pos (by simp [hb])]
      exact cbvHapR 101 vals
          (.cons (.app .ph3 .ph0) .c hz (.cons (.app (.app .c .ph3) (.app .c (.tuple2 .ph0 .ph1))) .ph2 hrec .nil)) 40
          (.app (.app .c .ph3) (.tuple2 .ph0 .ph1)) .ph2 (by decide +kernel) (by decide +kernel)

/-! ## FOLDL ≡ Z (λzfsl.IS_NIL l (λx.s) (λx.z f (f s (HEAD l)) (TAIL l)) I)

The accumulator `f s (HEAD l)` is in operator position: evaluated by CBV to a weak value at every element; only the LAST
accumulator is normalised (HAP), at the end of the list. -/

inductive FoldlCbv (F : Term) : Term → List Term → Term → Prop
  | nil (s : Term) : FoldlCbv F s [] s
  | cons {s x s' v : Term} {xs : List Term} :
      EvalCbv (app2 F s x) s' → FoldlCbv F s' xs v → FoldlCbv F s (x :: xs) v

theorem foldl_core (F : Term) (cF : Closed F) (wF : isWNF F = true) (xs : List Term) (hv : ∀ x ∈ xs, HapValue x) :
    ∀ (s v R : Term), Closed s → isWNF s = true → FoldlCbv F s xs v → Ev .HAP v R →
      Ev .HAP (app3 (ZF foldlF) F s (pairList xs)) R := by
  induction xs with
  | nil =>
    intro s v R cs ws hch hR
    cases hch
    have cR : Closed R := closed_of_star hR.star cs
    -- placeholders: the normal form of the start value, then `F` and the start value
    exact evR .HAP 101 (.normal cR hR.isNormal (.weak cF wF (.weak cs ws .nil))) .nil (.cons .ph2 .ph0 hR .nil) 30
      (.app (.app (.app .c .ph1) .ph2) .c) .ph0 (by decide +kernel)
  | cons x xs ih =>
    intro s v R cs ws hch hR
    cases hch with
    | cons hs1 hch' =>
    rename_i s'
    have hs1 := Ev.of_cbv hs1
    have cs' : Closed s' := closed_of_star hs1.star (closed_app2 cF cs (hv x List.mem_cons_self).closed)
    have ih' := ih (forall_tail hv) s' v R cs' hs1.isWNF hch' hR
    have cR : Closed R := closed_of_star ih'.star
      (closed_app (closed_app2 (by decide) cF cs') (hapValue_pairList (forall_tail hv)).closed)
    have hrec := stub_hap3 closed_foldlF (Ev.of_isWNF wF) (Ev.app_arg (head_fact hv) hs1) (tail_facts hv).2 ih'
    -- placeholders: the cell, the result, then `F` and the accumulator; looked up: the call `z f (f s (HEAD l)) (TAIL l)`
    exact evR .HAP 101 (.cell hv (.normal cR ih'.isNormal (.weak cF wF (.weak cs ws .nil)))) .nil
      (.cons (.app (.app (.app .c .ph3) (.app (.app .ph3 .ph4) (.app .c (.tuple2 .ph0 .ph1)))) (.app .c (.tuple2 .ph0 .ph1))) .ph2
        hrec .nil) 40
      (.app (.app (.app .c .ph3) .ph4) (.tuple2 .ph0 .ph1)) .ph2 (by decide +kernel)

/-! ## FOLDR ≡ λfal.Z (λzt.IS_NIL t (λx.a) (λx.f (HEAD t) (z (TAIL t))) I) l

The recursive call is the OPERAND of `f (HEAD t)`: it is evaluated by HAP to a normal form first. -/

inductive FoldrHap (F a : Term) : List Term → Term → Prop
  | nil : FoldrHap F a [] a
  | cons {x r r' : Term} {xs : List Term} :
      FoldrHap F a xs r → EvalHap (app2 F x r) r' → FoldrHap F a (x :: xs) r'

/-- the functional of `foldr` after instantiating `f` and `a` (closed) -/
def foldrG (f a : Term) : Term :=
  abs (abs (app4 Gen.PList.is_nil (var 1) (abs a)
    (abs (app2 f (app Gen.PList.head (var 2)) (app (var 3) (app Gen.PList.tail (var 2))))) Gen.Comb.I))

theorem closed_foldrG {f a : Term} (hf : Closed f) (ha : Closed a) : Closed (foldrG f a) := by
  lc_simp [foldrG]

theorem _root_.LC.Eager.Inst.foldrG {P : Nat} {xs : List Term} {F F' a a' : Term} (hF : Inst (P + 1 + 1 + 1) xs F F')
    (ha : Inst (P + 1 + 1 + 1) xs a a') (hP : 0 < P := by decide) :
    Inst P xs (abs (abs (app4 Gen.PList.is_nil (var 1) (abs a)
      (abs (app2 F (app Gen.PList.head (var 2)) (app (var 3) (app Gen.PList.tail (var 2))))) Gen.Comb.I)))
      (foldrG F' a') :=
  .abs (.abs (.app (.app (.app (.app (.c (hP := by omega)) (.fv (by omega))) (.abs ha))
    (.abs (.app (.app hF (.app (.c (hP := by omega)) (.fv (by omega))))
      (.app (.fv (by omega)) (.app (.c (hP := by omega)) (.fv (by omega))))))) (.c (hP := by omega))))

theorem _root_.LC.Eager.Inst.ZF {P : Nat} {xs : List Term} {g g' : Term} (hg : Inst (P + 1) xs g g') (hP : 0 < P := by decide) :
    Inst P xs (app (abs (app g (abs (app2 (var 2) (var 2) (var 1))))) (abs (app g (abs (app2 (var 2) (var 2) (var 1))))))
      (ZF g') :=
  .app (.abs (.app hg (.abs (.app (.app (.fv (by omega)) (.fv (by omega))) (.fv (by omega))))))
    (.abs (.app hg (.abs (.app (.app (.fv (by omega)) (.fv (by omega))) (.fv (by omega))))))

theorem foldr_unfold {f a l R : Term} (cf : Closed f) (wf : isWNF f = true) (ha : HapValue a) (nl : isNormal l = true)
    (h : Ev .HAP (app (ZF (foldrG f a)) l) R) : Ev .HAP (app3 Gen.PList.foldr f a l) R := by
  have h1 : Ev .CBV (app2 Gen.PList.foldr f a) (abs (app (app Gen.Comb.Z (foldrG f a)) (var 1))) :=
    evR1 .CBV 101 (.value ha (.weak cf wf .nil)) .nil 10 (.app (.app .c .ph1) .ph0)
      (.abs (.app (.app .c (.foldrG .ph1 .ph0)) (.fv (by decide)))) (by decide +kernel)
  refine Ev.red h1 (Ev.of_isNormal nl) ?_
  have hG := closed_foldrG cf ha.closed
  have e : contract (app (app Gen.Comb.Z (foldrG f a)) (var 1)) l = app (app Gen.Comb.Z (foldrG f a)) l := by lc_simp
  rw [e]
  exact hap_Z1 hG rfl h

theorem foldr_core (F : Term) (cF : Closed F) (wF : isWNF F = true) (a : Term) (ha : HapValue a) (xs : List Term)
    (hv : ∀ x ∈ xs, HapValue x) : ∀ R, FoldrHap F a xs R → Ev .HAP (app (ZF (foldrG F a)) (pairList xs)) R := by
  induction xs with
  | nil =>
    intro R hch
    cases hch
    exact evR .HAP 101 (.value ha (.weak cF wF .nil)) .nil .nil 30 (.app (.ZF (.foldrG .ph1 .ph0)) .c) .ph0 (by decide +kernel)
  | cons x xs ih =>
    intro R hch
    cases hch with
    | cons hch' hstep =>
    have hG := closed_foldrG cF ha.closed
    have ih' := ih (forall_tail hv) _ hch'
    have hstep' := ev_app2_args (o := .HAP) (head_fact hv) (ev_stub (o := .HAP) hG (tail_facts hv).2 ih') (.of_hap hstep)
    have cR : Closed R := closed_of_star hstep'.star (closed_app2 cF (closed_app (by decide) (hapValue_pairList hv).closed)
      (closed_app (by lc_simp [stub]) (closed_app (by decide) (hapValue_pairList hv).closed)))
    -- placeholders: `a`, the cell, the result, then `F`; the call `F (HEAD l) (z (TAIL l))` is looked up as it stands
    exact evR .HAP 101 (.value ha (.cell hv (.normal cR hstep'.isNormal (.weak cF wF .nil)))) .nil
      (.cons (.app (.app .ph4 (.app .c (.tuple2 .ph1 .ph2)))
          (.app (.abs (.app (.ZF (.foldrG .ph4 .ph0)) (.fv (by decide)))) (.app .c (.tuple2 .ph1 .ph2)))) .ph3 hstep' .nil) 30
      (.app (.ZF (.foldrG .ph4 .ph0)) (.tuple2 .ph1 .ph2)) .ph3 (by decide +kernel)

/-! ## ZIP_WITH ≡ Z (λzfab.IS_NIL a (λx.NIL) (λx.IS_NIL b NIL (CONS (f (HEAD a) (HEAD b)) (z f (TAIL a) (TAIL b)))) I)

The elements `f (HEAD a) (HEAD b)` are evaluated by CBV to weak values, normalised with the finished list (as in `map`).
The recursion is on `a` only and BOTH branches of `IS_NIL b NIL (CONS …)` are evaluated: when `b` runs out first the
recursion continues with the junk lists `TAIL NIL = I`, `TAIL I = NIL`, … and `f` is CALLED on the remaining elements of `a`
and the junk heads `HEAD NIL = I`, `HEAD I = TRUE` — these calls must terminate too (`JunkOK`), their results are dropped. -/

/-- `f x junk` terminates (CBV, and its weak value has a HAP-normal form) for the two junk heads `I` and `TRUE` -/
def JunkOK (F x : Term) : Prop :=
  (∃ r, CbvThenHap (app2 F x (abs (var 1))) r) ∧ (∃ r, CbvThenHap (app2 F x Gen.Bool.tru) r)

theorem cbv_head_nil : Ev .CBV (app Gen.PList.head (pairList [])) (abs (var 1)) :=
  evR1 .CBV 101 .nil .nil 10 .c .c (by decide +kernel)

theorem cbv_head_I : Ev .CBV (app Gen.PList.head (abs (var 1))) Gen.Bool.tru :=
  evR1 .CBV 101 .nil .nil 10 .c .c (by decide +kernel)

/-- what a junk call `f x junk` contributes: its weak value, and the cell that holds it normalises -/
theorem junk_call {F x L j jv w r : Term} (cF : Closed F) (cx : Closed x) (cj : Closed jv)
    (h2 : Ev .CBV (app Gen.PList.head L) x) (hj : Ev .CBV (app Gen.PList.head j) jv) (hw : Ev .CBV (app2 F x jv) w)
    (hr : Ev .HAP w r) :
    Ev .CBV (app2 F (app Gen.PList.head L) (app Gen.PList.head j)) w ∧ Closed w ∧ HapValue r ∧
      Ev .HAP (tuple2 w (pairList [])) (tuple2 r (pairList [])) := by
  have cw : Closed w := closed_of_star hw.star (closed_app2 cF cx cj)
  exact ⟨ev_app2_args (o := .CBV) h2 hj hw, cw, .mk' (closed_of_star hr.star cw) hr.isNormal,
    hap_tuple2 hw.isWNF hr (Ev.of_isNormal rfl)⟩

theorem zip_with_junk {α : Type} (F : Term) (cF : Closed F) (wF : isWNF F = true) (e1 : α → Term) (ms : List α)
    (hv : ∀ a ∈ ms, HapValue (e1 a)) (hjk : ∀ a ∈ ms, JunkOK F (e1 a)) :
    Ev .HAP (app3 (ZF zipWithF) F (pairList (ms.map e1)) (pairList [])) (pairList []) ∧
    Ev .HAP (app3 (ZF zipWithF) F (pairList (ms.map e1)) (abs (var 1))) (pairList []) := by
  induction ms with
  | nil =>
    show Ev .HAP (app3 _ F (pairList []) _) _ ∧ Ev .HAP (app3 _ F (pairList []) _) _
    exact ⟨evR .HAP 101 (.weak cF wF .nil) .nil .nil 30 (.app (.app (.app .c .ph0) .c) .c) .c (by decide +kernel),
      evR .HAP 101 (.weak cF wF .nil) .nil .nil 30 (.app (.app (.app .c .ph0) .c) .c) .c (by decide +kernel)⟩
  | cons m ms ih =>
    have ih' := ih (forall_tail hv) (forall_tail hjk)
    obtain ⟨⟨r1, hj1⟩, ⟨r2, hj2⟩⟩ := hjk m List.mem_cons_self
    obtain ⟨w1, hw1a, hw1b⟩ := hj1.ev
    obtain ⟨w2, hw2a, hw2b⟩ := hj2.ev
    have h2 := head_fact (hv_map hv)
    have h3 := (tail_facts (hv_map hv)).1
    have cx := (hv m List.mem_cons_self).closed
    obtain ⟨hs1, cw1, hr1, hc1⟩ := junk_call cF cx (by decide) h2 cbv_head_nil hw1a hw1b
    obtain ⟨hs2, cw2, hr2, hc2⟩ := junk_call cF cx (by decide) h2 cbv_head_I hw2a hw2b
    have hrec1 := stub_hap3 closed_zipWithF (Ev.of_isWNF wF) h3 hap_tail_nil ih'.2
    have hrec2 := stub_hap3 closed_zipWithF (Ev.of_isWNF wF) h3 hap_tail_I ih'.1
    rw [List.map_cons]
    -- placeholders: the cell, the normal form of the junk call, then `F` and the weak value of the junk call;
    -- looked up: `F (HEAD a) (HEAD junk)`, the call on the junk tail, the cell that holds the weak value
    exact ⟨evR .HAP 101 (.cell (hv_map hv) (.value hr1 (.weak cF wF (.weak cw1 hw1a.isWNF .nil))))
        (.cons (.app (.app .ph3 (.app .c (.tuple2 .ph0 .ph1))) (.app .c .c)) .ph4 hs1 .nil)
        (.cons (.app (.app (.app .c .ph3) (.app .c (.tuple2 .ph0 .ph1))) (.app .c .c)) .c hrec1
          (.cons (.tuple2 .ph4 .c) (.tuple2 .ph2 .c) hc1 .nil)) 40
        (.app (.app (.app .c .ph3) (.tuple2 .ph0 .ph1)) .c) .c (by decide +kernel),
      evR .HAP 101 (.cell (hv_map hv) (.value hr2 (.weak cF wF (.weak cw2 hw2a.isWNF .nil))))
        (.cons (.app (.app .ph3 (.app .c (.tuple2 .ph0 .ph1))) (.app .c .c)) .ph4 hs2 .nil)
        (.cons (.app (.app (.app .c .ph3) (.app .c (.tuple2 .ph0 .ph1))) (.app .c .c)) .c hrec2
          (.cons (.tuple2 .ph4 .c) (.tuple2 .ph2 .c) hc2 .nil)) 40
        (.app (.app (.app .c .ph3) (.tuple2 .ph0 .ph1)) .c) .c (by decide +kernel)⟩

theorem zip_with_core {α β : Type} (F : Term) (cF : Closed F) (wF : isWNF F = true) (e1 : α → Term) (e2 : β → Term)
    (g : α → β → Term) (ms : List α) (hv1 : ∀ a ∈ ms, HapValue (e1 a)) :
    ∀ (ns : List β), (∀ a ∈ ns, HapValue (e2 a)) →
      (∀ p ∈ ms.zip ns, CbvThenHap (app2 F (e1 p.1) (e2 p.2)) (g p.1 p.2)) →
      (∀ a ∈ ms.drop ns.length, JunkOK F (e1 a)) →
      Ev .HAP (app3 (ZF zipWithF) F (pairList (ms.map e1)) (pairList (ns.map e2)))
        (pairList ((ms.zip ns).map (fun p => g p.1 p.2))) := by
  induction ms with
  | nil =>
    intro ns hv2 _ _
    show Ev .HAP (app3 _ F (pairList []) _) (pairList [])
    exact evR .HAP 101 (.value (hapValue_pairList (hv_map hv2)) (.weak cF wF .nil)) .nil .nil 30
      (.app (.app (.app .c .ph1) .c) .ph0) .c (by decide +kernel)
  | cons m ms ih =>
    intro ns hv2 hpq hjk
    have hv' : ∀ a ∈ ms, HapValue (e1 a) := forall_tail hv1
    have h2 := head_fact (hv_map hv1)
    have h3 := (tail_facts (hv_map hv1)).1
    have cx := (hv1 m List.mem_cons_self).closed
    rw [List.map_cons]
    cases ns with
    | nil =>
      have hjk' : ∀ u ∈ m :: ms, JunkOK F (e1 u) := by simpa using hjk
      obtain ⟨⟨r1, hj1⟩, _⟩ := hjk' m List.mem_cons_self
      obtain ⟨w1, hw1a, hw1b⟩ := hj1.ev
      obtain ⟨hs1, cw1, hr1, hc1⟩ := junk_call cF cx (by decide) h2 cbv_head_nil hw1a hw1b
      have hrec := stub_hap3 closed_zipWithF (Ev.of_isWNF wF) h3 hap_tail_nil
        (zip_with_junk F cF wF e1 ms hv' (forall_tail hjk')).2
      show Ev .HAP (app3 _ F _ (pairList [])) (pairList [])
      -- placeholders: the cell, the normal form of `F x (HEAD NIL)`, then `F` and the weak value of `F x (HEAD NIL)`;
      -- looked up: `F x (HEAD NIL)`, the call on the junk tail, the cell that holds the weak value
      exact evR .HAP 101 (.cell (hv_map hv1) (.value hr1 (.weak cF wF (.weak cw1 hw1a.isWNF .nil))))
        (.cons (.app (.app .ph3 (.app .c (.tuple2 .ph0 .ph1))) (.app .c .c)) .ph4 hs1 .nil)
        (.cons (.app (.app (.app .c .ph3) (.app .c (.tuple2 .ph0 .ph1))) (.app .c .c)) .c hrec
          (.cons (.tuple2 .ph4 .c) (.tuple2 .ph2 .c) hc1 .nil)) 40
        (.app (.app (.app .c .ph3) (.tuple2 .ph0 .ph1)) .c) .c (by decide +kernel)
    | cons n ns =>
      have hvy' : ∀ a ∈ ns, HapValue (e2 a) := forall_tail hv2
      obtain ⟨w, hw1, hw2⟩ := (hpq (m, n) (by simp)).ev
      have cw : Closed w := closed_of_star hw1.star (closed_app2 cF cx (hv2 n List.mem_cons_self).closed)
      have hg : HapValue (g m n) := .mk' (closed_of_star hw2.star cw) hw2.isNormal
      have ih' := ih hv' ns hvy' (fun p hp => hpq p (by simp [hp])) (by simpa using hjk)
      have hR : HapValue (pairList ((ms.zip ns).map (fun p => g p.1 p.2))) :=
        .mk' (closed_of_star ih'.star (closed_app (closed_app2 (by decide) cF (hapValue_pairList (hv_map hv')).closed)
          (hapValue_pairList (hv_map hvy')).closed)) ih'.isNormal
      have hrec := stub_hap3 closed_zipWithF (Ev.of_isWNF wF) h3 (tail_facts (hv_map hv2)).2 ih'
      rw [List.map_cons, List.zip_cons_cons, List.map_cons]
      -- placeholders: the two cells, the element and the rest of the result, then `F` and the weak value of `F x y`;
      -- looked up: `F x y`, the recursive call, the cell that holds the weak value
      exact evR .HAP 101 (.cell (hv_map hv1) (.cell (hv_map hv2) (.value hg (.value hR
          (.weak cF wF (.weak cw hw1.isWNF .nil))))))
        (.cons (.app (.app (.ph 6) (.app .c (.tuple2 .ph0 .ph1))) (.app .c (.tuple2 .ph2 .ph3))) (.ph 7)
          (ev_app2_args (o := .CBV) h2 (head_fact (hv_map hv2)) hw1) .nil)
        (.cons (.app (.app (.app .c (.ph 6)) (.app .c (.tuple2 .ph0 .ph1))) (.app .c (.tuple2 .ph2 .ph3))) .ph5 hrec
          (.cons (.tuple2 (.ph 7) .ph5) (.tuple2 .ph4 .ph5)
            (hap_tuple2 hw1.isWNF hw2 hR.ev) .nil)) 40
        (.app (.app (.app .c (.ph 6)) (.tuple2 .ph0 .ph1)) (.tuple2 .ph2 .ph3)) (.tuple2 .ph4 .ph5) (by decide +kernel)

/-! ## the statements about `MAP f l`, `FILTER p l`, … (the fixed point `Z F` unfolded once) -/

section Top
variable {α β : Type}

theorem plist_map_hap_fn {f : Term} (cf : Closed f) (wf : isWNF f = true) (e r : α → Term) (ns : List α)
    (hv : ∀ a ∈ ns, HapValue (e a)) (hfx : ∀ a ∈ ns, CbvThenHap (app f (e a)) (r a)) :
    Ev .HAP (app2 Gen.PList.map f (pairList (ns.map e))) (pairList (ns.map r)) := by
  rw [map_eq]
  exact hap_Z2 closed_mapF rfl (map_core f cf wf e r ns hv hfx)

theorem plist_filter_hap_fn {p : Term} (cp : Closed p) (wp : isWNF p = true) (e : α → Term) (b : α → Bool)
    (ns : List α) (hv : ∀ a ∈ ns, HapValue (e a)) (hpx : ∀ a ∈ ns, Ev .CBV (app p (e a)) (fromBool (b a))) :
    Ev .HAP (app2 Gen.PList.filter p (pairList (ns.map e))) (pairList ((ns.filter b).map e)) := by
  rw [filter_eq]
  exact hap_Z2 closed_filterF rfl (filter_core p cp wp e b ns hv hpx)

theorem plist_take_while_hap_fn {p : Term} (cp : Closed p) (wp : isWNF p = true) (e : α → Term) (b : α → Bool)
    (ns : List α) (hv : ∀ a ∈ ns, HapValue (e a)) (hpx : ∀ a ∈ ns, Ev .CBV (app p (e a)) (fromBool (b a))) :
    Ev .HAP (app2 Gen.PList.take_while p (pairList (ns.map e))) (pairList ((ns.takeWhile b).map e)) := by
  rw [take_while_eq]
  exact hap_Z2 closed_takeWhileF rfl (take_while_core p cp wp e b ns hv hpx).2

theorem plist_drop_while_hap_fn {p : Term} (cp : Closed p) (wp : isWNF p = true) (e : α → Term) (b : α → Bool)
    (ns : List α) (hv : ∀ a ∈ ns, HapValue (e a)) (hpx : ∀ a ∈ ns, Ev .CBV (app p (e a)) (fromBool (b a))) :
    Ev .HAP (app2 Gen.PList.drop_while p (pairList (ns.map e))) (pairList ((ns.dropWhile b).map e)) := by
  rw [drop_while_eq]
  exact hap_Z2 closed_dropWhileF rfl (drop_while_core p cp wp e b ns hv hpx).2

theorem plist_zip_with_hap_fn {f : Term} (cf : Closed f) (wf : isWNF f = true) (e1 : α → Term) (e2 : β → Term)
    (g : α → β → Term) (ms : List α) (ns : List β) (hv1 : ∀ a ∈ ms, HapValue (e1 a)) (hv2 : ∀ a ∈ ns, HapValue (e2 a))
    (hfx : ∀ p ∈ ms.zip ns, CbvThenHap (app2 f (e1 p.1) (e2 p.2)) (g p.1 p.2))
    (hjk : ∀ a ∈ ms.drop ns.length, JunkOK f (e1 a)) :
    Ev .HAP (app3 Gen.PList.zip_with f (pairList (ms.map e1)) (pairList (ns.map e2)))
      (pairList ((ms.zip ns).map (fun p => g p.1 p.2))) := by
  rw [zip_with_eq]
  exact hap_Z3 closed_zipWithF rfl (zip_with_core f cf wf e1 e2 g ms hv1 ns hv2 hfx hjk)

theorem plist_foldl_hap_chain {f s v R : Term} (cf : Closed f) (wf : isWNF f = true) (cs : Closed s)
    (ws : isWNF s = true) (xs : List Term) (hv : ∀ x ∈ xs, HapValue x) (hch : FoldlCbv f s xs v) (hR : Ev .HAP v R) :
    Ev .HAP (app3 Gen.PList.foldl f s (pairList xs)) R := by
  rw [foldl_eq]
  exact hap_Z3 closed_foldlF rfl (foldl_core f cf wf xs hv s v R cs ws hch hR)

theorem plist_foldr_hap_chain {f a R : Term} (cf : Closed f) (wf : isWNF f = true) (ha : HapValue a)
    (xs : List Term) (hv : ∀ x ∈ xs, HapValue x) (hch : FoldrHap f a xs R) :
    Ev .HAP (app3 Gen.PList.foldr f a (pairList xs)) R := by
  exact foldr_unfold cf wf ha (hapValue_pairList hv).normal (foldr_core f cf wf a ha xs hv R hch)

/-- the chain of `foldl` from an invariant `P v j` ("the weak value `v` represents `j`") preserved by the steps -/
theorem foldlCbv_of_inv {γ : Type} {f : Term} (e : α → Term) (op : γ → α → γ) (P : Term → γ → Prop) (ns : List α)
    (hstep : ∀ v j, ∀ a ∈ ns, P v j → ∃ v', Ev .CBV (app2 f v (e a)) v' ∧ P v' (op j a)) :
    ∀ (s : Term) (j : γ), P s j → ∃ v, FoldlCbv f s (ns.map e) v ∧ P v (ns.foldl op j) := by
  induction ns with
  | nil => intro s j h; exact ⟨s, FoldlCbv.nil s, h⟩
  | cons n ns ih =>
    intro s j h
    obtain ⟨s', h1, h2⟩ := hstep s j n List.mem_cons_self h
    obtain ⟨v, h3, h4⟩ := ih (fun v j a ha => hstep v j a (List.mem_cons_of_mem _ ha)) s' (op j n) h2
    exact ⟨v, FoldlCbv.cons h1.toCbv h3, h4⟩

theorem plist_foldl_hap_inv {γ : Type} {f s : Term} (cf : Closed f) (wf : isWNF f = true) (cs : Closed s)
    (ws : isWNF s = true) (e : α → Term) (enc : γ → Term) (op : γ → α → γ) (P : Term → γ → Prop) (ns : List α) (j : γ)
    (hv : ∀ a ∈ ns, HapValue (e a)) (hP : ∀ v j, P v j → Ev .HAP v (enc j)) (hs : P s j)
    (hstep : ∀ v j, ∀ a ∈ ns, P v j → ∃ v', Ev .CBV (app2 f v (e a)) v' ∧ P v' (op j a)) :
    Ev .HAP (app3 Gen.PList.foldl f s (pairList (ns.map e))) (enc (ns.foldl op j)) := by
  obtain ⟨v, h1, h2⟩ := foldlCbv_of_inv e op P ns hstep s j hs
  exact plist_foldl_hap_chain cf wf cs ws _ (hv_map hv) h1 (hP _ _ h2)

theorem foldrHap_of_steps {γ : Type} {f : Term} (e : α → Term) (enc : γ → Term) (op : α → γ → γ) (ns : List α) (j : γ)
    (hstep : ∀ a ∈ ns, ∀ j, Ev .HAP (app2 f (e a) (enc j)) (enc (op a j))) :
    FoldrHap f (enc j) (ns.map e) (enc (ns.foldr op j)) := by
  induction ns with
  | nil => exact FoldrHap.nil
  | cons n ns ih =>
    exact FoldrHap.cons (ih (forall_tail hstep)) (hstep n List.mem_cons_self _).toHap

end Top

/-! ## divergence of the model reducer, from a cycle of the one-step strategy -/

def iterStep (f : Term → Option Term) : Nat → Term → Option Term
  | 0, t => some t
  | k + 1, t => (f t).bind (iterStep f k)

theorem iterStep_of_iter {f : Term → Option Term} {k : Nat} {t u : Term} (h : Iter f k t u) :
    iterStep f k t = some u := by
  induction h with
  | zero t => rfl
  | succ hs _ ih => simp [iterStep, hs, ih]

theorem iterStep_add (f : Term → Option Term) (a b : Nat) (t : Term) :
    iterStep f (a + b) t = (iterStep f a t).bind (iterStep f b) := by
  induction a generalizing t with
  | zero => simp [iterStep]
  | succ a ih =>
    rw [Nat.add_right_comm]
    simp only [iterStep]
    cases f t with
    | none => rfl
    | some u => simp [ih]

theorem iterStep_fix {f : Term → Option Term} {T : Term} (h : f T = some T) (k : Nat) : iterStep f k T = some T := by
  induction k with
  | zero => rfl
  | succ k ih => simp [iterStep, h, ih]

/-- a term whose strategy reduction sequence runs into a one-step cycle `T → T` never reaches a strategy-normal form -/
theorem no_normal_form_of_cycle {f : Term → Option Term} {N : Nat} {t0 T : Term} (h0 : iterStep f N t0 = some T)
    (hT : f T = some T) {k : Nat} {u : Term} (h : Iter f k t0 u) : f u ≠ none := by
  have hk := iterStep_of_iter h
  intro hu
  by_cases hle : N ≤ k
  · obtain ⟨d, rfl⟩ := Nat.exists_eq_add_of_le hle
    rw [iterStep_add, h0] at hk
    simp only [Option.bind_some, iterStep_fix hT] at hk
    injection hk with hk
    subst hk
    rw [hT] at hu; cases hu
  · obtain ⟨d, hd⟩ := Nat.exists_eq_add_of_le (show k + 1 ≤ N by omega)
    rw [hd, Nat.add_assoc, iterStep_add, hk] at h0
    simp only [Option.bind_some] at h0
    rw [Nat.add_comm, iterStep] at h0
    rw [hu] at h0
    cases h0

theorem reduce_hap_diverges {N : Nat} {t0 T : Term} (h0 : iterStep stepHap N t0 = some T)
    (hT : stepHap T = some T) (fuel : Nat) : reduce .HAP 0 fuel t0 = none := by
  cases h : reduce .HAP 0 fuel t0 with
  | none => rfl
  | some r =>
    obtain ⟨t', c⟩ := r
    obtain ⟨it, _, hnf⟩ := reduce_sound .HAP 0 fuel t0 t' c h
    exact absurd (hnf (Or.inl rfl)) (no_normal_form_of_cycle h0 hT it)

/-- decidable form of the hypothesis of `reduce_hap_diverges` (two ground facts for `decide +kernel`) -/
theorem diverges_of_cycle {N : Nat} {t0 : Term}
    (h : (iterStep stepHap N t0).isSome = true ∧ (iterStep stepHap N t0).bind stepHap = iterStep stepHap N t0)
    (fuel : Nat) : reduce .HAP 0 fuel t0 = none := by
  cases hT : iterStep stepHap N t0 with
  | none => simp [hT] at h
  | some T =>
    rw [hT] at h
    exact reduce_hap_diverges hT (by simpa using h.2) fuel

theorem hapValue_isWNF {v : Term} (h : HapValue v) : isWNF v = true := isNormal_isWNF h.normal

end HigherHap
end LC
