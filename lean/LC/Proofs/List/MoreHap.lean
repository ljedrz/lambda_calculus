/-
C16 — eager evaluation (order HAP) of the observers and conversions of ALL FOUR list encodings on lists of
ARBITRARY admissible elements: closed HAP values (`C16.HapValue v := Closed v ∧ EvalHap v v`), which the numerals of all
five numeral encodings are.  `ListEnc.Hap E`: `cons` and the three observers of the encoding `E` (`ListEnc`,
`LC/Proofs/List/Basic.lean`) on the conversion of such a list; the conversion from repeated `cons` and the observers on a
`cons` follow for every encoding at once.  The instances: pair and Scott lists from one cell with two admissible
components (runs of the evaluator of `LC/Proofs/Eager/Reflect.lean`), Church and Parigot lists from the derivations of
`LC/Proofs/Eager/ListA.lean`.
-/
import LC.Proofs.Eager.ListA
import LC.Proofs.UDParamInj

namespace LC
open Term Spec Enc Eager C16 EagerListA


namespace Eager

theorem closedAt_iff_fresh (t : Term) : ∀ d, closedAt d t = true ↔ ∀ j, 1 ≤ j → freeInAux d j t = false := by
  induction t with
  | var i =>
    intro d
    simp only [closedAt, freeInAux, decide_eq_true_eq, beq_eq_false_iff_ne, ne_eq]
    constructor
    · intro h j hj; omega
    · intro h
      apply Decidable.byContradiction
      intro hlt
      exact h (i - d) (by omega) (by omega)
  | abs b ih => intro d; simp only [closedAt, freeInAux]; exact ih (d + 1)
  | app l r ihl ihr =>
    intro d
    simp only [closedAt, freeInAux, Bool.and_eq_true, Bool.or_eq_false_iff, ihl d, ihr d]
    exact ⟨fun h j hj => ⟨h.1 j hj, h.2 j hj⟩, fun h => ⟨fun j hj => (h j hj).1, fun j hj => (h j hj).2⟩⟩

theorem closed_of_star {t u : Term} (hs : Star t u) (h : Closed t) : Closed u :=
  (closedAt_iff_fresh u 0).2 fun j hj => fresh_star hs 0 j hj ((closedAt_iff_fresh t 0).1 h j hj)

theorem closed_app {a b : Term} (ha : Closed a) (hb : Closed b) : Closed (app a b) := by
  simp only [Closed, closedAt, Bool.and_eq_true]; exact ⟨ha, hb⟩

theorem closed_app2 {a b c : Term} (ha : Closed a) (hb : Closed b) (hc : Closed c) : Closed (app2 a b c) :=
  closed_app (closed_app ha hb) hc

end Eager

namespace C16

/-! `HapValue` and, in `LC/Proofs/List/HigherHap.lean`, `CbvThenHap`, `FoldlCbv`, `FoldrHap` are written with
`EvalCbv`/`EvalHap` (= `Ev .CBV`/`Ev .HAP`, `LC/Proofs/Eager/BigStep.lean`): they are the vocabulary of the property
statements of `LC/Props/C16HigherHap.lean`.  The proofs work with `Ev` and cross over by `HapValue.ev`, `HapValue.mk'`,
`CbvThenHap.ev`, `CbvThenHap.of_ev`, `Ev.toCbv`, `Ev.toHap`. -/

/-- an admissible element of a list for the eager (HAP) theorems: a CLOSED term that is a HAP VALUE (evaluates to
itself) — the numerals of all encodings, booleans, pairs/lists of such, … -/
def HapValue (v : Term) : Prop := Closed v ∧ EvalHap v v

theorem HapValue.closed {v : Term} (h : HapValue v) : Closed v := h.1
theorem HapValue.ev {v : Term} (h : HapValue v) : Ev .HAP v v := Ev.of_hap h.2
theorem HapValue.normal {v : Term} (h : HapValue v) : isNormal v = true := h.ev.isNormal
theorem HapValue.mk' {v : Term} (hc : Closed v) (hn : isNormal v = true) : HapValue v :=
  ⟨hc, (Ev.of_isNormal hn).toHap⟩

theorem hapValue_church (n : Nat) : HapValue (intoChurch n) := .mk' (closed_intoChurch n) (normal_intoChurch n)
theorem hapValue_scott (n : Nat) : HapValue (intoScott n) := .mk' (closed_intoScott n) (C12_normal_scott n)
theorem hapValue_parigot (n : Nat) : HapValue (intoParigot n) := .mk' (closed_intoParigot n) (C12_normal_parigot n)
theorem hapValue_stumpfu (n : Nat) : HapValue (intoStumpFu n) := .mk' (closed_intoStumpFu n) (C12_normal_stumpfu n)
theorem hapValue_binary (n : Nat) : HapValue (intoBinary n) := .mk' (closed_intoBinary n) (C12_normal_binary n)

theorem hapValue_num (e : Encoding) (n : Nat) : HapValue (intoNum e n) := by
  cases e
  · exact hapValue_church n
  · exact hapValue_scott n
  · exact hapValue_parigot n
  · exact hapValue_stumpfu n
  · exact hapValue_binary n

theorem hapValue_bool (b : Bool) : HapValue (fromBool b) := .mk' (closedAt_fromBool 0 b) (isNormal_fromBool b)

theorem hapValue_pairList {xs : List Term} (h : ∀ x ∈ xs, HapValue x) : HapValue (pairList xs) :=
  .mk' (closed_pairList fun t ht => (h t ht).closed) (C12.pairList_normal _ fun t ht => (h t ht).normal)

theorem hapValue_scottList {xs : List Term} (h : ∀ x ∈ xs, HapValue x) : HapValue (scottList xs) :=
  .mk' (closed_scottList fun t ht => (h t ht).closed) (C12.scottList_normal _ fun t ht => (h t ht).normal)

theorem _root_.LC.Eager.Vals.value {x : Term} (h : HapValue x) {nv : Nat} {xs : List Term} (hxs : Vals nv xs) :
    Vals (nv + 1) (x :: xs) :=
  .normal h.closed h.normal hxs

theorem hv_map {α : Type} {e : α → Term} {ns : List α} (hv : ∀ a ∈ ns, HapValue (e a)) :
    ∀ u ∈ ns.map e, HapValue u := List.forall_mem_map.2 hv

theorem cn_of_hapValue {ts : List Term} (h : ∀ t ∈ ts, HapValue t) : EagerListA.CN ts :=
  fun t ht => ⟨(h t ht).closed, (h t ht).normal⟩

end C16

namespace Eager

/-! ### a cell of a pair list with admissible components -/

section Cell
variable {x l : Term} (hx : HapValue x) (hl : HapValue l)
include hx hl

theorem cbv_head_cell : Ev .CBV (app Gen.PList.head (tuple2 x l)) x :=
  evR1 .CBV 101 (.value hx (.value hl .nil)) .nil 10
    (.app .c (.tuple2 .ph0 .ph1)) .ph0 (by decide +kernel)

theorem cbv_tail_cell : Ev .CBV (app Gen.PList.tail (tuple2 x l)) l :=
  evR1 .CBV 101 (.value hx (.value hl .nil)) .nil 10
    (.app .c (.tuple2 .ph0 .ph1)) .ph1 (by decide +kernel)

theorem cbv_cons_cell : Ev .CBV (app2 Gen.PList.cons x l) (tuple2 x l) :=
  evR1 .CBV 101 (.value hx (.value hl .nil)) .nil 10
    (.app (.app .c .ph0) .ph1) (.tuple2 .ph0 .ph1) (by decide +kernel)

theorem hap_is_nil_cell : Ev .HAP (app Gen.PList.is_nil (tuple2 x l)) Gen.Bool.fls :=
  evR .HAP 101 (.value hx (.value hl .nil)) .nil .nil 10
    (.app .c (.tuple2 .ph0 .ph1)) .c (by decide +kernel)

theorem hap_head_cell : Ev .HAP (app Gen.PList.head (tuple2 x l)) x :=
  evR .HAP 101 (.value hx (.value hl .nil)) .nil .nil 10
    (.app .c (.tuple2 .ph0 .ph1)) .ph0 (by decide +kernel)

theorem hap_tail_cell : Ev .HAP (app Gen.PList.tail (tuple2 x l)) l :=
  evR .HAP 101 (.value hx (.value hl .nil)) .nil .nil 10
    (.app .c (.tuple2 .ph0 .ph1)) .ph1 (by decide +kernel)

theorem hap_cons_cell : Ev .HAP (app2 Gen.PList.cons x l) (tuple2 x l) :=
  evR .HAP 101 (.value hx (.value hl .nil)) .nil .nil 10
    (.app (.app .c .ph0) .ph1) (.tuple2 .ph0 .ph1) (by decide +kernel)

end Cell

theorem hap_is_nil_nil : Ev .HAP (app Gen.PList.is_nil (pairList [])) Gen.Bool.tru :=
  evR .HAP 101 .nil .nil .nil 10 .c .c (by decide +kernel)

/-! ### a cell of a Scott list with admissible components -/

section ScottCell
variable {x l : Term} (hx : HapValue x) (hl : HapValue l)
include hx hl

theorem hap_is_nil_scell : Ev .HAP (app Gen.SList.is_nil (abs (abs (app2 (var 1) x l)))) Gen.Bool.fls :=
  evR .HAP 101 (.value hx (.value hl .nil)) .nil .nil 10
    (.app .c (.abs (.tuple2 .ph0 .ph1))) .c (by decide +kernel)

theorem hap_head_scell : Ev .HAP (app Gen.SList.head (abs (abs (app2 (var 1) x l)))) x :=
  evR .HAP 101 (.value hx (.value hl .nil)) .nil .nil 10
    (.app .c (.abs (.tuple2 .ph0 .ph1))) .ph0 (by decide +kernel)

theorem hap_tail_scell : Ev .HAP (app Gen.SList.tail (abs (abs (app2 (var 1) x l)))) l :=
  evR .HAP 101 (.value hx (.value hl .nil)) .nil .nil 10
    (.app .c (.abs (.tuple2 .ph0 .ph1))) .ph1 (by decide +kernel)

theorem hap_cons_scell : Ev .HAP (app2 Gen.SList.cons x l) (abs (abs (app2 (var 1) x l))) :=
  evR .HAP 101 (.value hx (.value hl .nil)) .nil .nil 10
    (.app (.app .c .ph0) .ph1) (.abs (.tuple2 .ph0 .ph1)) (by decide +kernel)

end ScottCell

theorem hap_is_nil_snil : Ev .HAP (app Gen.SList.is_nil (scottList [])) Gen.Bool.tru :=
  evR .HAP 101 .nil .nil .nil 10 .c .c (by decide +kernel)

end Eager

/-! ## the four encodings under HAP: `cons` and the observers on the conversion of a list of admissible elements -/

theorem foldr_map_cons {α : Type} (c nil : Term) (f : α → Term) (ns : List α) :
    (ns.map f).foldr (fun t acc => app2 c t acc) nil = ns.foldr (fun n acc => app2 c (f n) acc) nil := by
  induction ns with
  | nil => rfl
  | cons n ns ih => simp [ih]

/-- the HAP half of the list interface (`ListEnc`, `LC/Proofs/List/Basic.lean`) -/
structure ListEnc.Hap (E : ListEnc) : Prop where
  nil : E.conv [] = E.nil ∧ isNormal E.nil = true
  cons : ∀ {a : Term} {ts : List Term}, (∀ u ∈ a :: ts, HapValue u) →
    Ev .HAP (app2 E.cons a (E.conv ts)) (E.conv (a :: ts))
  head : ∀ {t : Term} {ts : List Term}, (∀ u ∈ t :: ts, HapValue u) → Ev .HAP (app E.head (E.conv (t :: ts))) t
  tail : ∀ {t : Term} {ts : List Term}, (∀ u ∈ t :: ts, HapValue u) →
    Ev .HAP (app E.tail (E.conv (t :: ts))) (E.conv ts)
  isNil : ∀ {ts : List Term}, (∀ u ∈ ts, HapValue u) → Ev .HAP (app E.isNil (E.conv ts)) (fromBool ts.isEmpty)

namespace ListEnc.Hap
variable {E : ListEnc} (H : E.Hap)
include H

theorem conv_is_cons {ts : List Term} (h : ∀ t ∈ ts, HapValue t) :
    Ev .HAP (ts.foldr (fun t acc => app2 E.cons t acc) E.nil) (E.conv ts) := by
  induction ts with
  | nil => rw [H.nil.1]; exact Ev.of_isNormal H.nil.2
  | cons t ts ih => exact Ev.app_arg (ih (forall_tail h)) (H.cons h)

variable {a : Term} {ts : List Term} (h : ∀ u ∈ a :: ts, HapValue u)
include h

/-- HAP evaluates the operand `cons a l` first (to the conversion of `a :: ts`), then the observer -/
theorem head_cons : Ev .HAP (app E.head (app2 E.cons a (E.conv ts))) a := Ev.app_arg (H.cons h) (H.head h)
theorem tail_cons : Ev .HAP (app E.tail (app2 E.cons a (E.conv ts))) (E.conv ts) :=
  Ev.app_arg (H.cons h) (H.tail h)
theorem isNil_cons : Ev .HAP (app E.isNil (app2 E.cons a (E.conv ts))) (fromBool false) :=
  Ev.app_arg (H.cons h) (H.isNil h)

end ListEnc.Hap

theorem pairListEnc_hap : pairListEnc.Hap where
  nil := ⟨rfl, rfl⟩
  cons h := hap_cons_cell (h _ List.mem_cons_self) (hapValue_pairList (forall_tail h))
  head h := hap_head_cell (h _ List.mem_cons_self) (hapValue_pairList (forall_tail h))
  tail h := hap_tail_cell (h _ List.mem_cons_self) (hapValue_pairList (forall_tail h))
  isNil {ts} h := by
    cases ts with
    | nil => exact hap_is_nil_nil
    | cons t ts => exact hap_is_nil_cell (h t List.mem_cons_self) (hapValue_pairList (forall_tail h))

theorem scottListEnc_hap : scottListEnc.Hap where
  nil := ⟨rfl, rfl⟩
  cons h := hap_cons_scell (h _ List.mem_cons_self) (hapValue_scottList (forall_tail h))
  head h := hap_head_scell (h _ List.mem_cons_self) (hapValue_scottList (forall_tail h))
  tail h := hap_tail_scell (h _ List.mem_cons_self) (hapValue_scottList (forall_tail h))
  isNil {ts} h := by
    cases ts with
    | nil => exact hap_is_nil_snil
    | cons t ts => exact hap_is_nil_scell (h t List.mem_cons_self) (hapValue_scottList (forall_tail h))

theorem churchListEnc_hap : churchListEnc.Hap where
  nil := ⟨rfl, rfl⟩
  cons h := cons_chl (cn_of_hapValue h)
  head h := head_chl (cn_of_hapValue h)
  tail h := tail_chl (cn_of_hapValue h)
  isNil h := is_nil_chl (cn_of_hapValue h)

theorem parigotListEnc_hap : parigotListEnc.Hap where
  nil := ⟨rfl, rfl⟩
  cons h := cons_pgl (cn_of_hapValue h)
  head h := head_pgl (cn_of_hapValue h)
  tail h := tail_pgl (cn_of_hapValue h)
  isNil h := is_nil_pgl (cn_of_hapValue h)

end LC
