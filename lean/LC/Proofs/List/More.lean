/-
C16 — the Church (fold) list with OPEN elements: the condition on free variables.

The Rust conversion `into_church` of `Vec<Term>` (`Enc.churchList`) puts the elements under the two binders of the list WITHOUT
shifting them: an index `1` / `2` occurring free in an element is captured by the list's own binders.  `Basic.lean` treats
the lists `openChurchList us = churchList (us.map (shiftFV 2 0))` of arbitrary terms correctly placed under the binders.
Here:
* `tail_cons_church_open` : `tail (cons a (churchList ts)) ↠ churchList ts` for ARBITRARY `a` and every list `ts` whose
  elements do not contain the indices 1, 2 free (`NoFree12`: such a list is an `openChurchList`);
* the counterexamples (with an element in which index 1 or 2 occurs free the law fails; the unshifted statements about
  `cons` and `head` are false for open elements) are where they are stated, in `LC/Props/C16More.lean`;
* for NORMAL elements the free-variable hypothesis is also necessary (`tail_cons_church_nofree_of_normal`, via the raw
  form `tail_cons_church_raw`).
-/
import LC.Proofs.List.Basic
import LC.Spec.FreeVars
import LC.Proofs.FreeVars
import LC.Proofs.HybridNormal

namespace LC
open Term Spec Enc ListBasic

namespace ListMore

/-! ## the hypothesis as a condition on free variables: the indices 1 and 2 do not occur free in the elements -/

def unshift2 (o : Nat) : Term → Term
  | var i => if i > o then var (i - 2) else var i
  | abs b => abs (unshift2 (o + 1) b)
  | app l r => app (unshift2 o l) (unshift2 o r)

theorem shiftFV_unshift2 (o : Nat) (t : Term) (h1 : freeInAux o 1 t = false) (h2 : freeInAux o 2 t = false) :
    shiftFV 2 o (unshift2 o t) = t := by
  induction t generalizing o with
  | var i => grind [freeInAux, unshift2, shiftFV]
  | abs b ih => simp only [freeInAux] at h1 h2; simp only [unshift2, shiftFV, ih _ h1 h2]
  | app l r ihl ihr =>
    simp only [freeInAux, Bool.or_eq_false_iff] at h1 h2
    simp only [unshift2, shiftFV, ihl _ h1.1 h2.1, ihr _ h1.2 h2.2]

theorem freeInAux_shift2 (o j : Nat) (h1 : 1 ≤ j) (h2 : j ≤ 2) (u : Term) :
    freeInAux o j (shiftFV 2 o u) = false := by
  induction u generalizing o with
  | var i => grind [shiftFV, freeInAux]
  | abs b ih => simp only [shiftFV, freeInAux, ih]
  | app l r ihl ihr => simp only [shiftFV, freeInAux, ihl, ihr, Bool.or_self]

instance (j : Nat) (t : Term) : Decidable (FreeIn j t) := by unfold FreeIn; exact inferInstance

theorem not_freeIn {j : Nat} {t : Term} (hj : 1 ≤ j) : ¬ FreeIn j t ↔ freeInAux 0 j t = false := by
  simp [FreeIn, hj]

/-- the indices 1 and 2 do not occur free in any element: the elements are terms placed under two binders -/
def NoFree12 (ts : List Term) : Prop := ∀ t ∈ ts, ¬ FreeIn 1 t ∧ ¬ FreeIn 2 t

theorem NoFree12.eq_map {ts : List Term} (h : NoFree12 ts) : (ts.map (unshift2 0)).map (shiftFV 2 0) = ts := by
  rw [List.map_map]
  conv => rhs; rw [← List.map_id ts]
  apply List.map_congr_left
  intro t ht
  exact shiftFV_unshift2 0 t ((not_freeIn (by omega)).1 (h t ht).1) ((not_freeIn (by omega)).1 (h t ht).2)

theorem NoFree12.eq_open {ts : List Term} (h : NoFree12 ts) : churchList ts = openChurchList (ts.map (unshift2 0)) := by
  unfold openChurchList; rw [h.eq_map]

theorem NoFree12.of_open (us : List Term) : NoFree12 (us.map (shiftFV 2 0)) := by
  intro t ht
  obtain ⟨u, _, rfl⟩ := List.mem_map.1 ht
  exact ⟨(not_freeIn (by omega)).2 (freeInAux_shift2 0 1 (by omega) (by omega) u),
    (not_freeIn (by omega)).2 (freeInAux_shift2 0 2 (by omega) (by omega) u)⟩

theorem NoFree12.of_closed {ts : List Term} (h : ∀ t ∈ ts, Closed t) : NoFree12 ts := by
  have := NoFree12.of_open ts
  rwa [map_shiftFV_closed h] at this

/-- `tail (cons a l) ↠ l`: ARBITRARY (open) `a`; the elements of the list are arbitrary terms in which the indices 1, 2
(which the conversion would capture) do not occur free -/
theorem tail_cons_church_open (a : Term) (ts : List Term) (h : NoFree12 ts) :
    app Gen.CList.tail (app2 Gen.CList.cons a (churchList ts)) ↠ churchList ts := by
  rw [h.eq_open]; exact tail_cons_openChurchList a _

theorem tail_cons_church_raw (a : Term) (ts : List Term) :
    app Gen.CList.tail (app2 Gen.CList.cons a (churchList ts)) ↠
      openChurchList (ts.map (starElem tailNil tailStep)) :=
  (Star.congAppR _ (cons_churchList_open a ts)).trans (tail_churchList_raw (shiftFV 2 0 a :: ts))

/-- Church `tail` with an ARBITRARY (raw, possibly captured) head element (it is discarded); the tail's elements are
arbitrary terms placed under the two binders -/
theorem tail_churchList_any_head (t : Term) (us : List Term) :
    app Gen.CList.tail (churchList (t :: us.map (shiftFV 2 0))) ↠ openChurchList us := by
  have := tail_churchList_raw (t :: us.map (shiftFV 2 0))
  rwa [List.map_cons, openTl, List.map_map, starElem_shiftFV, List.map_id] at this

/-! ## the general form of `tail (cons a l)` on the RAW conversion, and the converse for normal elements

`tail (cons a (churchList ts))` reduces, for ARBITRARY `a` and ARBITRARY `ts`, to the list of the elements with the two
captured indices instantiated by the constants of `TAIL`'s fold (`starElem`); hence for NORMAL elements
`tail (cons a l) ↠ l` holds IF AND ONLY IF the indices 1, 2 do not occur free in the elements. -/

theorem star_churchListBody_inv (us : List Term) {w : Term} (h : churchListBody us ↠ w) :
    ∃ ws, w = churchListBody ws ∧ ∀ t ∈ ws, ∃ u ∈ us, u ↠ t := by
  induction us generalizing w with
  | nil => exact ⟨[], Spec.Star.var_inv h, fun t ht => by cases ht⟩
  | cons u us ih =>
    obtain ⟨l', r', rfl, hl, hr, _⟩ := Spec.Star.neutral_app_inv (l := app (var 1) u) rfl h
    obtain ⟨v', u', rfl, hv, hu, _⟩ := Spec.Star.neutral_app_inv (l := var 1) rfl hl
    obtain ⟨ws, rfl, hws⟩ := ih hr
    rw [Spec.Star.var_inv hv]
    refine ⟨u' :: ws, rfl, ?_⟩
    intro t ht
    rcases List.mem_cons.1 ht with rfl | ht
    · exact ⟨u, by simp, hu⟩
    · obtain ⟨x, hx, hs⟩ := hws t ht
      exact ⟨x, List.mem_cons_of_mem _ hx, hs⟩

theorem churchListBody_inj {us ws : List Term} (h : churchListBody us = churchListBody ws) : us = ws := by
  induction us generalizing ws with
  | nil => cases ws with
    | nil => rfl
    | cons w ws => simp [churchListBody] at h
  | cons u us ih => cases ws with
    | nil => simp [churchListBody] at h
    | cons w ws =>
      simp only [churchListBody, app.injEq] at h
      rw [h.1.2, ih h.2]

/-- for NORMAL elements the hypothesis is also NECESSARY -/
theorem tail_cons_church_nofree_of_normal (a : Term) (ts : List Term) (hn : ∀ t ∈ ts, isNormal t = true)
    (h : app Gen.CList.tail (app2 Gen.CList.cons a (churchList ts)) ↠ churchList ts) : NoFree12 ts := by
  have hnf := (isNormal_iff_normal _).1 (normal_churchList ts hn)
  have h2 := star_normal_of_star (tail_cons_church_raw a ts) h hnf
  unfold openChurchList churchList at h2
  obtain ⟨b1, e1, h3⟩ := Spec.Star.abs_inv h2
  injection e1 with e1; subst e1
  obtain ⟨b2, e2, h4⟩ := Spec.Star.abs_inv h3
  injection e2 with e2; subst e2
  obtain ⟨ws, e, hws⟩ := star_churchListBody_inv _ h4
  have e' := churchListBody_inj e
  subst e'
  intro t ht
  obtain ⟨u, hu, hs⟩ := hws t ht
  have hno := NoFree12.of_open _ u hu
  exact ⟨fun hf => hno.1 (freeIn_star hs hf), fun hf => hno.2 (freeIn_star hs hf)⟩

end ListMore
end LC
