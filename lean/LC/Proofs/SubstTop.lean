/-
`contract` (the model's one-pass substitution at depth 1) coincides with the
specification's `substTop` (textbook lift/subst/lower).  This is the core of C02 and the
bridge that lets all metatheory be carried out on `contract`.
-/
import LC.Spec.Beta
import LC.Proofs.Subst

namespace LC
open Term Spec

theorem lift_eq_shiftFV (c : Nat) (t : Term) : lift c t = shiftFV 1 c t := by
  induction t generalizing c with
  | var k => simp [lift, shiftFV]
  | abs b ih => simp [lift, shiftFV, ih]
  | app l r ihl ihr => simp [lift, shiftFV, ihl, ihr]

theorem lower_shiftFV (c n o : Nat) (h : c ≤ n) (t : Term) :
    lower (c + o) (shiftFV (n + 1) o t) = shiftFV n o t := by
  induction t generalizing o with
  | var i => grind [lower, shiftFV]
  | abs b ih => simp only [lower, shiftFV]; rw [show c + o + 1 = c + (o + 1) by omega, ih]
  | app l r ihl ihr => simp [lower, shiftFV, ihl, ihr]

/-- the statement of `contract_eq_substTop` at every depth: under `d - 1` binders of the body the specification has lifted
the argument `d` times in all (`shiftFV d 0 a`) and substitutes it for index `d`; `lower (d - 1)` then takes away the
one binder that the model's `applyAux a d` does not count in the first place -/
theorem lower_subst_eq_applyAux (a : Term) (d : Nat) (hd : 1 ≤ d) (b : Term) :
    lower (d - 1) (subst d (shiftFV d 0 a) b) = applyAux a d b := by
  induction b generalizing d with
  | var k =>
    by_cases hk : k = d
    · subst hk
      simp only [subst, applyAux, if_true]
      obtain ⟨n, rfl⟩ : ∃ n, k = n + 1 := ⟨k - 1, by omega⟩
      have := lower_shiftFV n n 0 (Nat.le_refl _) a
      simpa using this
    · simp only [subst, applyAux, hk, if_false, lower]
      grind
  | abs b ih =>
    simp only [subst, applyAux, lower]
    rw [lift_eq_shiftFV, shiftFV_shiftFV_add, show d - 1 + 1 = d + 1 - 1 by omega,
      show 1 + d = d + 1 by omega, ih (d + 1) (by omega)]
  | app l r ihl ihr => simp [subst, applyAux, lower, ihl d hd, ihr d hd]

theorem contract_eq_substTop (b a : Term) : contract b a = substTop b a := by
  unfold contract substTop
  rw [lift_eq_shiftFV]
  exact (lower_subst_eq_applyAux a 1 (Nat.le_refl _) b).symm

theorem substTop_eq (b a : Term) : substTop b a = contract b a := (contract_eq_substTop b a).symm

end LC
