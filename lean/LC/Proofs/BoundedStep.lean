/-
The representation boundary of De Bruijn indices: one checked strategy step.

`stepXChk M` is the small-step function `stepX` of `Spec/Strategy.lean` with every contraction made by `contractChk M`
(the checked substitution of `Proofs/Bounded.lean`).  Result type `Option (Option Term)`:
`none` = the contraction panicked ("De Bruijn index overflow"), `some none` = the strategy selects nothing,
`some (some t')` = one contraction, leaving `t'`.

The checked steps follow the scheme of `Proofs/Scheme.lean` (`stepOrdChk_abs`, `stepOrdChk_app`).
Main result `stepOrdChk_eq`: on a term all of whose indices are `≤ M`,
`stepOrdChk M o t = guardStep M (stepOrd o t)`: the checked step refuses exactly when the unbounded successor
contains an index above `M` (the contractum is a subterm of the successor and the rest of the successor is part of
the input), and otherwise is the unbounded step.
-/
import LC.Proofs.Bounded
import LC.Proofs.Scheme

namespace LC
namespace Term

def stepCbnChk (M : Nat) : Term → Option (Option Term)
  | app (abs b) r => (contractChk M b r).map some
  | app l r => (stepCbnChk M l).map (Option.map (fun l' => app l' r))
  | _ => some none

def stepNorChk (M : Nat) : Term → Option (Option Term)
  | var _ => some none
  | abs b => (stepNorChk M b).map (Option.map abs)
  | app (abs b) r => (contractChk M b r).map some
  | app l r =>
    match stepNorChk M l with
    | none => none
    | some (some l') => some (some (app l' r))
    | some none => (stepNorChk M r).map (Option.map (app l))

def stepCbvChk (M : Nat) : Term → Option (Option Term)
  | app l r =>
    match stepCbvChk M l with
    | none => none
    | some (some l') => some (some (app l' r))
    | some none =>
      match stepCbvChk M r with
      | none => none
      | some (some r') => some (some (app l r'))
      | some none =>
        match l with
        | abs b => (contractChk M b r).map some
        | _ => some none
  | _ => some none

def stepAppChk (M : Nat) : Term → Option (Option Term)
  | var _ => some none
  | abs b => (stepAppChk M b).map (Option.map abs)
  | app l r =>
    match stepAppChk M l with
    | none => none
    | some (some l') => some (some (app l' r))
    | some none =>
      match stepAppChk M r with
      | none => none
      | some (some r') => some (some (app l r'))
      | some none =>
        match l with
        | abs b => (contractChk M b r).map some
        | _ => some none

def stepHspChk (M : Nat) : Term → Option (Option Term)
  | var _ => some none
  | abs b => (stepHspChk M b).map (Option.map abs)
  | app l r =>
    match stepHspChk M l with
    | none => none
    | some (some l') => some (some (app l' r))
    | some none =>
      match l with
      | abs b => (contractChk M b r).map some
      | _ => some none

def stepHnoChk (M : Nat) : Term → Option (Option Term)
  | var _ => some none
  | abs b => (stepHnoChk M b).map (Option.map abs)
  | app l r =>
    match stepHspChk M l with
    | none => none
    | some (some l') => some (some (app l' r))
    | some none =>
      match l with
      | abs b => (contractChk M b r).map some
      | _ =>
        match stepHnoChk M l with
        | none => none
        | some (some l') => some (some (app l' r))
        | some none => (stepHnoChk M r).map (Option.map (app l))

def stepHapChk (M : Nat) : Term → Option (Option Term)
  | var _ => some none
  | abs b => (stepHapChk M b).map (Option.map abs)
  | app l r =>
    match stepCbvChk M l with
    | none => none
    | some (some l') => some (some (app l' r))
    | some none =>
      match stepHapChk M r with
      | none => none
      | some (some r') => some (some (app l r'))
      | some none =>
        match l with
        | abs b => (contractChk M b r).map some
        | _ => (stepHapChk M l).map (Option.map (fun l' => app l' r))

def stepOrdChk (M : Nat) : Order → Term → Option (Option Term)
  | .CBN => stepCbnChk M
  | .NOR => stepNorChk M
  | .CBV => stepCbvChk M
  | .APP => stepAppChk M
  | .HSP => stepHspChk M
  | .HNO => stepHnoChk M
  | .HAP => stepHapChk M

/-- the unbounded step, guarded: nothing selected → nothing happens; a successor that is not representable → refuse -/
def guardStep (M : Nat) : Option Term → Option (Option Term)
  | none => some none
  | some t' => if maxIndex t' ≤ M then some (some t') else none

theorem guardStep_none (M : Nat) : guardStep M none = some none := rfl

theorem guardStep_some_le {M : Nat} {t : Term} (h : maxIndex t ≤ M) : guardStep M (some t) = some (some t) := by
  simp [guardStep, h]

theorem guardStep_some_gt {M : Nat} {t : Term} (h : M < maxIndex t) : guardStep M (some t) = none := by
  have : ¬ maxIndex t ≤ M := by omega
  simp [guardStep, this]

theorem guardStep_some (M : Nat) (t : Term) : guardStep M (some t) = (guardIdx M t).map some := by
  simp only [guardStep, guardIdx]; split <;> rfl

theorem guardStep_eq_some_some {M : Nat} {a : Option Term} {u : Term} :
    guardStep M a = some (some u) ↔ a = some u ∧ maxIndex u ≤ M := by
  cases a with
  | none => exact ⟨nofun, nofun⟩
  | some w =>
    rw [guardStep_some, Option.map_eq_some_iff]
    exact ⟨fun ⟨x, hx, e⟩ => by cases e; obtain ⟨rfl, h⟩ := guardIdx_eq_some.1 hx; exact ⟨rfl, h⟩,
      fun ⟨e, h⟩ => by cases e; exact ⟨u, guardIdx_of_le h, rfl⟩⟩

theorem guardStep_eq_none {M : Nat} {a : Option Term} :
    guardStep M a = none ↔ ∃ u, a = some u ∧ M < maxIndex u := by
  cases a with
  | none => exact ⟨nofun, fun ⟨_, e, _⟩ => by cases e⟩
  | some w => simp [guardStep_some, guardIdx_eq_none]

theorem guardStep_eq_some_none {M : Nat} {a : Option Term} : guardStep M a = some none ↔ a = none := by
  cases a with
  | none => exact ⟨fun _ => rfl, fun _ => rfl⟩
  | some w => simp [guardStep_some]

theorem guardStep_contract (M : Nat) (b a : Term) (hb : maxIndex b ≤ M) (ha : maxIndex a ≤ M) :
    (contractChk M b a).map some = guardStep M (some (contract b a)) := by
  rw [contractChk_eq M b a hb ha, guardStep_some]

/-- the guarded step through a context `C` that adds nothing above `M` -/
theorem guardStep_map {M : Nat} (C : Term → Term) (hC : ∀ x, maxIndex (C x) ≤ M ↔ maxIndex x ≤ M)
    (o : Option Term) : (guardStep M o).map (Option.map C) = guardStep M (o.map C) := by
  cases o with
  | none => rfl
  | some x =>
    by_cases h : maxIndex x ≤ M
    · rw [guardStep_some_le h]
      exact (guardStep_some_le ((hC x).2 h)).symm
    · rw [guardStep_some_gt (by omega)]
      exact (guardStep_some_gt (by have := (hC x).1; omega)).symm

theorem guardStep_match {M : Nat} (C : Term → Term) (hC : ∀ x, maxIndex (C x) ≤ M ↔ maxIndex x ≤ M)
    (a a' : Option Term) {k : Option (Option Term)} (hk : k = guardStep M a') :
    (match guardStep M a with
      | none => none
      | some (some x) => some (some (C x))
      | some none => k) =
    guardStep M (match a with
      | some x => some (C x)
      | none => a') := by
  subst hk
  cases a with
  | none => rfl
  | some x =>
    by_cases h : maxIndex x ≤ M
    · rw [guardStep_some_le h, guardStep_some_le ((hC x).2 h)]
    · rw [guardStep_some_gt (by omega), guardStep_some_gt (by have := (hC x).1; omega)]

theorem stepOrdChk_var (M : Nat) (o : Order) (i : Nat) : stepOrdChk M o (var i) = some none := by
  cases o <;> rfl

theorem stepOrdChk_abs (M : Nat) (o : Order) (b : Term) :
    stepOrdChk M o (abs b) = if o.under then (stepOrdChk M o b).map (Option.map abs) else some none := by
  cases o <;> rfl

/-- a CBN step or panic is the NOR step or panic (cf. `stepCbn_stepNor`) -/
theorem stepNorChk_of_stepCbnChk (M : Nat) {l : Term} {x : Option (Option Term)}
    (h : stepCbnChk M l = x) (hx : x ≠ some none) : stepNorChk M l = x := by
  induction l generalizing x with
  | var i => subst h; exact absurd rfl hx
  | abs b => subst h; exact absurd rfl hx
  | app l1 l2 ih _ =>
    cases l1 with
    | var i => subst h; exact absurd rfl hx
    | abs b => exact h
    | app a b =>
      rw [stepCbnChk] at h
      rw [stepNorChk]
      · cases hy : stepCbnChk M (app a b) with
        | none => rw [ih hy nofun, ← h, hy]; rfl
        | some y =>
          cases y with
          | none => rw [hy] at h; subst h; exact absurd rfl hx
          | some l' => rw [ih hy nofun, ← h, hy]; rfl
      all_goals nofun

theorem stepOrdChk_app (M : Nat) (o : Order) (l r : Term) :
    stepOrdChk M o (app l r) =
      match stepOrdChk M o.head l with
      | none => none
      | some (some l') => some (some (app l' r))
      | some none =>
        match (if o.eager then stepOrdChk M o r else some none) with
        | none => none
        | some (some r') => some (some (app l r'))
        | some none =>
          match l with
          | abs b => (contractChk M b r).map some
          | _ =>
            if o.deep then
              match stepOrdChk M o l with
              | none => none
              | some (some l') => some (some (app l' r))
              | some none => if o.eager then some none else (stepOrdChk M o r).map (Option.map (app l))
            else some none := by
  cases o <;>
    simp only [stepOrdChk, Order.head, Order.eager, Order.deep, Bool.false_eq_true, if_true, if_false]
  case NOR =>
    cases l with
    | var i => rfl
    | abs b => rfl
    | app a b =>
      cases hy : stepCbnChk M (app a b) with
      | none => rw [stepNorChk, stepNorChk_of_stepCbnChk M hy nofun] <;> first | rfl | nofun
      | some y =>
        cases y with
        | none => rfl
        | some l' => rw [stepNorChk, stepNorChk_of_stepCbnChk M hy nofun] <;> first | rfl | nofun
  case CBN =>
    cases l with
    | app a b =>
      rw [stepCbnChk]
      · cases stepCbnChk M (app a b) with
        | none => rfl
        | some y => cases y <;> rfl
      · nofun
    | _ => rfl
  case HAP =>
    cases l with
    | app a b =>
      rw [stepHapChk]
      · cases stepHapChk M (app a b) with
        | none => rfl
        | some y => cases y <;> rfl
      · nofun
    | _ => rfl
  all_goals rfl

theorem stepOrdChk_eq (M : Nat) (o : Order) (t : Term) (ht : maxIndex t ≤ M) :
    stepOrdChk M o t = guardStep M (stepOrd o t) := by
  induction t generalizing o with
  | var i => rw [stepOrdChk_var, stepOrd_var]; rfl
  | abs b ih =>
    rw [stepOrdChk_abs, stepOrd_abs, ih o ht]
    cases o.under with
    | false => rfl
    | true => exact guardStep_map abs (fun _ => Iff.rfl) _
  | app l r ihl ihr =>
    simp only [maxIndex] at ht
    have hl : maxIndex l ≤ M := by omega
    have hr : maxIndex r ≤ M := by omega
    have hL : ∀ x, maxIndex (app x r) ≤ M ↔ maxIndex x ≤ M := fun x => by simp only [maxIndex]; omega
    have hR : ∀ x, maxIndex (app l x) ≤ M ↔ maxIndex x ≤ M := fun x => by simp only [maxIndex]; omega
    have e2 : (if o.eager then stepOrdChk M o r else some none) =
        guardStep M (if o.eager then stepOrd o r else none) := by
      cases o.eager with
      | false => rfl
      | true => exact ihr o hr
    have e3 : (if o.eager then some none else (stepOrdChk M o r).map (Option.map (app l))) =
        guardStep M (if o.eager then none else (stepOrd o r).map (app l)) := by
      cases o.eager with
      | true => rfl
      | false => rw [if_neg Bool.false_ne_true, if_neg Bool.false_ne_true, ihr o hr, guardStep_map (app l ·) hR]
    rw [stepOrdChk_app, stepOrd_app, ihl o.head hl, e2, ihl o hl, e3]
    refine guardStep_match (app · r) hL _ _ (guardStep_match (app l ·) hR _ _ ?_)
    cases l with
    | abs b => exact guardStep_contract M b r (by simpa [maxIndex] using hl) hr
    | _ =>
      cases o.deep with
      | false => rfl
      | true => exact guardStep_match (app · r) hL _ _ rfl

end Term
end LC
