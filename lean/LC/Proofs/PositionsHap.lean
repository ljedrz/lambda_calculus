/-
Hybrid applicative order (HAP) selects the first redex in the order `hapBefore`
(`LC/Spec/SelectionAll.lean`), and the summary for all seven orders, whose selectors follow the scheme of
`LC/Proofs/Scheme.lean` (`sel_app`):
`stepOrd o t = (sel o t).map (contractAt t)`, `sel o t = some p ↔ Sel o t p`, uniqueness.
-/
import LC.Proofs.PositionsMore
import LC.Proofs.Beta

namespace LC
namespace Spec
open Term

theorem hapBefore_asymm {p q : Pos} (h : hapBefore p q) : ¬ hapBefore q p := by
  induction h with
  | underB _ ih => intro h'; cases h' with | underB h'' => exact ih h''
  | inR _ ih => intro h'; cases h' with | inR h'' => exact ih h''
  | eagerL_R w => intro h'; cases h' with | R_lateL nw => exact nw w
  | eagerL_root w => intro h'; cases h' with | root_lateL nw => exact nw w
  | R_root => intro h'; cases h'
  | R_lateL nw => intro h'; cases h' with | eagerL_R w => exact nw w
  | root_lateL nw => intro h'; cases h' with | eagerL_root w => exact nw w
  | eager_late wp nwq =>
    intro h'
    cases h' with
    | eager_late wq _ => exact nwq wq
    | eager_eager wq _ _ => exact nwq wq
    | late_late _ nwp _ => exact nwp wp
  | eager_eager wp wq c =>
    intro h'
    cases h' with
    | eager_late _ nwp => exact nwp wp
    | eager_eager _ _ c' => exact cbvBefore_asymm c c'
    | late_late nwq _ _ => exact nwq wq
  | late_late nwp nwq _ ih =>
    intro h'
    cases h' with
    | eager_late wq _ => exact nwq wq
    | eager_eager wq _ _ => exact nwq wq
    | late_late _ _ h'' => exact ih h''

theorem isHAP_unique {t : Term} {p q : Pos} (hp : isHAP t p) (hq : isHAP t q) : p = q :=
  first_unique (R := redexAt t) (lt := hapBefore) hapBefore_asymm hp hq

theorem isHAP_abs_B {b : Term} {p : Pos} (h : isHAP b p) : isHAP (abs b) (Dir.B :: p) := by
  obtain ⟨h1, h2⟩ := h
  refine ⟨redexAt_abs_B.2 h1, fun q hq => ?_⟩
  obtain ⟨q', rfl, hq'⟩ := redexAt_abs_iff.1 hq
  exact (h2 q' hq').imp (congrArg _) hapBefore.underB

theorem selHap_sound (t : Term) : Selects (selHap t) (isHAP t) (∀ q, ¬ redexAt t q) := by
  induction t with
  | var n => exact .none fun _ => redexAt_var
  | abs b ih => exact ih.cons Dir.B (fun _ => isHAP_abs_B) no_redex_abs
  | app l r ihl ihr =>
    rw [selHap]
    cases hc : selCbv l with
    | some p' =>
      -- an eager redex of the operator
      obtain ⟨h1, wp, h3⟩ := (selCbv_sound l).1 p' hc
      refine .some ⟨redexAt_app_L.2 h1, fun q hq => ?_⟩
      rcases redexAt_app_iff.1 hq with ⟨rfl, _⟩ | ⟨q, rfl, hq⟩ | ⟨q, rfl, _⟩
      · exact Or.inr (.eagerL_root wp)
      · by_cases wq : weak q
        · exact (h3 q hq wq).imp (congrArg _) (.eager_eager wp wq)
        · exact Or.inr (.eager_late wp wq)
      · exact Or.inr (.eagerL_R wp)
    | none =>
      have nwl := (selCbv_sound l).2 hc
      cases hr : selHap r with
      | some p' =>
        -- a redex of the operand
        obtain ⟨h1, h2⟩ := ihr.1 p' hr
        refine .some ⟨redexAt_app_R.2 h1, fun q hq => ?_⟩
        rcases redexAt_app_iff.1 hq with ⟨rfl, _⟩ | ⟨q, rfl, hq⟩ | ⟨q, rfl, hq⟩
        · exact Or.inr .R_root
        · exact Or.inr (.R_lateL (nwl q hq))
        · exact (h2 q hq).imp (congrArg _) .inR
      | none =>
        have nr := ihr.2 hr
        cases ha : isAbs l with
        | true =>
          -- the application itself
          refine .some ⟨redexAt_app_nil.2 ha, fun q hq => ?_⟩
          rcases redexAt_app_iff.1 hq with ⟨rfl, _⟩ | ⟨q, rfl, hq⟩ | ⟨q, _, hq⟩
          · exact Or.inl rfl
          · exact Or.inr (.root_lateL (nwl q hq))
          · exact absurd hq (nr q)
        | false =>
          -- a redex under a binder of the operator
          refine ihl.cons Dir.L (fun p' hp => ⟨redexAt_app_L.2 hp.1, fun q hq => ?_⟩) (fun nl => no_redex_app ha nl nr)
          rcases redexAt_app_iff.1 hq with ⟨_, h⟩ | ⟨q, rfl, hq⟩ | ⟨q, _, hq⟩
          · rw [ha] at h; cases h
          · exact (hp.2 q hq).imp (congrArg _) (.late_late (nwl p' hp.1) (nwl q hq))
          · exact absurd hq (nr q)

theorem selCbn_selNor {t : Term} {p : Pos} (h : selCbn t = some p) : selNor t = some p := by
  induction t generalizing p with
  | var i => cases h
  | abs b => cases h
  | app l r ihl _ =>
    cases ha : isAbs l with
    | true => rw [selCbn_app_abs r ha] at h; rw [selNor_app_abs r ha, h]
    | false =>
      rw [selCbn_app_of_not_abs r ha, Option.map_eq_some_iff] at h
      obtain ⟨q, hq, rfl⟩ := h
      rw [selNor_app_of_not_abs r ha, ihl hq]

theorem sel_var (o : Order) (i : Nat) : sel o (var i) = none := by cases o <;> rfl

theorem sel_abs (o : Order) (b : Term) :
    sel o (abs b) = if o.under then (sel o b).map (Dir.B :: ·) else none := by
  cases o <;> rfl

theorem sel_app (o : Order) (l r : Term) :
    sel o (app l r) =
      match sel o.head l with
      | some p => some (Dir.L :: p)
      | none =>
        match (if o.eager then sel o r else none) with
        | some p => some (Dir.R :: p)
        | none =>
          if isAbs l then some []
          else if o.deep then
            match sel o l with
            | some p => some (Dir.L :: p)
            | none => if o.eager then none else (sel o r).map (Dir.R :: ·)
          else none := by
  cases o <;> simp only [sel, Order.head, Order.eager, Order.deep, Bool.false_eq_true, if_true, if_false]
  case NOR =>
    cases ha : isAbs l with
    | true =>
      obtain ⟨b, rfl⟩ := isAbs_true ha
      rfl
    | false =>
      rw [selNor_app_of_not_abs r ha]
      cases hl : selCbn l with
      | some p => rw [selCbn_selNor hl]
      | none => rfl
  -- `selNor`, `selCbn`, `selHap` look at the operator before they descend, like `stepNor`, `stepCbn`, `stepHap`
  case CBN =>
    cases ha : isAbs l with
    | true =>
      obtain ⟨b, rfl⟩ := isAbs_true ha
      rfl
    | false =>
      rw [selCbn_app_of_not_abs r ha]
      cases selCbn l <;> rfl
  case HAP =>
    rw [selHap]
    cases selCbv l <;> cases selHap r <;> cases isAbs l <;> cases selHap l <;> rfl
  all_goals rfl

theorem stepOrd_eq_sel (o : Order) (t : Term) : stepOrd o t = (sel o t).map (contractAt t) := by
  induction t generalizing o with
  | var i => rw [stepOrd_var, sel_var]; rfl
  | abs b ih =>
    rw [stepOrd_abs, sel_abs, ih]
    cases o.under <;> cases sel o b <;> simp [contractAt_abs_B]
  | app l r ihl ihr =>
    simp only [stepOrd_app, sel_app, ihl, ihr]
    cases sel o.head l with
    | some p => simp [contractAt_app_L]
    | none =>
      cases l with
      | abs b =>
        -- the operator is an abstraction: if no operand step comes first, the root is contracted
        cases o.eager <;> cases sel o r <;> simp [isAbs, contractAt_root, contractAt_app_R, contract_eq_substTop]
      | var i =>
        cases o.eager <;> cases sel o r <;> cases o.deep <;> simp [isAbs, sel_var, contractAt_app_R]
      | app l1 l2 =>
        cases o.eager <;> cases sel o r <;> cases o.deep <;> cases sel o (app l1 l2) <;>
          simp [isAbs, contractAt_app_L, contractAt_app_R]

theorem stepOrd_some_iff (o : Order) (t t' : Term) :
    stepOrd o t = some t' ↔ ∃ p, sel o t = some p ∧ t' = contractAt t p := by
  rw [stepOrd_eq_sel]
  cases sel o t <;> simp [eq_comm]

theorem stepOrd_none_iff_sel (o : Order) (t : Term) : stepOrd o t = none ↔ sel o t = none := by
  rw [stepOrd_eq_sel]
  cases sel o t <;> simp

theorem sel_sound (o : Order) (t : Term) (p : Pos) (h : sel o t = some p) : Sel o t p := by
  cases o with
  | NOR => exact (selNor_sound t).1 p h
  | CBN => exact (selCbn_sound t).1 p h
  | HSP => exact (selHsp_sound t).1 p h
  | HNO => exact (selHno_sound t).1 p h
  | APP => exact isLMI_of_first ((selApp_sound t).1 p h)
  | CBV => exact isLMIW_of_first ((selCbv_sound t).1 p h)
  | HAP => exact (selHap_sound t).1 p h

theorem Sel_unique (o : Order) {t : Term} {p q : Pos} (hp : Sel o t p) (hq : Sel o t q) : p = q := by
  cases o with
  | NOR => exact isLMO_unique hp hq
  | CBN => exact isLMO_unique hp.1 hq.1
  | HSP => exact isHSP_unique hp hq
  | HNO => exact isHNO_unique hp hq
  | APP => exact isLMI_unique hp hq
  | CBV => exact isLMIW_unique hp hq
  | HAP => exact isHAP_unique hp hq

theorem sel_none (o : Order) (t : Term) (h : sel o t = none) : ∀ p, ¬ Sel o t p := by
  intro p hp
  cases o with
  | NOR => exact (selNor_sound t).2 h p hp.1
  | CBN => exact (selCbn_sound t).2 h p hp.1 hp.2
  | HSP => exact (selHsp_sound t).2 h p hp.1 hp.2.1
  | HNO => exact (selHno_sound t).2 h p hp.1.1
  | APP => exact (selApp_sound t).2 h p hp.1.1
  | CBV => exact (selCbv_sound t).2 h p hp.1.1 hp.1.2.1
  | HAP => exact (selHap_sound t).2 h p hp.1

theorem sel_iff (o : Order) (t : Term) (p : Pos) : sel o t = some p ↔ Sel o t p := by
  constructor
  · exact sel_sound o t p
  · intro hp
    cases hs : sel o t with
    | none => exact absurd hp (sel_none o t hs p)
    | some q => rw [Sel_unique o (sel_sound o t q hs) hp]

theorem sel_none_iff (o : Order) (t : Term) : sel o t = none ↔ ∀ p, ¬ Sel o t p := by
  constructor
  · exact sel_none o t
  · intro h
    cases hs : sel o t with
    | none => rfl
    | some q => exact absurd (sel_sound o t q hs) (h q)

end Spec
end LC
