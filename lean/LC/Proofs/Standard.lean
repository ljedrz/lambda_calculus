/-
The standardisation theorem for β-reduction (Kashima's proof): every reduction sequence
`M →β* N` can be rearranged into a standard one, `Std M N`: weak head steps first, then
(recursively) standard reductions inside the components of the weak head normal form reached.

`W` is the weak head step relation, which is exactly what `stepCbn` computes (`W_iff_stepCbn`, `WS.iter`).
-/
import LC.Proofs.Beta

namespace LC
namespace Spec
open Term

/-- weak head step -/
inductive W : Term → Term → Prop
  | redex (b a : Term) : W (app (abs b) a) (contract b a)
  | appL {l l' r : Term} : W l l' → W (app l r) (app l' r)

inductive WS : Term → Term → Prop
  | refl (t : Term) : WS t t
  | step {t u v : Term} : W t u → WS u v → WS t v

theorem W.beta {t u : Term} (h : W t u) : Beta t u := by
  induction h with
  | redex b a => exact Beta.redc b a
  | appL _ ih => exact Beta.congAppL ih

theorem WS.star {t u : Term} (h : WS t u) : Star t u := by
  induction h with
  | refl _ => exact Star.refl _
  | step hw _ ih => exact Star.head hw.beta ih

theorem WS.one {t u : Term} (h : W t u) : WS t u := WS.step h (WS.refl _)

theorem WS.trans {t u v : Term} (h1 : WS t u) (h2 : WS u v) : WS t v := by
  induction h1 with
  | refl => exact h2
  | step hb _ ih => exact WS.step hb (ih h2)

theorem WS.map {F : Term → Term} (hF : ∀ {t u : Term}, W t u → W (F t) (F u)) {t u : Term} (h : WS t u) :
    WS (F t) (F u) := by
  induction h with
  | refl => exact WS.refl _
  | step hb _ ih => exact WS.step (hF hb) ih

theorem WS.appL {l l' : Term} (r : Term) (h : WS l l') : WS (Term.app l r) (Term.app l' r) :=
  h.map (F := fun l => Term.app l r) W.appL

theorem W.shift {t u : Term} (a o : Nat) (h : W t u) : W (shiftFV a o t) (shiftFV a o u) := by
  induction h with
  | redex b r => simp only [shiftFV, shiftFV_contract]; exact W.redex _ _
  | appL _ ih => simp only [shiftFV]; exact W.appL ih

theorem W.subst {t u : Term} (s : Term) (e : Nat) (he : 1 ≤ e) (h : W t u) :
    W (applyAux s e t) (applyAux s e u) := by
  induction h with
  | redex b r => simp only [applyAux, applyAux_contract _ _ he]; exact W.redex _ _
  | appL _ ih => simp only [applyAux]; exact W.appL ih

theorem WS.shift {t u : Term} (a o : Nat) (h : WS t u) : WS (shiftFV a o t) (shiftFV a o u) :=
  h.map (W.shift a o)

theorem WS.subst {t u : Term} (s : Term) (e : Nat) (he : 1 ≤ e) (h : WS t u) :
    WS (applyAux s e t) (applyAux s e u) :=
  h.map (W.subst s e he)

theorem W_iff_stepCbn (t u : Term) : W t u ↔ stepCbn t = some u := by
  constructor
  · intro h
    induction h with
    | redex b a => simp [stepCbn]
    | @appL l l' r hw ih =>
      cases l with
      | var i => cases hw
      | abs b => cases hw
      | app l1 l2 => simp [stepCbn, ih]
  · intro h
    induction t generalizing u with
    | var i => simp [stepCbn] at h
    | abs b => simp [stepCbn] at h
    | app l r ihl _ =>
      cases l with
      | var i => simp [stepCbn] at h
      | abs b => simp [stepCbn] at h; subst h; exact W.redex b r
      | app l1 l2 =>
        simp [stepCbn] at h; obtain ⟨a, ha, rfl⟩ := h
        exact W.appL (ihl _ ha)

theorem WS.iter {t u : Term} (h : WS t u) : ∃ k, Iter stepCbn k t u := by
  induction h with
  | refl t => exact ⟨0, Iter.zero _⟩
  | step hw _ ih =>
    obtain ⟨k, hk⟩ := ih
    exact ⟨k + 1, Iter.succ ((W_iff_stepCbn _ _).1 hw) hk⟩

/-- standard reduction (Kashima): weak head steps to a weak head normal form shape, then
standard reductions of the immediate subterms -/
inductive Std : Term → Term → Prop
  | var {L : Term} {x : Nat} : WS L (var x) → Std L (var x)
  | app {L A B C D : Term} : WS L (app A B) → Std A C → Std B D → Std L (app C D)
  | abs {L A B : Term} : WS L (abs A) → Std A B → Std L (abs B)

theorem Std.refl (t : Term) : Std t t := by
  induction t with
  | var i => exact Std.var (WS.refl _)
  | abs b ih => exact Std.abs (WS.refl _) ih
  | app l r ihl ihr => exact Std.app (WS.refl _) ihl ihr

theorem Std.prefix {L L' N : Term} (h1 : WS L L') (h2 : Std L' N) : Std L N := by
  cases h2 with
  | var h => exact Std.var (h1.trans h)
  | app h ha hb => exact Std.app (h1.trans h) ha hb
  | abs h ha => exact Std.abs (h1.trans h) ha

theorem Std.star {M N : Term} (h : Std M N) : Star M N := by
  induction h with
  | var h => exact h.star
  | app h _ _ iha ihb => exact h.star.trans (Star.congApp iha ihb)
  | abs h _ iha => exact h.star.trans (Star.congAbs iha)

theorem Std.shift {M N : Term} (a o : Nat) (h : Std M N) :
    Std (shiftFV a o M) (shiftFV a o N) := by
  induction h generalizing o with
  | @var L x h =>
    have := h.shift a o
    exact Std.prefix this (Std.refl _)
  | app h _ _ iha ihb =>
    have := h.shift a o
    simp only [shiftFV] at this ⊢
    exact Std.app this (iha o) (ihb o)
  | abs h _ iha =>
    have := h.shift a o
    simp only [shiftFV] at this ⊢
    exact Std.abs this (iha (o + 1))

theorem Std.subst {M N P Q : Term} (h : Std M N) (hp : Std P Q) (e : Nat) (he : 1 ≤ e) :
    Std (applyAux P e M) (applyAux Q e N) := by
  induction h generalizing e with
  | @var L x h =>
    have hw := h.subst P e he
    refine Std.prefix hw ?_
    simp only [applyAux]
    split
    · exact hp.shift _ _
    · split <;> exact Std.refl _
  | app h _ _ iha ihb =>
    have := h.subst P e he
    simp only [applyAux] at this ⊢
    exact Std.app this (iha e he) (ihb e he)
  | abs h _ iha =>
    have := h.subst P e he
    simp only [applyAux] at this ⊢
    exact Std.abs this (iha (e + 1) (by omega))

/-- Kashima's key step: a standard reduction that ends in a redex absorbs its contraction, since the weak head steps
that lead to the redex and the contraction itself form a longer weak head prefix, and the rest is `Std.subst` -/
theorem Std.redex {L M N : Term} (h : Std L (Term.app (Term.abs M) N)) : Std L (contract M N) := by
  cases h with
  | app hw ha hb =>
    cases ha with
    | abs hw2 ha' =>
      refine Std.prefix (hw.trans ((WS.appL _ hw2).trans (WS.one (W.redex _ _)))) ?_
      exact Std.subst ha' hb 1 (by omega)

theorem Std.beta {L M N : Term} (h : Std L M) (hb : Beta M N) : Std L N := by
  induction hb generalizing L with
  | red b a => rw [substTop_eq]; exact h.redex
  | congAbs _ ih =>
    cases h with
    | abs hw ha => exact Std.abs hw (ih ha)
  | congAppL _ ih =>
    cases h with
    | app hw ha hb => exact Std.app hw (ih ha) hb
  | congAppR _ ih =>
    cases h with
    | app hw ha hb => exact Std.app hw ha (ih hb)

theorem Std.star_right {L M N : Term} (h : Std L M) (hs : Star M N) : Std L N := by
  induction hs with
  | refl _ => exact h
  | head hb _ ih => exact ih (h.beta hb)

theorem standardisation {M N : Term} (h : Star M N) : Std M N :=
  (Std.refl M).star_right h

end Spec
end LC
