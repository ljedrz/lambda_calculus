/-
The *reflection principle*: one reduction `t ↠ u` of an open term whose free variables `1..n` serve as placeholders
yields the law `t[x₁..xₙ] ↠ u[x₁..xₙ]` for arbitrary argument terms (`law_of_star`; `psubst`, `env`:
`Proofs/PSubst.lean`), because β-steps are stable under parallel substitution (`beta_psubst`).  `law_of_norSteps` takes
the reduction from a run of the kernel.
-/
import LC.Proofs.Beta
import LC.Proofs.PSubst

namespace LC
namespace Spec
open Term

theorem beta_psubstAux {t u : Term} (σ : Nat → Term) (d : Nat) (h : Beta t u) :
    Beta (psubstAux σ d t) (psubstAux σ d u) := by
  induction h generalizing d with
  | red b a =>
    rw [substTop_eq, psubstAux_contract]
    exact Beta.redc _ _
  | congAbs _ ih => exact Beta.congAbs (ih _)
  | congAppL _ ih => exact Beta.congAppL (ih _)
  | congAppR _ ih => exact Beta.congAppR (ih _)

theorem beta_psubst {t u : Term} (σ : Nat → Term) (h : Beta t u) : Beta (psubst σ t) (psubst σ u) :=
  beta_psubstAux σ 0 h

theorem star_psubst {t u : Term} (σ : Nat → Term) (h : Star t u) : Star (psubst σ t) (psubst σ u) :=
  h.map (beta_psubst σ)

theorem law_of_star {t u : Term} (h : Star t u) (xs : List Term) :
    Star (psubst (env xs) t) (psubst (env xs) u) := star_psubst (env xs) h

theorem law1_of_star {t u : Term} (h : Star t u) (x : Term) :
    Star (psubst (env [x]) t) (psubst (env [x]) u) := law_of_star h _

theorem law2_of_star {t u : Term} (h : Star t u) (x y : Term) :
    Star (psubst (env [x, y]) t) (psubst (env [x, y]) u) := law_of_star h _

theorem law3_of_star {t u : Term} (h : Star t u) (x y z : Term) :
    Star (psubst (env [x, y, z]) t) (psubst (env [x, y, z]) u) := law_of_star h _

theorem law4_of_star {t u : Term} (h : Star t u) (x y z w : Term) :
    Star (psubst (env [x, y, z, w]) t) (psubst (env [x, y, z, w]) u) := law_of_star h _

theorem star_of_iterNor {k : Nat} {t u : Term} (h : Iter stepNor k t u) : Star t u :=
  (Iter.steps .NOR h).star

theorem star_norSteps (k : Nat) (t : Term) : Star t (norSteps k t) := by
  induction k generalizing t with
  | zero => exact Star.refl _
  | succ k ih =>
    unfold norSteps
    split
    · rename_i t' ht; exact Star.head (stepNor_beta ht) (ih t')
    · exact Star.refl _

theorem law_of_norSteps (k : Nat) (t u : Term) (h : norSteps k t = u) (xs : List Term) :
    Star (psubst (env xs) t) (psubst (env xs) u) :=
  law_of_star (h ▸ star_norSteps k t) xs

namespace Example

example (x y : Term) : Star (app (app K x) y) x := by
  have h := law_of_norSteps 2 (app (app K (var 1)) (var 2)) (var 1) (by decide) [x, y]
  simpa [psubst_closed, K_closed] using h

example (x y z : Term) : Star (app (app (app S x) y) z) (app (app x z) (app y z)) := by
  have h := law_of_norSteps 3 (app (app (app S (var 1)) (var 2)) (var 3))
    (app (app (var 1) (var 3)) (app (var 2) (var 3))) (by decide) [x, y, z]
  simpa [psubst_closed, S_closed] using h

example (x y z : Term) :
    psubst (env [x, y, z]) (app (app (app S (var 1)) (var 2)) (var 3)) = app (app (app S x) y) z := by
  simp [psubst_closed, S_closed]

example (x y : Term) : Star (app (app K x) y) x := by
  have h0 : Star (app (app K (var 1)) (var 2)) (var 1) :=
    Star.head (Beta.congAppL (Beta.redc _ _)) (Star.head (Beta.redc _ _) (Star.refl _))
  simpa [psubst_closed, K_closed] using law_of_star h0 [x, y]

end Example

end Spec
end LC
