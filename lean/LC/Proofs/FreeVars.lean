/-
C08: β-reduction never creates or renumbers free variables (`freeIn_beta`, `freeIn_star`), and the crate's
`has_free_variables` says "some free variable or `UD` occurs" (`hasFreeVariables_iff`).  That β-reduction creates no
`UD` follows from the first through `udToFree`: `Proofs/UDParamInj.lean`.
-/
import LC.Spec.FreeVars
import LC.Proofs.Beta

namespace LC
open Term

namespace Spec

theorem freeInAux_shiftFV (a o d j : Nat) (hj : 1 ≤ j) (ho : o ≤ d) (t : Term) :
    freeInAux (d + a) j (shiftFV a o t) = freeInAux d j t := by
  induction t generalizing o d with
  | var i => grind [freeInAux, shiftFV]
  | abs b ih =>
    simp only [freeInAux, shiftFV]
    rw [show d + a + 1 = (d + 1) + a by omega, ih (o + 1) (d + 1) (by omega)]
  | app l r ihl ihr => simp [freeInAux, shiftFV, ihl o d ho, ihr o d ho]

theorem hasUD_shiftFV (a o : Nat) (t : Term) : hasUD (shiftFV a o t) = hasUD t := by
  induction t generalizing o with
  | var i => grind [hasUD, shiftFV]
  | abs b ih => simp [hasUD, shiftFV, ih]
  | app l r ihl ihr => simp [hasUD, shiftFV, ihl, ihr]

theorem freeInAux_applyAux (r : Term) (e d j : Nat) (hj : 1 ≤ j) (he : 1 ≤ e) (hed : e ≤ d + 1) (t : Term)
    (h : freeInAux d j (applyAux r e t) = true) :
    freeInAux (d + 1) j t = true ∨ freeInAux (d + 1 - e) j r = true := by
  induction t generalizing e d with
  | var i =>
    by_cases hi : i = e
    · right
      have h1 : d = (d + 1 - e) + (e - 1) := by omega
      simp only [applyAux, hi, if_true] at h
      rw [h1, freeInAux_shiftFV _ _ _ _ hj (by omega)] at h
      exact h
    · left
      grind [freeInAux, applyAux]
  | abs b ih =>
    simp only [freeInAux, applyAux] at h ⊢
    have := ih (e + 1) (d + 1) (by omega) (by omega) h
    rw [show d + 1 + 1 - (e + 1) = d + 1 - e by omega] at this
    exact this
  | app l s ihl ihs =>
    simp only [freeInAux, applyAux, Bool.or_eq_true] at h ⊢
    rcases h with h | h
    · exact (ihl e d he hed h).imp_left Or.inl
    · exact (ihs e d he hed h).imp_left Or.inr

theorem freeInAux_substTop (d j : Nat) (hj : 1 ≤ j) (b a : Term)
    (h : freeInAux d j (substTop b a) = true) :
    freeInAux d j (abs b) = true ∨ freeInAux d j a = true := by
  rw [substTop_eq] at h
  have := freeInAux_applyAux a 1 d j hj (by omega) (by omega) b h
  simpa [freeInAux] using this

theorem freeIn_substTop {j : Nat} {b a : Term} (h : FreeIn j (substTop b a)) :
    FreeIn j (abs b) ∨ FreeIn j a := by
  rcases freeInAux_substTop 0 j h.1 b a h.2 with h' | h'
  · exact Or.inl ⟨h.1, h'⟩
  · exact Or.inr ⟨h.1, h'⟩

theorem freeInAux_beta {t u : Term} (hb : Beta t u) (d j : Nat) (hj : 1 ≤ j)
    (h : freeInAux d j u = true) : freeInAux d j t = true := by
  induction hb generalizing d with
  | red b a =>
    have := freeInAux_substTop d j hj b a h
    simpa [freeInAux] using this
  | congAbs _ ih =>
    simp only [freeInAux] at h ⊢
    exact ih (d + 1) h
  | congAppL _ ih =>
    simp only [freeInAux, Bool.or_eq_true] at h ⊢
    exact h.imp (ih d) id
  | congAppR _ ih =>
    simp only [freeInAux, Bool.or_eq_true] at h ⊢
    exact h.imp id (ih d)

theorem freeIn_beta {j : Nat} {t u : Term} (hb : Beta t u) (h : FreeIn j u) : FreeIn j t :=
  ⟨h.1, freeInAux_beta hb 0 j h.1 h.2⟩

theorem freeInAux_star {t u : Term} (hs : Star t u) (d j : Nat) (hj : 1 ≤ j)
    (h : freeInAux d j u = true) : freeInAux d j t = true := by
  induction hs with
  | refl _ => exact h
  | head hb _ ih => exact freeInAux_beta hb d j hj (ih h)

theorem freeIn_star {j : Nat} {t u : Term} (hs : Star t u) (h : FreeIn j u) : FreeIn j t :=
  ⟨h.1, freeInAux_star hs 0 j h.1 h.2⟩

theorem hasFreeVariablesHelper_iff (d : Nat) (t : Term) :
    hasFreeVariablesHelper d t = true ↔
      ((∃ j, 1 ≤ j ∧ freeInAux d j t = true) ∨ hasUD t = true) := by
  induction t generalizing d with
  | var x =>
    simp only [hasFreeVariablesHelper, freeInAux, hasUD, Bool.or_eq_true, decide_eq_true_eq,
      beq_iff_eq]
    constructor
    · rintro (h | h)
      · exact Or.inl ⟨x - d, by omega, by omega⟩
      · exact Or.inr h
    · rintro (⟨j, h1, h2⟩ | h)
      · exact Or.inl (by omega)
      · exact Or.inr h
  | abs b ih =>
    simp only [hasFreeVariablesHelper, freeInAux, hasUD]
    exact ih (d + 1)
  | app l r ihl ihr =>
    simp only [hasFreeVariablesHelper, freeInAux, hasUD, Bool.or_eq_true, ihl d, ihr d, and_or_left, exists_or,
      or_or_or_comm]

/-- the model's `has_free_variables` is "some free variable or UD occurs" -/
theorem hasFreeVariables_iff (t : Term) :
    hasFreeVariables t = true ↔ ((∃ j, FreeIn j t) ∨ hasUD t = true) :=
  hasFreeVariablesHelper_iff 0 t

end Spec
end LC
