/-
Consequences of the standardisation theorem for call-by-name: a standard reduction to a term with a head
variable starts with a `stepCbn` run to such a term (`Std.cbn_neutral`), so `stepCbn` terminates whenever a
weak head normal form is reachable by β-reduction (`cbn_terminates`).
-/
import LC.Proofs.Standard
import LC.Proofs.ReduceLemmas

namespace LC
open Term Spec

theorem neutral_stepCbn_none {t : Term} (h : neutral t = true) : stepCbn t = none :=
  (RL.stepCbn_none_iff t).2 (RL.isWHNF_of_neutral h)

theorem Spec.Std.cbn_neutral {t w : Term} (h : Std t w) (hw : neutral w = true) :
    ∃ k t', Iter stepCbn k t t' ∧ neutral t' = true ∧ Std t' w := by
  induction h with
  | @var L x h =>
    obtain ⟨k, hk⟩ := h.iter
    exact ⟨k, _, hk, rfl, Std.refl _⟩
  | abs _ _ _ => simp [neutral] at hw
  | @app L A B C D h ha hb iha _ =>
    obtain ⟨k1, h1⟩ := h.iter
    obtain ⟨k2, A', h2, hA', hs⟩ := iha (by simpa [neutral] using hw)
    exact ⟨k1 + k2, Term.app A' B, h1.trans (h2.ord_app_head (o := .CBN) B), by simpa [neutral] using hA',
      Std.app (WS.refl _) hs hb⟩

theorem cbn_terminates {t w : Term} (h : Star t w) (hw : isWHNF w = true) :
    ∃ k w', Iter stepCbn k t w' ∧ stepCbn w' = none := by
  have hs := standardisation h
  by_cases hn : neutral w = true
  · obtain ⟨k, t', h1, h2, _⟩ := hs.cbn_neutral hn
    exact ⟨k, t', h1, neutral_stepCbn_none h2⟩
  · cases hs with
    | var _ => simp [neutral] at hn
    | app _ _ _ => simp [isWHNF] at hw; exact absurd hw hn
    | abs h1 _ =>
      obtain ⟨k, hk⟩ := h1.iter
      exact ⟨k, _, hk, rfl⟩

end LC
