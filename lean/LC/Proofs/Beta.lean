/-
Basic facts about `Beta`, `Steps`, `Star`, `Iter`, and about the strategies: every strategy step is a β-step
(`stepOrd_beta`), a step of the `head` order is a step of an order that is not `eager` (`stepOrd_of_head`).
-/
import LC.Proofs.Scheme
import LC.Proofs.SubstTop

namespace LC
open Term Spec

namespace Spec

theorem Beta.redc (b a : Term) : Beta (app (abs b) a) (contract b a) := by
  rw [contract_eq_substTop]; exact Beta.red b a

theorem Star.trans {t u v : Term} (h1 : Star t u) (h2 : Star u v) : Star t v := by
  induction h1 with
  | refl _ => exact h2
  | head hb _ ih => exact Star.head hb (ih h2)

theorem Star.one {t u : Term} (h : Beta t u) : Star t u := Star.head h (Star.refl _)

theorem Star.tail {t u v : Term} (h1 : Star t u) (h2 : Beta u v) : Star t v := h1.trans (Star.one h2)

theorem Star.map {F : Term → Term} (hF : ∀ {t u : Term}, Beta t u → Beta (F t) (F u)) {t u : Term}
    (h : Star t u) : Star (F t) (F u) := by
  induction h with
  | refl _ => exact Star.refl _
  | head hb _ ih => exact Star.head (hF hb) ih

theorem Star.congAbs {b b' : Term} (h : Star b b') : Star (abs b) (abs b') := h.map Beta.congAbs

theorem Star.congAppL {l l' : Term} (r : Term) (h : Star l l') : Star (app l r) (app l' r) :=
  h.map (F := fun l => app l r) Beta.congAppL

theorem Star.congAppR {r r' : Term} (l : Term) (h : Star r r') : Star (app l r) (app l r') :=
  h.map (F := app l) Beta.congAppR

theorem Star.congApp {l l' r r' : Term} (h1 : Star l l') (h2 : Star r r') : Star (app l r) (app l' r') :=
  (Star.congAppL r h1).trans (Star.congAppR l' h2)

theorem Star.redc (b a : Term) : Star (app (abs b) a) (contract b a) := Star.one (Beta.redc b a)

theorem Steps.trans {m n : Nat} {t u v : Term} (h1 : Steps m t u) (h2 : Steps n u v) :
    Steps (m + n) t v := by
  induction h1 with
  | zero _ => simpa using h2
  | @succ k t u w hb _ ih =>
    rw [show k + 1 + n = (k + n) + 1 by omega]; exact Steps.succ hb (ih h2)

theorem Steps.cast {m n : Nat} {t u : Term} (h : Steps m t u) (e : m = n) : Steps n t u := e ▸ h

theorem Steps.star {n : Nat} {t u : Term} (h : Steps n t u) : Star t u := by
  induction h with
  | zero _ => exact Star.refl _
  | succ hb _ ih => exact Star.head hb ih

theorem Star.steps {t u : Term} (h : Star t u) : ∃ n, Steps n t u := by
  induction h with
  | refl _ => exact ⟨0, Steps.zero _⟩
  | head hb _ ih => obtain ⟨n, hn⟩ := ih; exact ⟨n + 1, Steps.succ hb hn⟩

theorem Steps.zero_eq {t u : Term} (h : Steps 0 t u) : u = t := by cases h; rfl

theorem Normal.abs_inv {b : Term} (h : Normal (abs b)) : Normal b :=
  fun _ hu => h _ (Beta.congAbs hu)

theorem Normal.app_inv {l r : Term} (h : Normal (app l r)) : Normal l ∧ Normal r :=
  ⟨fun _ hu => h _ (Beta.congAppL hu), fun _ hu => h _ (Beta.congAppR hu)⟩

theorem Star.var_inv {i : Nat} {n : Term} (h : Star (var i) n) : n = var i := by
  cases h with
  | refl _ => rfl
  | head hb _ => cases hb

theorem Star.abs_inv {b n : Term} (h : Star (abs b) n) :
    ∃ n', n = abs n' ∧ Star b n' := by
  generalize ht : abs b = t at h
  induction h generalizing b with
  | refl _ => subst ht; exact ⟨b, rfl, Star.refl _⟩
  | head hb _ ih =>
    subst ht
    cases hb with
    | congAbs hb' =>
      obtain ⟨n', rfl, hs⟩ := ih rfl
      exact ⟨n', rfl, Star.head hb' hs⟩

end Spec

namespace Term

theorem Iter.trans {f : Term → Option Term} {k1 k2 : Nat} {t u v : Term}
    (h1 : Iter f k1 t u) (h2 : Iter f k2 u v) : Iter f (k1 + k2) t v := by
  induction h1 with
  | zero t => simpa using h2
  | @succ k t u v hs _ ih =>
    rw [show k + 1 + k2 = (k + k2) + 1 by omega]; exact Iter.succ hs (ih h2)

theorem Iter.cast {f : Term → Option Term} {k k' : Nat} {t u : Term}
    (h : Iter f k t u) (e : k = k') : Iter f k' t u := e ▸ h

theorem Iter.one {f : Term → Option Term} {t u : Term} (h : f t = some u) : Iter f 1 t u :=
  Iter.succ h (Iter.zero _)

theorem Iter.det {f : Term → Option Term} {k : Nat} {t u v : Term}
    (h1 : Iter f k t u) (h2 : Iter f k t v) : u = v := by
  induction h1 with
  | zero t => cases h2; rfl
  | succ hs _ ih =>
    cases h2 with
    | succ hs' h2' => rw [hs] at hs'; cases hs'; exact ih h2'

theorem Iter.zero_eq {f : Term → Option Term} {t u : Term} (h : Iter f 0 t u) : u = t := by
  cases h; rfl

theorem Iter.of_none {f : Term → Option Term} {k : Nat} {t u : Term}
    (h : Iter f k t u) (hn : f t = none) : k = 0 ∧ u = t := by
  cases h with
  | zero _ => exact ⟨rfl, rfl⟩
  | succ hs _ => rw [hn] at hs; cases hs

theorem Iter.eq_of_loop {f : Term → Option Term} {t : Term} (hl : f t = some t) {k : Nat} {u : Term}
    (h : Iter f k t u) : u = t := by
  induction k with
  | zero => cases h; rfl
  | succ k ih =>
    cases h with
    | succ hs h' => rw [hl] at hs; cases hs; exact ih h'

theorem Iter.split {f : Term → Option Term} {k : Nat} {t v : Term} (j : Nat) (hj : j ≤ k)
    (h : Iter f k t v) : ∃ u, Iter f j t u ∧ Iter f (k - j) u v := by
  induction j generalizing k t with
  | zero => exact ⟨t, Iter.zero _, by simpa using h⟩
  | succ j ih =>
    cases h with
    | zero _ => omega
    | @succ k' _ u _ hs h' =>
      obtain ⟨w, h1, h2⟩ := ih (by omega) h'
      exact ⟨w, Iter.succ hs h1, by simpa using h2⟩

/-- runs of a function from one term lie on one line: the shorter of two is a prefix of the longer -/
theorem Iter.suffix {f : Term → Option Term} {j k : Nat} {t u v : Term} (h1 : Iter f j t u)
    (h2 : Iter f k t v) (hjk : j ≤ k) : Iter f (k - j) u v := by
  obtain ⟨w, i1, i2⟩ := Iter.split j hjk h2
  cases Iter.det h1 i1
  exact i2

/-- every term reached from `t` by at most `k` steps of `f` satisfies `P` -/
def Iter.All (P : Term → Prop) (f : Term → Option Term) (k : Nat) (t : Term) : Prop :=
  ∀ j u, j ≤ k → Iter f j t u → P u

namespace Iter.All
variable {P : Term → Prop} {f : Term → Option Term} {k : Nat} {t u : Term}

/-- from the form in which the statements of the property files spell `Iter.All` out -/
theorem of_forall (h : ∀ j ≤ k, ∀ u, Iter f j t u → P u) : Iter.All P f k t := fun j u hj it => h j hj u it

theorem start (h : Iter.All P f k t) : P t := h 0 t (Nat.zero_le _) (Iter.zero t)

theorem zero (h : P t) : Iter.All P f 0 t := fun j u hj it => by
  obtain rfl : j = 0 := by omega
  rw [it.zero_eq]; exact h

theorem succ (ht : P t) (hs : f t = some u) (h : Iter.All P f k u) : Iter.All P f (k + 1) t := by
  intro j w hj it
  cases it with
  | zero _ => exact ht
  | @succ j' _ u' _ hs' it' =>
    rw [hs] at hs'; cases hs'
    exact h j' w (by omega) it'

theorem tail (hs : f t = some u) (h : Iter.All P f (k + 1) t) : Iter.All P f k u :=
  fun j w hj it => h (j + 1) w (by omega) (Iter.succ hs it)

theorem imp {Q : Term → Prop} (h : Iter.All P f k t) (hPQ : ∀ u, P u → Q u) : Iter.All Q f k t :=
  fun j u hj it => hPQ u (h j u hj it)

theorem mono {k' : Nat} (h : Iter.All P f k t) (hk : k' ≤ k) : Iter.All P f k' t :=
  fun j w hj it => h j w (by omega) it

theorem of_none (ht : P t) (hs : f t = none) : Iter.All P f k t := fun j u _ it => by
  rw [(it.of_none hs).2]; exact ht

theorem trans {m : Nat} (it : Iter f k t u) (h1 : Iter.All P f k t) (h2 : Iter.All P f m u) :
    Iter.All P f (k + m) t := by
  intro j w hj itw
  by_cases hjk : j ≤ k
  · exact h1 j w hjk itw
  · exact h2 (j - k) w (by omega) (it.suffix itw (by omega))

end Iter.All

theorem stepOrd_beta (o : Order) {t t' : Term} (h : stepOrd o t = some t') : Beta t t' := by
  induction t generalizing o t' with
  | var i => rw [stepOrd_var] at h; cases h
  | abs b ih =>
    rw [stepOrd_abs] at h
    split at h
    · obtain ⟨a, ha, rfl⟩ := Option.map_eq_some_iff.1 h
      exact Beta.congAbs (ih o ha)
    · cases h
  | app l r ihl ihr =>
    rcases stepOrd_app_cases h with ⟨l1, hl1, rfl⟩ | ⟨_, ⟨r1, _, hr1, rfl⟩ |
      ⟨_, ⟨b, rfl, rfl⟩ | ⟨_, _, ⟨l1, hl1, rfl⟩ | ⟨_, _, r1, hr1, rfl⟩⟩⟩⟩
    · exact Beta.congAppL (ihl _ hl1)
    · exact Beta.congAppR (ihr o hr1)
    · exact Beta.redc _ r
    · exact Beta.congAppL (ihl o hl1)
    · exact Beta.congAppR (ihr o hr1)

theorem stepOrd_none_of_normal (o : Order) {t : Term} (hn : Normal t) : stepOrd o t = none := by
  cases h : stepOrd o t with
  | none => rfl
  | some u => exact absurd (stepOrd_beta o h) (hn u)

theorem stepNor_beta {t t' : Term} (h : stepNor t = some t') : Beta t t' := stepOrd_beta .NOR h

/-- for the orders that do not reduce operands first, a step of the order that works on operators is a step of the
order itself (under HAP it is not: the operand comes before the contraction) -/
theorem stepOrd_of_head {o : Order} (he : o.eager = false) {t t' : Term} (h : stepOrd o.head t = some t') :
    stepOrd o t = some t' := by
  induction t generalizing t' with
  | var i => rw [stepOrd_var] at h; cases h
  | abs b ih =>
    rw [stepOrd_abs] at h ⊢
    split at h
    · next hhu =>
      obtain ⟨a, ha, rfl⟩ := Option.map_eq_some_iff.1 h
      rw [Order.under_of_head hhu, if_pos rfl, ih ha]
      rfl
    · cases h
  | app l r _ _ =>
    rw [stepOrd_app, Order.head_head, Order.head_eager, Order.head_deep, he] at h
    rw [stepOrd_app, he]
    cases hl : stepOrd o.head l with
    | some l' => rw [hl] at h; exact h
    | none =>
      rw [hl] at h
      cases l <;> first | exact h | cases h

theorem beta_eq_some {t t' : Term} {o : Order} {L fuel : Nat} :
    beta t o L fuel = some t' ↔ ∃ c, reduce o L fuel t = some (t', c) := by
  unfold beta
  cases reduce o L fuel t with
  | none => simp
  | some p => cases p; simp

theorem Iter.steps (o : Order) {k : Nat} {t t' : Term} (h : Iter (stepOrd o) k t t') :
    Steps k t t' := by
  induction h with
  | zero _ => exact Steps.zero _
  | succ hs _ ih => exact Steps.succ (stepOrd_beta o hs) ih

end Term
end LC
