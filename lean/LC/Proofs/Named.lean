/-
A NAMED λ-calculus (names = naturals, plus the inert placeholder `ud`), its translation `toDB` to the crate's
1-based De Bruijn terms under a context of binder names, free / bound names, NAIVE substitution `nsubst`,
CAPTURE-AVOIDING substitution `csubst` (renames a binder that would capture a free name of the argument to a
fresh name), and the lemmas behind the adequacy theorem of `LC/Props/C02Named.lean`:

    toDB Γ (csubst M x N) = substTop (toDB (x :: Γ) M) (toDB Γ N).

Everything here is on the specification side.
-/
import LC.Spec.Beta
import LC.Proofs.SubstTop

namespace LC
namespace Named

/-- named λ-terms; `ud` is the crate's placeholder `Var(0)` (a constant) -/
inductive NTerm where
  | var (x : Nat)
  | ud
  | lam (x : Nat) (b : NTerm)
  | app (l r : NTerm)
deriving DecidableEq, Repr, Inhabited

/-- De Bruijn index of the name `x` under the binder context `Γ` (innermost binder first): position of the FIRST
occurrence of `x` in `Γ`, plus one; a name that is not bound by `Γ` is the outer reference `Γ.length + x + 1`, so
distinct free names are distinct outer references. -/
def ix (Γ : List Nat) (x : Nat) : Nat :=
  if x ∈ Γ then Γ.idxOf x + 1 else Γ.length + x + 1

def toDB (Γ : List Nat) : NTerm → Term
  | .var x => Term.var (ix Γ x)
  | .ud => Term.var 0
  | .lam x b => Term.abs (toDB (x :: Γ) b)
  | .app l r => Term.app (toDB Γ l) (toDB Γ r)

def fv : NTerm → List Nat
  | .var x => [x]
  | .ud => []
  | .lam x b => (fv b).filter (fun v => v ≠ x)
  | .app l r => fv l ++ fv r

def bv : NTerm → List Nat
  | .var _ => []
  | .ud => []
  | .lam x b => x :: bv b
  | .app l r => bv l ++ bv r

def size : NTerm → Nat
  | .var _ => 1
  | .ud => 1
  | .lam _ b => size b + 1
  | .app l r => size l + size r + 1

def maxName : NTerm → Nat
  | .var x => x
  | .ud => 0
  | .lam x b => max x (maxName b)
  | .app l r => max (maxName l) (maxName r)

/-- NAIVE substitution `M[x := N]`: stops at a binder of `x`, otherwise goes under binders without renaming
(so it may capture free names of `N`) -/
def nsubst : NTerm → Nat → NTerm → NTerm
  | .var y, x, N => if y = x then N else .var y
  | .ud, _, _ => .ud
  | .lam y b, x, N => if y = x then .lam y b else .lam y (nsubst b x N)
  | .app l r, x, N => .app (nsubst l x N) (nsubst r x N)

/-- the fresh name used when the binder around `b` has to be renamed during `…[x := N]` -/
def fresh (x : Nat) (N b : NTerm) : Nat := max x (max (maxName N) (maxName b)) + 1

/-- capture-avoiding substitution with fuel (the renamed body has the same size, so `size M` is enough fuel) -/
def csubstF : Nat → NTerm → Nat → NTerm → NTerm
  | 0, M, _, _ => M
  | _ + 1, .var y, x, N => if y = x then N else .var y
  | _ + 1, .ud, _, _ => .ud
  | f + 1, .lam y b, x, N =>
    if y = x then .lam y b
    else if y ∈ fv N then
      .lam (fresh x N b) (csubstF f (nsubst b y (.var (fresh x N b))) x N)
    else .lam y (csubstF f b x N)
  | f + 1, .app l r, x, N => .app (csubstF f l x N) (csubstF f r x N)

def csubst (M : NTerm) (x : Nat) (N : NTerm) : NTerm := csubstF (size M) M x N

theorem ix_nil (x : Nat) : ix [] x = x + 1 := by simp [ix]

theorem ix_cons (y : Nat) (Γ : List Nat) (x : Nat) :
    ix (y :: Γ) x = if x = y then 1 else ix Γ x + 1 := by
  unfold ix
  by_cases h : x = y
  · subst h; simp
  · have h' : (y == x) = false := by simp; exact fun e => h e.symm
    by_cases hm : x ∈ Γ <;> simp [List.idxOf_cons, h, h', hm]
    omega

theorem ix_pos (Γ : List Nat) (x : Nat) : 1 ≤ ix Γ x := by
  unfold ix; split <;> omega

theorem ix_not_mem {Γ : List Nat} {x : Nat} (h : x ∉ Γ) : ix Γ x = Γ.length + x + 1 := by
  simp [ix, h]

theorem ix_le_of_mem {Θ : List Nat} {x : Nat} (h : x ∈ Θ) : ix Θ x ≤ Θ.length := by
  have := List.idxOf_lt_length_iff.mpr h
  simp only [ix, h, if_true]; omega

theorem ix_append_mem {Θ : List Nat} {x : Nat} (h : x ∈ Θ) (Γ : List Nat) : ix (Θ ++ Γ) x = ix Θ x := by
  induction Θ with
  | nil => simp at h
  | cons y Θ ih =>
    rw [List.cons_append, ix_cons, ix_cons]
    by_cases e : x = y
    · simp [e]
    · have : x ∈ Θ := by simpa [e] using h
      simp [e, ih this]

theorem ix_append_not_mem {Θ : List Nat} {x : Nat} (h : x ∉ Θ) (Γ : List Nat) :
    ix (Θ ++ Γ) x = Θ.length + ix Γ x := by
  induction Θ with
  | nil => simp
  | cons y Θ ih =>
    have e : ¬ x = y := by intro e; exact h (by simp [e])
    have hm : x ∉ Θ := by intro hm; exact h (by simp [hm])
    rw [List.cons_append, ix_cons, if_neg e, ih hm, List.length_cons]; omega

theorem ix_nodup_getElem {Γ : List Nat} (hn : Γ.Nodup) (k : Nat) (hk : k < Γ.length) : ix Γ Γ[k] = k + 1 := by
  induction Γ generalizing k with
  | nil => simp at hk
  | cons y Γ ih =>
    obtain ⟨hy, hn'⟩ := List.nodup_cons.mp hn
    rw [ix_cons]
    cases k with
    | zero => simp
    | succ k =>
      have hk' : k < Γ.length := by simpa using hk
      have hne : ¬ Γ[k] = y := by intro e; exact hy (e ▸ List.getElem_mem hk')
      simp [hne, ih hn' k hk']

theorem mem_fv_lam {v x : Nat} {b : NTerm} : v ∈ fv (.lam x b) ↔ v ∈ fv b ∧ v ≠ x := by
  simp [fv, List.mem_filter]

theorem fv_le_maxName {v : Nat} {M : NTerm} (h : v ∈ fv M) : v ≤ maxName M := by
  induction M with
  | var x => simp [fv] at h; simp [maxName, h]
  | ud => simp [fv] at h
  | lam x b ih => have := ih (mem_fv_lam.mp h).1; simp only [maxName]; omega
  | app l r ihl ihr =>
    simp only [fv, List.mem_append] at h
    simp only [maxName]
    cases h with
    | inl h => have := ihl h; omega
    | inr h => have := ihr h; omega

theorem bv_le_maxName {v : Nat} {M : NTerm} (h : v ∈ bv M) : v ≤ maxName M := by
  induction M with
  | var x => simp [bv] at h
  | ud => simp [bv] at h
  | lam x b ih =>
    simp only [bv, List.mem_cons] at h
    simp only [maxName]
    cases h with
    | inl h => omega
    | inr h => have := ih h; omega
  | app l r ihl ihr =>
    simp only [bv, List.mem_append] at h
    simp only [maxName]
    cases h with
    | inl h => have := ihl h; omega
    | inr h => have := ihr h; omega

theorem fresh_ne (x : Nat) (N b : NTerm) : fresh x N b ≠ x := by unfold fresh; omega

theorem fresh_not_fv_arg (x : Nat) (N b : NTerm) : fresh x N b ∉ fv N := by
  intro h; have := fv_le_maxName h; unfold fresh at this; omega

theorem fresh_not_fv_body (x : Nat) (N b : NTerm) : fresh x N b ∉ fv b := by
  intro h; have := fv_le_maxName h; unfold fresh at this; omega

theorem fresh_not_bv_body (x : Nat) (N b : NTerm) : fresh x N b ∉ bv b := by
  intro h; have := bv_le_maxName h; unfold fresh at this; omega

theorem size_pos (M : NTerm) : 1 ≤ size M := by cases M <;> simp [size]

theorem size_rename (b : NTerm) (y z : Nat) : size (nsubst b y (.var z)) = size b := by
  induction b with
  | var v => simp only [nsubst]; split <;> simp [size]
  | ud => simp [nsubst]
  | lam w b ih => simp only [nsubst]; split <;> simp [size, ih]
  | app l r ihl ihr => simp [nsubst, size, ihl, ihr]

theorem toDB_congr (M : NTerm) (Γ₁ Γ₂ : List Nat) (h : ∀ v ∈ fv M, ix Γ₁ v = ix Γ₂ v) :
    toDB Γ₁ M = toDB Γ₂ M := by
  induction M generalizing Γ₁ Γ₂ with
  | var x => simp [toDB, h x (by simp [fv])]
  | ud => simp [toDB]
  | lam x b ih =>
    simp only [toDB]; congr 1
    apply ih
    intro v hv
    rw [ix_cons, ix_cons]
    by_cases e : v = x
    · simp [e]
    · simp [e, h v (mem_fv_lam.mpr ⟨hv, e⟩)]
  | app l r ihl ihr =>
    simp only [toDB]
    rw [ihl _ _ (fun v hv => h v (by simp [fv, hv])), ihr _ _ (fun v hv => h v (by simp [fv, hv]))]

/-- weakening: inserting binders `Δ` that bind no free name of `N` (below the `Θ` already passed) raises exactly the
outer references by `Δ.length` -/
theorem toDB_weaken (N : NTerm) (Θ Δ Γ : List Nat) (h : ∀ v ∈ fv N, v ∉ Θ → v ∉ Δ) :
    toDB (Θ ++ (Δ ++ Γ)) N = Term.shiftFV Δ.length Θ.length (toDB (Θ ++ Γ) N) := by
  induction N generalizing Θ with
  | var x =>
    simp only [toDB, Term.shiftFV]
    by_cases hx : x ∈ Θ
    · have := ix_le_of_mem hx
      rw [ix_append_mem hx, ix_append_mem hx, if_neg (by omega)]
    · have hd : x ∉ Δ := h x (by simp [fv]) hx
      have := ix_pos Γ x
      rw [ix_append_not_mem hx, ix_append_not_mem hx, ix_append_not_mem hd, if_pos (by omega)]
      congr 1; omega
  | ud => simp [toDB, Term.shiftFV]
  | lam x b ih =>
    simp only [toDB, Term.shiftFV]; congr 1
    have := ih (x :: Θ) (by
      intro v hv hn
      have hvx : v ≠ x := by intro e; exact hn (by simp [e])
      have hvΘ : v ∉ Θ := by intro e; exact hn (by simp [e])
      exact h v (mem_fv_lam.mpr ⟨hv, hvx⟩) hvΘ)
    simpa using this
  | app l r ihl ihr =>
    simp only [toDB, Term.shiftFV]
    rw [ihl Θ (fun v hv => h v (by simp [fv, hv])), ihr Θ (fun v hv => h v (by simp [fv, hv]))]

/-- a binder `x` that is shadowed by an inner binder of the same name is never referred to: substituting for it just
removes it from the context -/
theorem toDB_shadow (a : Term) (M : NTerm) (x : Nat) (Δ Γ : List Nat) (hx : x ∈ Δ) :
    Term.applyAux a (Δ.length + 1) (toDB (Δ ++ x :: Γ) M) = toDB (Δ ++ Γ) M := by
  induction M generalizing Δ with
  | var y =>
    simp only [toDB, Term.applyAux]
    by_cases hy : y ∈ Δ
    · have := ix_le_of_mem hy
      rw [ix_append_mem hy, ix_append_mem hy, if_neg (by omega), if_neg (by omega)]
    · have hyx : ¬ y = x := by intro e; exact hy (e ▸ hx)
      have := ix_pos Γ y
      rw [ix_append_not_mem hy, ix_append_not_mem hy, ix_cons, if_neg hyx, if_neg (by omega), if_pos (by omega)]
      rfl
  | ud => simp [toDB, Term.applyAux]
  | lam y b ih =>
    simp only [toDB, Term.applyAux]; congr 1
    have := ih (y :: Δ) (by simp [hx])
    simpa using this
  | app l r ihl ihr => simp only [toDB, Term.applyAux]; rw [ihl Δ hx, ihr Δ hx]

/-- α-renaming: renaming the binder `y` to a name `z` that does not occur in the body (free or binding) does not
change the De Bruijn term.  `Θ'` collects the binders passed inside `b` (the induction generalises it; neither `y` nor `z`
is among them as long as the renaming goes on), `Θ` is the context outside the renamed binder. -/
theorem toDB_rename (b : NTerm) (y z : Nat) (Θ' Θ : List Nat) (hy : y ∉ Θ') (hz : z ∉ Θ')
    (hzf : z ∉ fv b) (hzb : z ∉ bv b) :
    toDB (Θ' ++ z :: Θ) (nsubst b y (.var z)) = toDB (Θ' ++ y :: Θ) b := by
  induction b generalizing Θ' with
  | var v =>
    simp only [nsubst]
    by_cases e : v = y
    · subst e
      simp only [if_true, toDB]
      rw [ix_append_not_mem hz, ix_append_not_mem hy, ix_cons, ix_cons]; simp
    · have hvz : ¬ v = z := by intro e'; exact hzf (by simp [fv, e'])
      simp only [e, if_false, toDB]
      by_cases hv : v ∈ Θ'
      · rw [ix_append_mem hv, ix_append_mem hv]
      · rw [ix_append_not_mem hv, ix_append_not_mem hv, ix_cons, ix_cons, if_neg hvz, if_neg e]
  | ud => simp [nsubst, toDB]
  | lam w b ih =>
    simp only [nsubst]
    by_cases e : w = y
    · subst e
      simp only [if_true, toDB]; congr 1
      apply toDB_congr
      intro v hv
      have hvz : ¬ v = z := by
        intro e'; subst e'
        by_cases e'' : v = w
        · exact hzb (by simp [bv, e''])
        · exact hzf (mem_fv_lam.mpr ⟨hv, e''⟩)
      by_cases hm : v ∈ w :: Θ'
      · rw [← List.cons_append, ← List.cons_append, ix_append_mem hm, ix_append_mem hm]
      · have hvw : ¬ v = w := by intro e'; exact hm (by simp [e'])
        rw [← List.cons_append, ← List.cons_append, ix_append_not_mem hm, ix_append_not_mem hm,
          ix_cons, ix_cons, if_neg hvz, if_neg hvw]
    · have hwz : ¬ z = w := by intro e'; exact hzb (by simp [bv, e'])
      have hyw : ¬ y = w := fun e' => e e'.symm
      simp only [e, if_false, toDB]; congr 1
      have := ih (w :: Θ') (by simp [hy, hyw]) (by simp [hz, hwz])
        (by intro h; exact hzf (mem_fv_lam.mpr ⟨h, hwz⟩))
        (by intro h; exact hzb (by simp [bv, h]))
      simpa using this
  | app l r ihl ihr =>
    simp only [nsubst, toDB]
    rw [ihl Θ' hy hz (by intro h; exact hzf (by simp [fv, h])) (by intro h; exact hzb (by simp [bv, h])),
      ihr Θ' hy hz (by intro h; exact hzf (by simp [fv, h])) (by intro h; exact hzb (by simp [bv, h]))]

theorem applyAux_toDB_var (N : NTerm) (x y : Nat) (Δ Γ : List Nat) (hx : x ∉ Δ)
    (hN : ∀ v ∈ fv N, v ∉ Δ) :
    Term.applyAux (toDB Γ N) (Δ.length + 1) (Term.var (ix (Δ ++ x :: Γ) y))
      = toDB (Δ ++ Γ) (if y = x then N else .var y) := by
  simp only [Term.applyAux]
  by_cases e : y = x
  · subst e
    have h1 : ix (Δ ++ y :: Γ) y = Δ.length + 1 := by rw [ix_append_not_mem hx, ix_cons]; simp
    have := toDB_weaken N [] Δ Γ (fun v hv _ => hN v hv)
    simp only [List.nil_append, List.length_nil] at this
    simp [h1, this]
  · simp only [e, if_false, toDB]
    by_cases hy : y ∈ Δ
    · have := ix_le_of_mem hy
      rw [ix_append_mem hy, ix_append_mem hy, if_neg (by omega), if_neg (by omega)]
    · have := ix_pos Γ y
      rw [ix_append_not_mem hy, ix_append_not_mem hy, ix_cons, if_neg e, if_neg (by omega), if_pos (by omega)]
      rfl

/-- capture-avoiding substitution is correct: no condition on the binders of `M` -/
theorem csubstF_adequate_aux (f : Nat) (M N : NTerm) (x : Nat) (Δ Γ : List Nat) (hf : size M ≤ f)
    (hx : x ∉ Δ) (hN : ∀ v ∈ fv N, v ∉ Δ) :
    Term.applyAux (toDB Γ N) (Δ.length + 1) (toDB (Δ ++ x :: Γ) M) = toDB (Δ ++ Γ) (csubstF f M x N) := by
  induction f generalizing M Δ with
  | zero => have := size_pos M; omega
  | succ f ih =>
    cases M with
    | var y => simpa [toDB, csubstF] using applyAux_toDB_var N x y Δ Γ hx hN
    | ud => simp [toDB, csubstF, Term.applyAux]
    | lam y b =>
      simp only [size] at hf
      simp only [csubstF]
      by_cases e : y = x
      · subst e
        simp only [if_true, toDB, Term.applyAux]; congr 1
        have := toDB_shadow (toDB Γ N) b y (y :: Δ) Γ (by simp)
        simpa using this
      · have hxy : ¬ x = y := fun e' => e e'.symm
        by_cases hc : y ∈ fv N
        · -- the binder would capture: rename it to the fresh name `z`
          simp only [e, if_false, hc, if_true, toDB, Term.applyAux]; congr 1
          generalize hz : fresh x N b = z
          have hzx : ¬ x = z := by rw [← hz]; exact fun e' => fresh_ne x N b e'.symm
          have hzN : z ∉ fv N := hz ▸ fresh_not_fv_arg x N b
          have hzf : z ∉ fv b := hz ▸ fresh_not_fv_body x N b
          have hzb : z ∉ bv b := hz ▸ fresh_not_bv_body x N b
          have hα := toDB_rename b y z [] (Δ ++ x :: Γ) (by simp) (by simp) hzf hzb
          simp only [List.nil_append] at hα
          have := ih (nsubst b y (.var z)) (z :: Δ) (by rw [size_rename]; omega) (by simp [hx, hzx])
            (by
              intro v hv
              have h1 := hN v hv
              have h2 : ¬ v = z := by intro e'; exact hzN (e' ▸ hv)
              simp [h1, h2])
          simp only [List.cons_append, List.length_cons] at this
          rw [← hα, this]
        · simp only [e, if_false, hc, toDB, Term.applyAux]; congr 1
          have := ih b (y :: Δ) (by omega) (by simp [hx, hxy])
            (by
              intro v hv
              have h1 := hN v hv
              have h2 : ¬ v = y := by intro e'; exact hc (e' ▸ hv)
              simp [h1, h2])
          simpa using this
    | app l r =>
      simp only [size] at hf
      simp only [csubstF, toDB, Term.applyAux]
      rw [ih l Δ (by omega) hx hN, ih r Δ (by omega) hx hN]

theorem csubstF_fuel (f g : Nat) (M N : NTerm) (x : Nat) (hf : size M ≤ f) (hg : size M ≤ g) :
    csubstF f M x N = csubstF g M x N := by
  induction f generalizing g M with
  | zero => have := size_pos M; omega
  | succ f ih =>
    cases g with
    | zero => have := size_pos M; omega
    | succ g =>
      cases M with
      | var y => simp [csubstF]
      | ud => simp [csubstF]
      | lam y b =>
        simp only [size] at hf hg
        simp only [csubstF]
        rw [ih g b (by omega) (by omega),
          ih g (nsubst b y (.var (fresh x N b))) (by rw [size_rename]; omega) (by rw [size_rename]; omega)]
      | app l r =>
        simp only [size] at hf hg
        simp only [csubstF]
        rw [ih g l (by omega) (by omega), ih g r (by omega) (by omega)]

theorem csubstF_eq_nsubst (f : Nat) (M N : NTerm) (x : Nat) (hf : size M ≤ f) (hB : ∀ v ∈ fv N, v ∉ bv M) :
    csubstF f M x N = nsubst M x N := by
  induction f generalizing M with
  | zero => have := size_pos M; omega
  | succ f ih =>
    cases M with
    | var y => simp [csubstF, nsubst]
    | ud => simp [csubstF, nsubst]
    | lam y b =>
      simp only [size] at hf
      have hc : y ∉ fv N := by intro h; exact hB y h (by simp [bv])
      simp only [csubstF, nsubst, hc, if_false]
      rw [ih b (by omega) (by intro v hv h; exact hB v hv (by simp [bv, h]))]
    | app l r =>
      simp only [size] at hf
      simp only [csubstF, nsubst]
      rw [ih l (by omega) (by intro v hv h; exact hB v hv (by simp [bv, h])),
        ih r (by omega) (by intro v hv h; exact hB v hv (by simp [bv, h]))]

/-- naive substitution is correct as long as no binder passed on the way (`Δ`) or met in `M` (`bv M`) binds a free
name of the argument -/
theorem nsubst_adequate_aux (M N : NTerm) (x : Nat) (Δ Γ : List Nat) (hx : x ∉ Δ)
    (hN : ∀ v ∈ fv N, v ∉ Δ) (hB : ∀ v ∈ fv N, v ∉ bv M) :
    Term.applyAux (toDB Γ N) (Δ.length + 1) (toDB (Δ ++ x :: Γ) M) = toDB (Δ ++ Γ) (nsubst M x N) := by
  rw [← csubstF_eq_nsubst (size M) M N x (Nat.le_refl _) hB]
  exact csubstF_adequate_aux (size M) M N x Δ Γ (Nat.le_refl _) hx hN

end Named
end LC
