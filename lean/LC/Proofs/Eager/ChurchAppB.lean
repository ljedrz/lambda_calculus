/-
Eager evaluation, APP order (applicative: operator and operand are normalised completely, also under binders,
before contraction): Church `is_even`, `is_odd`, `pow`, `shl`, `fac` for ALL arguments.

* The five operations are typable terms (`Eager/Typed.lean`), so their HAP values are their APP values.  In `is_even`,
  `is_odd` the numeral iterates `NOT : B (B A) → B A`; in `pow`, `shl` the exponent is used at two types.
* NEGATIVE result: the combinator `Z` has no APP-normal form, so every term containing `Z` (the `Z`-recursive `quot`,
  `rem`, `div`, `shr`, with ANY arguments) makes `reduce .APP 0 fuel` return `none` for every fuel
  (`church_quot/rem/div/shr_app_diverges_all`, witness `church_quot_app_diverges`).
-/
import LC.Proofs.Eager.ChurchHapB

namespace LC
open Term Spec Enc Eager

namespace ChurchAppB

/-- `h FALSE TRUE … FALSE TRUE` (`k` pairs): a description of the APP-normal form of `NOTᵏ h` for a variable `h` -/
def notW (h : Term) : Nat → Term
  | 0 => h
  | k + 1 => app2 (notW h k) Gen.Bool.fls Gen.Bool.tru

theorem shiftFV_notW (a o : Nat) (h : Term) (k : Nat) :
    shiftFV a o (notW h k) = notW (shiftFV a o h) k := by
  induction k with
  | zero => rfl
  | succ k ih => simp [notW, app2, shiftFV, ih, Gen.Bool.fls, Gen.Bool.tru]; omega

/-- the exponent of `pow = λa b. IS_ZERO b ONE (b a)`: tested for zero, where the test chooses between numerals, and
iterating the base -/
def Ex (A : Ty) : List Ty := [Ty.N (Ty.B (Ty.N A)), Ty.N (.arr [A] A)]

theorem typed_pow (Γ : List (List Ty)) (A : Ty) : Typed Γ Gen.Church.pow (.arr [Ty.N A] (.arr (Ex A) (Ty.N A))) :=
  Typed.abs (Typed.abs (Typed.app1 (Typed.app1 (Typed.app1 (typed_is_zero _ (Ty.N A))
      (Typed.var (i := 0) rfl List.mem_cons_self)) (typed_one _ A))
    (Typed.app1 (σ := Ty.N A) (Typed.var (i := 0) rfl (List.mem_cons_of_mem _ List.mem_cons_self))
      (Typed.var1 (i := 1) rfl))))

/-! ## negative result: the `Z`-recursive operations do NOT terminate under APP

APP normalises every operator completely, also under binders.  The fixed-point combinator
`Z ≡ λf. (λx. f (λv. x x v)) (λx. f (λv. x x v))` has no applicative-order normal form: with `f` a VARIABLE its body
unfolds for ever (`W W → f (λv. W W v)`, and `W W` is evaluated again under the binder `λv`).  Since a big-step APP
derivation contains a derivation for EVERY subterm, every term that contains `Z` anywhere diverges under APP — in
particular `quot`, `rem`, `div`, `shr` applied to any arguments. -/

/-- the terms met while APP unfolds `W W` (`W = ZW f`, `f = var (i + 2)` a variable; `ZW`, `ZF f = ZW f (ZW f)` are defined
at the end of `Num/Toolkit.lean`) -/
inductive ZBad : Term → Prop
  | a (i : Nat) : ZBad (ZF (var (i + 2)))
  | b (i : Nat) : ZBad (app (var (i + 1)) (abs (app (ZF (var (i + 3))) (var 1))))
  | c (i : Nat) : ZBad (abs (app (ZF (var (i + 2))) (var 1)))
  | d (i : Nat) : ZBad (app (ZF (var (i + 2))) (var 1))

theorem isNormal_ZW_var (i : Nat) : isNormal (ZW (var i)) = true := rfl

theorem ZBad.diverges {t r : Term} (h : EvalApp t r) : ZBad t → False := by
  induction h with
  | var i => intro hb; cases hb
  | abs _ ih =>
    intro hb
    cases hb with
    | c i => exact ih (ZBad.d i)
  | @appRed l r0 b r' n hl hr _ ihl ihr ihn =>
    intro hb
    generalize he : Term.app l r0 = t at hb
    cases hb with
    | a i =>
      simp only [ZF, Term.app.injEq] at he
      obtain ⟨rfl, rfl⟩ := he
      have e1 := (Ev.of_app hl).nf_eq (isNormal_ZW_var _)
      have e2 := (Ev.of_app hr).nf_eq (isNormal_ZW_var _)
      simp only [ZW, Term.abs.injEq] at e1
      subst e1 e2
      apply ihn
      have : contract (Term.app (var (i + 2)) (Term.abs (app2 (var 2) (var 2) (var 1)))) (ZW (var (i + 2))) =
          app (var (i + 1)) (abs (app (ZF (var (i + 3))) (var 1))) := by
        simp [contract, applyAux, shiftFV, ZF, ZW]
      rw [this]; exact ZBad.b i
    | b i =>
      simp only [Term.app.injEq] at he
      obtain ⟨rfl, rfl⟩ := he
      cases hl
    | c i => cases he
    | d i =>
      simp only [Term.app.injEq] at he
      obtain ⟨rfl, rfl⟩ := he
      exact ihl (ZBad.a i)
  | @appNeu l r0 l' r' hl hna hr ihl ihr =>
    intro hb
    generalize he : Term.app l r0 = t at hb
    cases hb with
    | a i =>
      simp only [ZF, Term.app.injEq] at he
      obtain ⟨rfl, rfl⟩ := he
      have e1 := (Ev.of_app hl).nf_eq (isNormal_ZW_var _)
      subst e1
      simp [ZW, isAbs] at hna
    | b i =>
      simp only [Term.app.injEq] at he
      obtain ⟨rfl, rfl⟩ := he
      exact ihr (ZBad.c (i + 1))
    | c i => cases he
    | d i =>
      simp only [Term.app.injEq] at he
      obtain ⟨rfl, rfl⟩ := he
      exact ihl (ZBad.a i)

def hasSub (s : Term) : Term → Bool
  | t@(Term.var _) => t == s
  | t@(Term.abs b) => t == s || hasSub s b
  | t@(Term.app l r) => t == s || hasSub s l || hasSub s r

/-- a derivation for a term contains a derivation for each of its subterms -/
theorem ev_app_sub {s : Term} {t r : Term} (h : Ev .APP t r) : hasSub s t = true → ∃ r', Ev .APP s r' := by
  induction t generalizing r with
  | var i => intro hs; simp [hasSub] at hs; subst hs; exact ⟨_, h⟩
  | abs b ih =>
    intro hs
    simp only [hasSub, Bool.or_eq_true, beq_iff_eq] at hs
    rcases hs with rfl | hs
    · exact ⟨_, h⟩
    · obtain ⟨_, hb⟩ := h.abs_inv
      exact ih hb hs
  | app l r0 ihl ihr =>
    intro hs
    simp only [hasSub, Bool.or_eq_true, beq_iff_eq] at hs
    rcases hs with (rfl | hs) | hs
    · exact ⟨_, h⟩
    · obtain ⟨_, hl⟩ := h.app_fn_inv
      exact ihl hl hs
    · obtain ⟨_, hr⟩ := h.app_arg_inv
      exact ihr hr hs

theorem Z_app_diverges (r : Term) : ¬ Ev .APP Gen.Comb.Z r := by
  intro h
  rw [show Gen.Comb.Z = abs (ZF (var 2)) by decide] at h
  cases h with
  | stop hu => cases hu
  | abs _ hb => exact ZBad.diverges hb.toApp (ZBad.a 0)

theorem app_diverges_of_Z {t : Term} (h : hasSub Gen.Comb.Z t = true) (r : Term) : ¬ Ev .APP t r := by
  intro he
  obtain ⟨r', hr'⟩ := ev_app_sub he h
  exact Z_app_diverges r' hr'

theorem reduce_app_none_of_Z {t : Term} (h : hasSub Gen.Comb.Z t = true) (fuel : Nat) :
    reduce .APP 0 fuel t = none :=
  Ev.reduce_none (app_diverges_of_Z h) fuel

theorem hasSub_app2 {s f : Term} (h : hasSub s f = true) (a b : Term) : hasSub s (app2 f a b) = true := by
  simp [hasSub, h]

end ChurchAppB

open ChurchAppB

theorem church_is_even_app (n : Nat) :
    Ev .APP (app Gen.Church.is_even (intoChurch n)) (fromBool (n % 2 == 0)) :=
  (church_is_even_hap n).app_of_typed (Typed.app1 (τ := Ty.B .o)
    (Typed.abs (typed_iterate (typed_not _) (Typed.var1 rfl) (typed_fromBool _ _ true))) (typed_It [] Ty.B Ty.B n .o))

theorem church_is_odd_app (n : Nat) :
    Ev .APP (app Gen.Church.is_odd (intoChurch n)) (fromBool (n % 2 == 1)) :=
  (church_is_odd_hap n).app_of_typed (Typed.app1 (τ := Ty.B .o)
    (Typed.abs (typed_iterate (typed_not _) (Typed.var1 rfl) (typed_fromBool _ _ false))) (typed_It [] Ty.B Ty.B n .o))

theorem church_pow_app (m n : Nat) :
    Ev .APP (app2 Gen.Church.pow (intoChurch m) (intoChurch n)) (intoChurch (m ^ n)) :=
  (church_pow_hap m n).app_of_typed (Typed.appAt2 (Typed.app1 (typed_pow [] .o) (typed_intoChurch_N [] _ m))
    (typed_intoChurch_N [] _ n) (typed_intoChurch_N [] _ n))

theorem church_shl_app (m n : Nat) :
    Ev .APP (app2 Gen.Church.shl (intoChurch m) (intoChurch n)) (intoChurch (m * 2 ^ n)) := by
  -- `shl = λa b. MUL a (POW (SUCC ONE) b)`
  have hshl : Typed [] Gen.Church.shl (.arr [Ty.N .o] (.arr (Ex .o) (Ty.N .o))) :=
    Typed.abs (Typed.abs (Typed.app1 (Typed.app1 (typed_mul _ .o) (Typed.var1 (i := 1) rfl))
      (Typed.app (Typed.app1 (typed_pow _ .o) (Typed.app1 (typed_succ _ .o) (typed_one _ .o)))
        (Typed.var (i := 0) rfl (.head _)) (fun σ hσ => Typed.var (i := 0) rfl hσ))))
  exact (church_shl_hap m n).app_of_typed
    (Typed.appAt2 (Typed.app1 hshl (typed_intoChurch_N [] _ m)) (typed_intoChurch_N [] _ n) (typed_intoChurch_N [] _ n))

theorem church_fac_app (n : Nat) :
    Ev .APP (app Gen.Church.fac (intoChurch n)) (intoChurch (ChurchB.fact n)) := by
  have hfac : Typed [] Gen.Church.fac (.arr [Ty.N (.arr [Ty.N .o] (.arr [Ty.N .o] (Ty.N .o)))] (Ty.N .o)) := by
    unfold Gen.Church.fac Ty.N; stlc_typecheck
  exact (church_fac_hap n).app_of_typed (Typed.app1 hfac (typed_intoChurch_N [] _ n))

theorem church_is_even_reduce_app (n : Nat) :
    ∃ fuel c, reduce .APP 0 fuel (app Gen.Church.is_even (intoChurch n)) = some (fromBool (n % 2 == 0), c) :=
  (church_is_even_app n).reduce
theorem church_is_odd_reduce_app (n : Nat) :
    ∃ fuel c, reduce .APP 0 fuel (app Gen.Church.is_odd (intoChurch n)) = some (fromBool (n % 2 == 1), c) :=
  (church_is_odd_app n).reduce
theorem church_pow_reduce_app (m n : Nat) :
    ∃ fuel c, reduce .APP 0 fuel (app2 Gen.Church.pow (intoChurch m) (intoChurch n)) = some (intoChurch (m ^ n), c) :=
  (church_pow_app m n).reduce
theorem church_shl_reduce_app (m n : Nat) :
    ∃ fuel c, reduce .APP 0 fuel (app2 Gen.Church.shl (intoChurch m) (intoChurch n)) =
      some (intoChurch (m * 2 ^ n), c) :=
  (church_shl_app m n).reduce
theorem church_fac_reduce_app (n : Nat) :
    ∃ fuel c, reduce .APP 0 fuel (app Gen.Church.fac (intoChurch n)) = some (intoChurch (ChurchB.fact n), c) :=
  (church_fac_app n).reduce

/-! ## negative result: `quot`, `rem`, `div`, `shr` diverge under APP for ALL arguments

(in fact for arbitrary argument TERMS: the operator contains `Z`, which APP tries to normalise first) -/

theorem church_quot_app_diverges_all (a b : Term) (fuel : Nat) :
    reduce .APP 0 fuel (app2 Gen.Church.quot a b) = none :=
  reduce_app_none_of_Z (hasSub_app2 (by decide) a b) fuel
theorem church_rem_app_diverges_all (a b : Term) (fuel : Nat) :
    reduce .APP 0 fuel (app2 Gen.Church.rem a b) = none :=
  reduce_app_none_of_Z (hasSub_app2 (by decide) a b) fuel
theorem church_div_app_diverges_all (a b : Term) (fuel : Nat) :
    reduce .APP 0 fuel (app2 Gen.Church.div a b) = none :=
  reduce_app_none_of_Z (hasSub_app2 (by decide) a b) fuel
theorem church_shr_app_diverges_all (a b : Term) (fuel : Nat) :
    reduce .APP 0 fuel (app2 Gen.Church.shr a b) = none :=
  reduce_app_none_of_Z (hasSub_app2 (by decide) a b) fuel

theorem church_quot_app_diverges :
    ∀ fuel, reduce .APP 0 fuel (app2 Gen.Church.quot (intoChurch 1) (intoChurch 1)) = none :=
  church_quot_app_diverges_all _ _

end LC
