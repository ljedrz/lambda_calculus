/-
Applicative order terminates on every typable term.

APP normalises an operator completely, also under its binders, before it applies it; a direct derivation for
`op (church m) (church n)` therefore has to describe the open normal forms of a recursion of symbolic length.  What makes
these evaluations terminate is not particular to the operation: the terms are typable, and on a typable term every
strategy terminates.

* Types.  Simple types are not enough: in `pow = λa b. IS_ZERO b ONE (b a)` the bound `b` is a numeral that is tested
  for zero and a numeral that iterates `a`, and in `sub = λa b. b PRED a` the numeral `b` iterates `PRED`, whose argument
  and result types differ, so the iterated function is used at a different type at every turn.  Hence a bound variable has
  a LIST of types (an intersection), `arr [σ₁, …, σ_k] τ` is the type of a function that uses its argument at `σ₁ … σ_k`,
  and an argument is typed at each of them — and at some type also where the function asks for none: APP evaluates
  it all the same.
* Termination (`typed_app_terminates`) is by hereditary substitution (`hsubst`): substituting a typed normal form for
  a variable of a typed normal form and evaluating terminates, by induction on the size of the types of the variable
  and then on the term; a redex that the substitution creates has an operator whose type is part of a type of the
  variable, so the substitution it asks for is at smaller types.
* The value.  A derivation is a β-reduction to a normal form, so by confluence the result is THE normal form: once the
  value of a typable term is known from any source (a HAP derivation: `Ev.app_of_typed`) it is its APP value
  (`app_of_typed_star`).

A typing derivation is written with `Typed.abs`, `Typed.var1`, `Typed.app1`, `Typed.appAt2`, `Typed.appAt3` (an argument
used at one, two, three types) or found by the tactic `stlc_typecheck`; the types in use are `Ty.N`, `Ty.B`, `Ty.X`,
`Ty.Iter`, `Ty.It`.
-/
import LC.Proofs.Eager.BigStep
import LC.Proofs.Num.Toolkit

namespace LC
open Term Spec Enc RL

namespace Eager

inductive Ty : Type
  | o : Ty
  | arr : List Ty → Ty → Ty

mutual
def Ty.size : Ty → Nat
  | .o => 1
  | .arr σs τ => sizes σs + τ.size + 1
def sizes : List Ty → Nat
  | [] => 0
  | σ :: σs => σ.size + sizes σs
end

theorem size_le_sizes {σ : Ty} {σs : List Ty} (h : σ ∈ σs) : σ.size ≤ sizes σs := by
  induction σs with
  | nil => cases h
  | cons a as ih =>
    rw [sizes]
    rcases List.mem_cons.mp h with rfl | h
    · omega
    · have := ih h; omega

/-- `Γ ⊢ t : τ`, Curry style; the variable `i + 1` has every type of the list `Γ[i]`; an argument is typed at every type
the operator asks for, and, also where the operator asks for none, at some type `ρ` (so every subterm of a typed term is
typed) -/
inductive Typed : List (List Ty) → Term → Ty → Prop
  | var {Γ : List (List Ty)} {i : Nat} {σs : List Ty} {τ : Ty} :
      Γ[i]? = some σs → τ ∈ σs → Typed Γ (Term.var (i + 1)) τ
  | abs {Γ : List (List Ty)} {b : Term} {σs : List Ty} {τ : Ty} :
      Typed (σs :: Γ) b τ → Typed Γ (Term.abs b) (Ty.arr σs τ)
  | app {Γ : List (List Ty)} {l r : Term} {σs : List Ty} {ρ τ : Ty} :
      Typed Γ l (Ty.arr σs τ) → Typed Γ r ρ → (∀ σ ∈ σs, Typed Γ r σ) → Typed Γ (Term.app l r) τ

theorem Typed.shift {Γ : List (List Ty)} {t : Term} {τ : Ty} (h : Typed Γ t τ) :
    ∀ (Γ1 Γ2 Δ : List (List Ty)), Γ = Γ1 ++ Γ2 → Typed (Γ1 ++ Δ ++ Γ2) (shiftFV Δ.length Γ1.length t) τ := by
  induction h with
  | @var Γ i σs τ hi hm =>
    intro Γ1 Γ2 Δ e; subst e
    simp only [shiftFV]
    by_cases hlt : i + 1 > Γ1.length
    · rw [if_pos hlt, Nat.add_right_comm]
      refine Typed.var ?_ hm
      rw [List.getElem?_append_right (by omega)] at hi
      rw [List.getElem?_append_right (by simp; omega)]
      rw [← hi]; congr 1; simp; omega
    · rw [if_neg hlt]
      refine Typed.var ?_ hm
      rw [List.getElem?_append_left (by omega)] at hi
      rw [List.append_assoc, List.getElem?_append_left (by omega)]
      exact hi
  | @abs Γ b σs τ _ ih =>
    intro Γ1 Γ2 Δ e; subst e
    exact Typed.abs (ih (σs :: Γ1) Γ2 Δ rfl)
  | app _ _ _ ihl ihρ ihr =>
    intro Γ1 Γ2 Δ e
    exact Typed.app (ihl Γ1 Γ2 Δ e) (ihρ Γ1 Γ2 Δ e) (fun σ hσ => ihr σ hσ Γ1 Γ2 Δ e)

/-- hereditary substitution in applicative order: substituting a normal form `v` that has the types `σs` for a variable
of these types in a typed normal form and evaluating (APP) terminates with a result of the same type; induction on a
bound of the sizes of `σs`, then on the term.  The last part of the conclusion feeds the induction: an abstraction that
appears where the term was neutral has a type that is part of a type of the variable. -/
theorem hsubst (n : Nat) : ∀ (σs : List Ty), (∀ σ ∈ σs, σ.size ≤ n) → ∀ (t : Term) (Γ1 Γ2 : List (List Ty)) (τ : Ty)
    (v : Term), Typed (Γ1 ++ σs :: Γ2) t τ → isNormal t = true → (∀ σ ∈ σs, Typed Γ2 v σ) → isNormal v = true →
    ∃ r, Ev .APP (applyAux v (Γ1.length + 1) t) r ∧ Typed (Γ1 ++ Γ2) r τ ∧
      (isAbs t = false → isAbs r = true → ∃ σ ∈ σs, τ.size ≤ σ.size) := by
  induction n using Nat.strongRecOn with
  | _ n IH =>
    intro σs hσ t
    induction t with
    | var j =>
      intro Γ1 Γ2 τ v ht _ hv nv
      cases ht with
      | @var _ i σs' _ hi hm =>
        simp only [applyAux]
        by_cases h1 : i + 1 = Γ1.length + 1
        · rw [if_pos h1]
          have : i = Γ1.length := by omega
          subst this
          rw [List.getElem?_append_right (Nat.le_refl _)] at hi
          simp at hi; subst hi
          refine ⟨_, Ev.of_isNormal (o := .APP) (by rw [isNormal_shiftFV]; exact nv), ?_, fun _ _ => ⟨τ, hm, Nat.le_refl _⟩⟩
          have := (hv τ hm).shift [] Γ2 Γ1 rfl
          simpa using this
        · rw [if_neg h1]
          by_cases h2 : i + 1 > Γ1.length + 1
          · rw [if_pos h2]
            refine ⟨_, Ev.var _ _, ?_, fun _ h => by simp [isAbs] at h⟩
            obtain ⟨k, rfl⟩ : ∃ k, i = k + 1 := ⟨i - 1, by omega⟩
            rw [Nat.add_sub_cancel]
            refine Typed.var ?_ hm
            rw [List.getElem?_append_right (by omega)] at hi ⊢
            rw [← hi]
            have : k + 1 - Γ1.length = (k - Γ1.length) + 1 := by omega
            rw [this]; rfl
          · rw [if_neg h2]
            refine ⟨_, Ev.var _ _, ?_, fun _ h => by simp [isAbs] at h⟩
            refine Typed.var ?_ hm
            rw [List.getElem?_append_left (by omega)] at hi ⊢
            exact hi
    | abs b ih =>
      intro Γ1 Γ2 τ v ht nt hv nv
      cases ht with
      | @abs _ _ σ1 τ1 hb =>
        obtain ⟨r, hr, tr, _⟩ := ih (σ1 :: Γ1) Γ2 τ1 v hb (by simpa [isNormal] using nt) hv nv
        exact ⟨Term.abs r, Ev.abs rfl hr, Typed.abs tr, fun h => by simp [isAbs] at h⟩
    | app l r0 ihl ihr =>
      intro Γ1 Γ2 τ v ht nt hv nv
      obtain ⟨hna, nl, nr⟩ := isNormal_app nt
      cases ht with
      | @app _ _ _ σ1s ρ _ hl hρ hr =>
        obtain ⟨l', el, tl, il⟩ := ihl Γ1 Γ2 _ v hl nl hv nv
        -- the operand has ONE value (`Ev.det`), typed at every type asked for
        obtain ⟨r', er, tρ, _⟩ := ihr Γ1 Γ2 ρ v hρ nr hv nv
        have tr : ∀ σ ∈ σ1s, Typed (Γ1 ++ Γ2) r' σ := fun σ hσ1 => by
          obtain ⟨r'', er'', tr'', _⟩ := ihr Γ1 Γ2 σ v (hr σ hσ1) nr hv nv
          rw [er.det er'']; exact tr''
        simp only [applyAux]
        by_cases hab : isAbs l' = true
        · obtain ⟨b', rfl⟩ : ∃ b', l' = Term.abs b' := by
            cases l' with
            | abs b' => exact ⟨b', rfl⟩
            | var _ => simp [isAbs] at hab
            | app _ _ => simp [isAbs] at hab
          obtain ⟨σ, hσm, hs⟩ := il hna rfl
          have hn := hσ σ hσm
          rw [Ty.size] at hs
          have nb' : isNormal b' = true := by simpa [isNormal] using el.isNormal
          cases tl with
          | abs hb' =>
            obtain ⟨R, eR, tR, _⟩ := IH (n - 1) (by omega) σ1s
              (fun σ1 h1 => by have := size_le_sizes h1; omega) b' [] (Γ1 ++ Γ2) _ r' hb' nb' tr er.nf
            exact ⟨R, Ev.red el er eR, by simpa using tR, fun _ _ => ⟨σ, hσm, by omega⟩⟩
        · have hab' : isAbs l' = false := by simpa using hab
          exact ⟨Term.app l' r', Ev.neu rfl el hab' er, Typed.app tl tρ tr, fun _ h => by simp [isAbs] at h⟩

/-- a typed normal operator applied to a typed normal operand terminates under APP -/
theorem app_nf_terminates {Γ : List (List Ty)} {f v : Term} {σs : List Ty} {ρ τ : Ty} (hf : Typed Γ f (Ty.arr σs τ))
    (nf : isNormal f = true) (hρ : Typed Γ v ρ) (hv : ∀ σ ∈ σs, Typed Γ v σ) (nv : isNormal v = true) :
    ∃ r, Ev .APP (Term.app f v) r ∧ Typed Γ r τ := by
  cases f with
  | abs b =>
    cases hf with
    | abs hb =>
      obtain ⟨r, er, tr, _⟩ := hsubst (sizes σs) σs (fun _ => size_le_sizes) b [] Γ τ v hb
        (by simpa [isNormal] using nf) hv nv
      exact ⟨r, Ev.beta nf nv er, by simpa using tr⟩
  | var i => exact ⟨_, Ev.neu rfl (Ev.var _ i) rfl (Ev.of_nf nv), Typed.app hf hρ hv⟩
  | app l r =>
    exact ⟨_, Ev.neu rfl (Ev.of_nf nf) rfl (Ev.of_nf nv), Typed.app hf hρ hv⟩

/-- **APP terminates on every typable term**, with a result of the same type -/
theorem typed_app_terminates {Γ : List (List Ty)} {t : Term} {τ : Ty} (h : Typed Γ t τ) :
    ∃ r, Ev .APP t r ∧ Typed Γ r τ := by
  induction h with
  | var hi hm => exact ⟨_, Ev.var _ _, Typed.var hi hm⟩
  | abs _ ih =>
    obtain ⟨r, er, tr⟩ := ih
    exact ⟨_, Ev.abs rfl er, Typed.abs tr⟩
  | @app Γ l r σs ρ τ _ _ _ ihl ihρ ihr =>
    obtain ⟨l', el, tl⟩ := ihl
    obtain ⟨r', er, tρ⟩ := ihρ
    have tr : ∀ σ ∈ σs, Typed Γ r' σ := fun σ hσ => by
      obtain ⟨r'', er'', tr''⟩ := ihr σ hσ
      rw [er.det er'']; exact tr''
    obtain ⟨R, eR, tR⟩ := app_nf_terminates tl el.nf tρ tr er.nf
    exact ⟨R, Ev.app_congr el er eR, tR⟩

/-- a typable term whose β-normal form is known evaluates to it under APP -/
theorem app_of_typed_star {t n : Term} {τ : Ty} (ht : Typed [] t τ) (hs : t ↠ n) (hn : isNormal n = true) :
    Ev .APP t n := by
  obtain ⟨r, er, _⟩ := typed_app_terminates ht
  have := normal_unique er.star hs ((isNormal_iff_normal _).mp er.nf) ((isNormal_iff_normal _).mp hn)
  rw [← this]; exact er

/-! ## an argument used at one, two, three types; the simply typed fragment (every variable and argument at one type) -/

theorem Typed.app1 {Γ : List (List Ty)} {l r : Term} {σ τ : Ty} (hl : Typed Γ l (Ty.arr [σ] τ)) (hr : Typed Γ r σ) :
    Typed Γ (Term.app l r) τ :=
  Typed.app hl hr (fun σ' h => by rw [List.mem_singleton.mp h]; exact hr)

theorem Typed.appAt2 {Γ : List (List Ty)} {l r : Term} {σ₁ σ₂ τ : Ty} (hl : Typed Γ l (Ty.arr [σ₁, σ₂] τ))
    (h₁ : Typed Γ r σ₁) (h₂ : Typed Γ r σ₂) : Typed Γ (Term.app l r) τ :=
  Typed.app hl h₁ (List.forall_mem_cons.mpr ⟨h₁, List.forall_mem_cons.mpr ⟨h₂, fun _ h => nomatch h⟩⟩)

theorem Typed.appAt3 {Γ : List (List Ty)} {l r : Term} {σ₁ σ₂ σ₃ τ : Ty} (hl : Typed Γ l (Ty.arr [σ₁, σ₂, σ₃] τ))
    (h₁ : Typed Γ r σ₁) (h₂ : Typed Γ r σ₂) (h₃ : Typed Γ r σ₃) : Typed Γ (Term.app l r) τ :=
  Typed.app hl h₁ (List.forall_mem_cons.mpr
    ⟨h₁, List.forall_mem_cons.mpr ⟨h₂, List.forall_mem_cons.mpr ⟨h₃, fun _ h => nomatch h⟩⟩⟩)

theorem Typed.var1 {Γ : List (List Ty)} {i : Nat} {τ : Ty} (h : Γ[i]? = some [τ]) : Typed Γ (Term.var (i + 1)) τ :=
  Typed.var h List.mem_cons_self

/-- a simply typed closed tree, types of the variables found by unification -/
macro "stlc_typecheck" : tactic =>
  `(tactic| (repeat' (first | apply Typed.abs | apply Typed.app1 | exact Typed.var1 rfl)))

/-! ## Church numerals: the iterated function may change its type at every turn -/

/-- `τ 0 → τ 1, …, τ (n-1) → τ n` -/
def steps (τ : Nat → Ty) (n : Nat) : List Ty := (List.range n).map fun k => Ty.arr [τ k] (τ (k + 1))

theorem mem_steps {τ : Nat → Ty} {k n : Nat} (h : k < n) : Ty.arr [τ k] (τ (k + 1)) ∈ steps τ n :=
  List.mem_map.mpr ⟨k, List.mem_range.mpr h, rfl⟩

theorem of_mem_steps {τ : Nat → Ty} {σ : Ty} {n : Nat} (h : σ ∈ steps τ n) :
    ∃ k, k < n ∧ σ = Ty.arr [τ k] (τ (k + 1)) :=
  let ⟨k, hk, e⟩ := List.mem_map.mp h
  ⟨k, List.mem_range.mp hk, e.symm⟩

/-- the numeral `n` iterates a function on a term that has, after `k` turns, every type of the list `L k`: for every
`X` in `L (k+1)` the function has a type `σs → X` with `σs` taken from `L k` -/
theorem typed_intoChurch_lists (Γ : List (List Ty)) (L : Nat → List Ty) (S : List Ty) (n : Nat)
    (hS : ∀ k, k < n → ∀ X ∈ L (k + 1), ∃ σs, σs ≠ [] ∧ Ty.arr σs X ∈ S ∧ ∀ ρ ∈ σs, ρ ∈ L k) :
    ∀ X ∈ L n, Typed Γ (intoChurch n) (Ty.arr S (Ty.arr (L 0) X)) := by
  have body : ∀ k, k ≤ n → ∀ X ∈ L k, Typed (L 0 :: S :: Γ) (iterApp (var 2) (var 1) k) X := by
    intro k
    induction k with
    | zero => exact fun _ X hX => Typed.var (i := 0) rfl hX
    | succ k ih =>
      intro hk X hX
      obtain ⟨σs, hne, hmem, hin⟩ := hS k (by omega) X hX
      obtain ⟨σ, hσ⟩ := List.exists_mem_of_ne_nil σs hne
      exact Typed.app (Typed.var (i := 1) rfl hmem) (ih (by omega) σ (hin σ hσ)) (fun ρ hρ => ih (by omega) ρ (hin ρ hρ))
  intro X hX
  rw [intoChurch_eq]
  exact Typed.abs (Typed.abs (body n (Nat.le_refl n) X hX))

/-- the numeral `n` iterates a function that has (at least) the `n` types `τ k → τ (k+1)` -/
theorem typed_intoChurch (Γ : List (List Ty)) (τ : Nat → Ty) (S : List Ty) (n : Nat)
    (hS : ∀ k, k < n → Ty.arr [τ k] (τ (k + 1)) ∈ S) :
    Typed Γ (intoChurch n) (Ty.arr S (Ty.arr [τ 0] (τ n))) :=
  typed_intoChurch_lists Γ (fun k => [τ k]) S n
    (fun k hk X hX => by
      rw [List.mem_singleton.mp hX]
      exact ⟨[τ k], List.cons_ne_nil _ _, hS k hk, fun _ h => h⟩) (τ n) (.head _)

/-- the type of the numeral `n` as iterator of a function that has the types `τ k → τ (k+1)`, `k < n` -/
def Ty.Iter (τ : Nat → Ty) (n : Nat) : Ty := .arr (steps τ n) (.arr [τ 0] (τ n))

theorem typed_Iter (Γ : List (List Ty)) (τ : Nat → Ty) (n : Nat) : Typed Γ (intoChurch n) (Ty.Iter τ n) :=
  typed_intoChurch Γ τ _ n (fun _ hk => mem_steps hk)

/-- `b f a` where `b` has an iterator type of the numeral `n` and `f` has the types it asks for (and a type `d`, for
`n = 0`) -/
theorem typed_iter_app {Γ : List (List Ty)} {d : Ty} {τ : Nat → Ty} {f a b : Term} {n : Nat}
    (hb : Typed Γ b (Ty.Iter τ n)) (hd : Typed Γ f d) (hf : ∀ k, k < n → Typed Γ f (.arr [τ k] (τ (k + 1))))
    (ha : Typed Γ a (τ 0)) : Typed Γ (app2 b f a) (τ n) :=
  Typed.app1 (Typed.app hb hd (fun _ hσ => by obtain ⟨k, hk, rfl⟩ := of_mem_steps hσ; exact hf k hk)) ha

/-- the numerals at one type -/
def Ty.N (A : Ty) : Ty := .arr [.arr [A] A] (.arr [A] A)

theorem typed_intoChurch_N (Γ : List (List Ty)) (A : Ty) (n : Nat) : Typed Γ (intoChurch n) (Ty.N A) :=
  typed_intoChurch Γ (fun _ => A) [.arr [A] A] n (fun _ _ => List.mem_cons_self)

/-- the Church booleans that choose between terms of type `A` -/
def Ty.B (A : Ty) : Ty := .arr [A] (.arr [A] A)

theorem typed_fromBool (Γ : List (List Ty)) (A : Ty) (b : Bool) : Typed Γ (fromBool b) (Ty.B A) := by
  cases b <;> exact Typed.abs (Typed.abs (Typed.var1 rfl))

/-! ## a numeral that iterates a function whose argument and result types differ

`f : G (F A) → G A` for every `A` (`PRED : N (X A) → N A`, `NOT : B (B A) → B A`): `n` turns of `f` lead from
`G (Fⁿ A)` to `G A`, the `k`-th of them at `G (Fⁿ⁻ᵏ A) → G (Fⁿ⁻ᵏ⁻¹ A)`. -/

def Ty.tower (F : Ty → Ty) : Nat → Ty → Ty
  | 0, A => A
  | j + 1, A => F (Ty.tower F j A)

def Ty.It (F G : Ty → Ty) (n : Nat) (A : Ty) : Ty := Ty.Iter (fun k => G (Ty.tower F (n - k) A)) n

theorem typed_It (Γ : List (List Ty)) (F G : Ty → Ty) (n : Nat) (A : Ty) : Typed Γ (intoChurch n) (Ty.It F G n A) :=
  typed_Iter Γ _ n

/-- `b f a` where `b` has the type of the numeral `n` as iterator of `f` among its types -/
theorem typed_iterate {Γ : List (List Ty)} {F G : Ty → Ty} {f a b : Term} {n : Nat} {A : Ty}
    (hf : ∀ A, Typed Γ f (.arr [G (F A)] (G A))) (hb : Typed Γ b (Ty.It F G n A))
    (ha : Typed Γ a (G (Ty.tower F n A))) : Typed Γ (app2 b f a) (G A) := by
  have h := typed_iter_app hb (hf A) (fun k hk => by
    show Typed Γ f (.arr [G (Ty.tower F (n - k) A)] (G (Ty.tower F (n - (k + 1)) A)))
    rw [show n - k = (n - (k + 1)) + 1 by omega]
    exact hf _) ha
  simpa only [Nat.sub_self, Ty.tower] using h

/-! ## generated constants that several operations are built from -/

theorem typed_one (Γ : List (List Ty)) (A : Ty) : Typed Γ Gen.Church.one (Ty.N A) := by
  unfold Gen.Church.one Ty.N; stlc_typecheck

theorem typed_succ (Γ : List (List Ty)) (A : Ty) : Typed Γ Gen.Church.succ (.arr [Ty.N A] (Ty.N A)) := by
  unfold Gen.Church.succ Ty.N; stlc_typecheck

theorem typed_mul (Γ : List (List Ty)) (A : Ty) : Typed Γ Gen.Church.mul (.arr [Ty.N A] (.arr [Ty.N A] (Ty.N A))) := by
  unfold Gen.Church.mul Ty.N; stlc_typecheck

theorem typed_is_zero (Γ : List (List Ty)) (A : Ty) : Typed Γ Gen.Church.is_zero (.arr [Ty.N (Ty.B A)] (Ty.B A)) := by
  unfold Gen.Church.is_zero Ty.N Ty.B; stlc_typecheck

theorem typed_not (Γ : List (List Ty)) (A : Ty) : Typed Γ Gen.Bool.not (.arr [Ty.B (Ty.B A)] (Ty.B A)) :=
  Typed.abs (Typed.app1 (Typed.app1 (Typed.var1 rfl) (typed_fromBool _ A false)) (typed_fromBool _ A true))

/-- `AND p q = p q p`: the first boolean chooses between booleans and is one of the two -/
theorem typed_and (Γ : List (List Ty)) (A : Ty) :
    Typed Γ Gen.Bool.and (.arr [Ty.B (Ty.B A), Ty.B A] (.arr [Ty.B A] (Ty.B A))) :=
  Typed.abs (Typed.abs (Typed.app1 (Typed.app1 (Typed.var (i := 1) rfl List.mem_cons_self) (Typed.var1 rfl))
    (Typed.var (i := 1) rfl (List.mem_cons_of_mem _ List.mem_cons_self))))

/-- `OR p q = p p q` -/
theorem typed_or (Γ : List (List Ty)) (A : Ty) :
    Typed Γ Gen.Bool.or (.arr [Ty.B (Ty.B A), Ty.B A] (.arr [Ty.B A] (Ty.B A))) :=
  Typed.abs (Typed.abs (Typed.app1 (Typed.app1 (Typed.var (i := 1) rfl List.mem_cons_self)
    (Typed.var (i := 1) rfl (List.mem_cons_of_mem _ List.mem_cons_self))) (Typed.var1 rfl)))

/-- the type at which the numeral that `pred` takes iterates, for a result that iterates at `A` -/
def Ty.X (A : Ty) : Ty := .arr [.arr [A] A] A

theorem typed_pred (Γ : List (List Ty)) (A : Ty) : Typed Γ Gen.Church.pred (.arr [Ty.N (Ty.X A)] (Ty.N A)) := by
  unfold Gen.Church.pred Ty.N Ty.X; stlc_typecheck

end Eager

/-- on a typable term the HAP value is the APP value -/
theorem Ev.app_of_typed {t n : Term} (h : Ev .HAP t n) {τ : Eager.Ty} (ht : Eager.Typed [] t τ) : Ev .APP t n :=
  Eager.app_of_typed_star ht h.star h.nf

end LC
