/-
Big-step (natural) semantics of the EAGER traversals of `LC/Model/Reduce.lean` with `limit = 0` (no step limit).

ONE relation `Ev : Order → Term → Term → Prop`, without fuel and without step counters, whose rules are read off the
attributes of the order (`Proofs/Scheme.lean`) exactly as one level `visit` of a traversal and one step `stepOrd_app`
are: the operator is evaluated by `o.head`, then the operand by `o`, then the contraction if the operator became an
abstraction; abstractions are entered when `o.under`; a neutral operator is evaluated once more by `o` itself when
`o.deep`.  It is the relation of the orders with `o.eager = true` (the operand comes before the contraction): CBV, APP,
HAP.  The three documented instances are written out as inductive relations of their own (§1), each mirroring the order
of the recursive calls of its traversal, and are proved to be the instances (`Ev.of_cbv/toCbv`, `Ev.of_app/toApp`,
`Ev.of_hap/toHap`).

Adequacy, once for every eager order.  `Ret o g t v` (§2) says that the traversal with fuel `g` returns `v` on `t`; it
has one rule for each rule of `Ev`, and more fuel does no harm (`Ret.mono`).  A derivation yields a terminating run for
some fuel (`Ev.run`: rule by rule, the premises brought to a common fuel), a terminating run yields a derivation
(`Ev.of_run`).  What results have of the traversal — normal form of the order (`nf`), β-reduct (`star`), normal forms
evaluate to themselves and only to themselves (`of_nf`, `nf_eq`), the result is determined by the term (`det`) — is read
off the runs.  Then the congruences for applications (`app_mono` and its corollaries), the derivations that a derivation
contains (`abs_inv`, `app_fn_inv`, `app_arg_inv`, `app_red_inv`), β for values (`beta`, `beta_inv`) and stability under
shifting (`shift`).

A lemma that needs `o.eager = true` takes it as its LAST argument with the default `by rfl`: at a constant order it is
not written, for a variable order it is passed (`h.comp hv he`).  `NF o` is stated with the order; `NF .HAP = isNormal`,
`NF .CBV = isWNF`, `NF .APP = isNormal` hold by `rfl`, and `of_isNormal`, `of_isWNF`, `isNormal`, `isWNF` are the forms from
which a term is found by unification.

Rules of `Ev`: `.var`, `.stop`, `.abs`, `.red`, `.neu`, `.deep`.
Rules of `Ret`: `Ret.var`, `abs_stop`, `abs`, `app_red`, `app_neu`, `app_neu_deep`, `nf`; besides `Ret.mono`, `Ret.reduce`.

Purpose: unbounded (for all arguments) termination theorems for the λ-encoded operations under the eager orders HAP and
APP, for which there is no general normalisation theorem.
-/
import LC.Proofs.Complete.All
import LC.Proofs.ReduceLemmas

namespace LC
open Term Spec RL

/-! ## 1. the three documented instances, written out -/

/-- mirrors `betaCbv 0`: CBV on the operator, CBV on the operand, contract if the operator became an abstraction -/
inductive EvalCbv : Term → Term → Prop
  | var (i : Nat) : EvalCbv (Term.var i) (Term.var i)
  | abs (b : Term) : EvalCbv (Term.abs b) (Term.abs b)
  | appRed {l r b r' v : Term} :
      EvalCbv l (Term.abs b) → EvalCbv r r' → EvalCbv (contract b r') v → EvalCbv (Term.app l r) v
  | appNeu {l r l' r' : Term} :
      EvalCbv l l' → isAbs l' = false → EvalCbv r r' → EvalCbv (Term.app l r) (Term.app l' r')

/-- mirrors `betaHap 0`: CBV on the operator, HAP on the operand, contract if the operator became an
abstraction, else HAP on the (neutral) operator -/
inductive EvalHap : Term → Term → Prop
  | var (i : Nat) : EvalHap (Term.var i) (Term.var i)
  | abs {b b' : Term} : EvalHap b b' → EvalHap (Term.abs b) (Term.abs b')
  | appRed {l r b r' n : Term} :
      EvalCbv l (Term.abs b) → EvalHap r r' → EvalHap (contract b r') n → EvalHap (Term.app l r) n
  | appNeu {l r l' l'' r' : Term} :
      EvalCbv l l' → isAbs l' = false → EvalHap r r' → EvalHap l' l'' → EvalHap (Term.app l r) (Term.app l'' r')

/-- mirrors `betaApp 0`: APP on the operator, APP on the operand (both also under abstractions), contract if
the operator became an abstraction -/
inductive EvalApp : Term → Term → Prop
  | var (i : Nat) : EvalApp (Term.var i) (Term.var i)
  | abs {b b' : Term} : EvalApp b b' → EvalApp (Term.abs b) (Term.abs b')
  | appRed {l r b r' n : Term} :
      EvalApp l (Term.abs b) → EvalApp r r' → EvalApp (contract b r') n → EvalApp (Term.app l r) n
  | appNeu {l r l' r' : Term} :
      EvalApp l l' → isAbs l' = false → EvalApp r r' → EvalApp (Term.app l r) (Term.app l' r')

/-! ## 2. what the traversal of an eager order returns, rule by rule, with the fuel explicit -/

/-- the traversal of order `o` with limit 0 and fuel `g` returns `v` on `t`, whatever the count `c` it starts at: so the
premises of a rule compose, each at the count its predecessor returns -/
def Ret (o : Order) (g : Nat) (t v : Term) : Prop := ∀ c, ∃ k, betaOrd o 0 g t c = some (v, c + k)

namespace Ret
variable {o : Order} {g : Nat}

theorem reduce {t v : Term} (h : Ret o g t v) : ∃ c, Term.reduce o 0 g t = some (v, c) :=
  let ⟨k, e⟩ := h 0
  ⟨0 + k, e⟩

theorem mono {g' : Nat} {t v : Term} (h : Ret o g t v) (hg : g ≤ g') : Ret o g' t v := fun c => by
  obtain ⟨k, e⟩ := h c
  exact ⟨k, betaOrd_mono o 0 e hg⟩

theorem var (i : Nat) : Ret o (g + 1) (.var i) (.var i) := fun c => ⟨0, by rw [betaOrd_succ, visit_var]; rfl⟩

theorem abs_stop (hu : o.under = false) (b : Term) : Ret o (g + 1) (.abs b) (.abs b) :=
  fun c => ⟨0, by rw [betaOrd_succ]; exact visit_abs_stop hu⟩

theorem abs (hu : o.under = true) {b b' : Term} (h : Ret o g b b') : Ret o (g + 1) (.abs b) (.abs b') := fun c => by
  obtain ⟨k, e⟩ := h c
  exact ⟨k, by rw [betaOrd_succ]; exact visit_abs (gate_zero c) hu e⟩

theorem nf {t : Term} (hn : stepOrd o t = none) (hg : height t < g) : Ret o g t t :=
  fun c => ⟨0, betaOrd_nf hn hg 0 c⟩

theorem app_visit (he : o.eager = true) {l r l' r' : Term} (h1 : Ret o.head g l l') (h2 : Ret o g r r') (c : Nat) :
    ∃ k, betaOrd o 0 (g + 1) (.app l r) c = finish 0 (fun o' => betaOrd o' 0 g) o l' r' (c + k) := by
  obtain ⟨k1, e1⟩ := h1 c
  obtain ⟨k2, e2⟩ := h2 (c + k1)
  refine ⟨k1 + k2, ?_⟩
  rw [betaOrd_succ, visit_app (gate_zero c) e1 (by rw [he]; exact e2), Nat.add_assoc]

theorem app_red (he : o.eager = true) {l r b r' v : Term} (h1 : Ret o.head g l (.abs b)) (h2 : Ret o g r r')
    (h3 : Ret o g (contract b r') v) : Ret o (g + 1) (.app l r) v := fun c => by
  obtain ⟨k, e⟩ := app_visit he h1 h2 c
  obtain ⟨k3, e3⟩ := h3 (c + k + 1)
  exact ⟨k + 1 + k3, by rw [e, finish_red (budget_zero _), e3]; congr 2; omega⟩

theorem app_neu (he : o.eager = true) (hd : o.deep = false) {l r l' r' : Term} (h1 : Ret o.head g l l')
    (hna : isAbs l' = false) (h2 : Ret o g r r') : Ret o (g + 1) (.app l r) (.app l' r') := fun c => by
  obtain ⟨k, e⟩ := app_visit he h1 h2 c
  exact ⟨k, by rw [e, finish_shallow (by rw [hna]; rfl) hd]⟩

theorem app_neu_deep (he : o.eager = true) (hd : o.deep = true) {l r l' l'' r' : Term} (h1 : Ret o.head g l l')
    (hna : isAbs l' = false) (h2 : Ret o g r r') (h3 : Ret o g l' l'') :
    Ret o (g + 1) (.app l r) (.app l'' r') := fun c => by
  obtain ⟨k, e⟩ := app_visit he h1 h2 c
  obtain ⟨k3, e3⟩ := h3 (c + k)
  exact ⟨k + k3, by rw [e, finish_deep (by rw [hna]; rfl) hd e3 (by rw [he]; rfl), Nat.add_assoc]⟩

/-- what an order that visits the whole term returns is β-normal -/
theorem normal (ho : o.full = true) {t v : Term} (h : Ret o g t v) : isNormal v = true := by
  obtain ⟨k, e⟩ := h 0
  have := (betaOrd_sound o 0 g t 0 v (0 + k) e (Or.inl rfl)).nf (Or.inl rfl)
  rwa [stepOrd_none_iff, NF_of_full ho] at this

end Ret

def Runs (o : Order) (t v : Term) : Prop := ∃ g, Ret o g t v

namespace Runs
variable {o : Order}

theorem reduce {t v : Term} (h : Runs o t v) : ∃ fuel c, reduce o 0 fuel t = some (v, c) :=
  let ⟨f, hf⟩ := h
  ⟨f, hf.reduce⟩

theorem star {t v : Term} (h : Runs o t v) : Star t v := by
  obtain ⟨f, c, e⟩ := h.reduce
  exact reduce_star e

theorem nf {t v : Term} (h : Runs o t v) : NF o v = true := by
  obtain ⟨f, c, e⟩ := h.reduce
  exact (stepOrd_none_iff o v).1 ((reduce_sound o 0 f t v c e).2.2 (Or.inl rfl))

theorem nf_eq {t v : Term} (h : Runs o t v) (hn : NF o t = true) : v = t := by
  obtain ⟨f, hf⟩ := h
  obtain ⟨k, e⟩ := hf 0
  have e' := betaOrd_mono o 0 e (Nat.le_max_left f (size t))
  rw [betaOrd_nf_fixed o 0 t _ 0 (Nat.le_max_right f (size t)) hn] at e'
  exact (congrArg Prod.fst (Option.some.inj e')).symm

theorem det {t v v' : Term} (h : Runs o t v) (h' : Runs o t v') : v = v' := by
  obtain ⟨f, hf⟩ := h
  obtain ⟨f', hf'⟩ := h'
  obtain ⟨k, e⟩ := hf 0
  obtain ⟨k', e'⟩ := hf' 0
  have e1 := betaOrd_mono o 0 e (Nat.le_max_left f f')
  have e2 := betaOrd_mono o 0 e' (Nat.le_max_right f f')
  rw [e1] at e2
  injection e2 with e2
  injection e2

end Runs

/-- one level of an unlimited eager traversal of an application that returns: the calls it has made -/
theorem visit_app_eager {self : Order → Term → Nat → Option (Term × Nat)} {o : Order} {l r : Term} {c : Nat}
    {p : Term × Nat} (he : o.eager = true) (h : visit 0 self o (Term.app l r) c = some p) :
    ∃ l' c1 r' c2, self o.head l c = some (l', c1) ∧ self o r c1 = some (r', c2) ∧
      ((∃ b, l' = Term.abs b ∧ self o (contract b r') (c2 + 1) = some p) ∨
       (isAbs l' = false ∧
        ((o.deep = false ∧ p.1 = Term.app l' r') ∨
         (o.deep = true ∧ ∃ l'' c3, self o l' c2 = some (l'', c3) ∧ p.1 = Term.app l'' r')))) := by
  obtain ⟨l', c1, r', c2, h1, h2, h3⟩ := visit_app_eq_some (gate_zero c) h
  rw [he, callIf_true] at h2
  refine ⟨l', c1, r', c2, h1, h2, ?_⟩
  rcases finish_eq_some h3 with ⟨b, rfl, _, hb⟩ | ⟨hred, hrest⟩
  · exact Or.inl ⟨b, rfl, hb⟩
  · rw [budget_zero, Bool.and_true] at hred
    refine Or.inr ⟨hred, ?_⟩
    rcases hrest with ⟨hd, rfl⟩ | ⟨hd, l'', c3, r'', c4, hl, hr, rfl⟩
    · exact Or.inl ⟨hd, rfl⟩
    · rw [he] at hr
      cases hr
      exact Or.inr ⟨hd, l'', c3, hl, rfl⟩

/-! ## 3. the relation -/

inductive Ev : Order → Term → Term → Prop
  | var (o : Order) (i : Nat) : Ev o (Term.var i) (Term.var i)
  | stop {o : Order} (hu : o.under = false) (b : Term) : Ev o (Term.abs b) (Term.abs b)
  | abs {o : Order} (hu : o.under = true) {b b' : Term} : Ev o b b' → Ev o (Term.abs b) (Term.abs b')
  | red {o : Order} {l r b r' v : Term} :
      Ev o.head l (Term.abs b) → Ev o r r' → Ev o (contract b r') v → Ev o (Term.app l r) v
  | neu {o : Order} (hd : o.deep = false) {l r l' r' : Term} :
      Ev o.head l l' → isAbs l' = false → Ev o r r' → Ev o (Term.app l r) (Term.app l' r')
  | deep {o : Order} (hd : o.deep = true) {l r l' l'' r' : Term} :
      Ev o.head l l' → isAbs l' = false → Ev o r r' → Ev o l' l'' → Ev o (Term.app l r) (Term.app l'' r')

namespace Ev
variable {o : Order}

/-! ### `EvalCbv`, `EvalApp`, `EvalHap` are `Ev .CBV`, `Ev .APP`, `Ev .HAP` -/

theorem of_cbv {t v : Term} (h : EvalCbv t v) : Ev .CBV t v := by
  induction h with
  | var i => exact .var _ i
  | abs b => exact .stop rfl b
  | appRed _ _ _ ihl ihr ihv => exact .red ihl ihr ihv
  | appNeu _ hna _ ihl ihr => exact .neu rfl ihl hna ihr

theorem of_app {t v : Term} (h : EvalApp t v) : Ev .APP t v := by
  induction h with
  | var i => exact .var _ i
  | abs _ ih => exact .abs rfl ih
  | appRed _ _ _ ihl ihr ihv => exact .red ihl ihr ihv
  | appNeu _ hna _ ihl ihr => exact .neu rfl ihl hna ihr

theorem of_hap {t v : Term} (h : EvalHap t v) : Ev .HAP t v := by
  induction h with
  | var i => exact .var _ i
  | abs _ ih => exact .abs rfl ih
  | appRed hl _ _ ihr ihv => exact .red (of_cbv hl) ihr ihv
  | appNeu hl hna _ _ ihr ihl' => exact .deep rfl (of_cbv hl) hna ihr ihl'

theorem toCbv {t v : Term} (h : Ev .CBV t v) : EvalCbv t v := by
  generalize e : Order.CBV = o at h
  induction h with
  | var o i => exact .var i
  | stop _ b => exact .abs b
  | abs hu => subst e; cases hu
  | red _ _ _ ihl ihr ihv => subst e; exact .appRed (ihl rfl) (ihr rfl) (ihv rfl)
  | neu _ _ hna _ ihl ihr => subst e; exact .appNeu (ihl rfl) hna (ihr rfl)
  | deep hd => subst e; cases hd

theorem toApp {t v : Term} (h : Ev .APP t v) : EvalApp t v := by
  generalize e : Order.APP = o at h
  induction h with
  | var o i => exact .var i
  | stop hu => subst e; cases hu
  | abs _ _ ih => exact .abs (ih e)
  | red _ _ _ ihl ihr ihv => subst e; exact .appRed (ihl rfl) (ihr rfl) (ihv rfl)
  | neu _ _ hna _ ihl ihr => subst e; exact .appNeu (ihl rfl) hna (ihr rfl)
  | deep hd => subst e; cases hd

theorem toHap {t v : Term} (h : Ev .HAP t v) : EvalHap t v := by
  generalize e : Order.HAP = o at h
  induction h with
  | var o i => exact .var i
  | stop hu => subst e; cases hu
  | abs _ _ ih => exact .abs (ih e)
  | red hl _ _ _ ihr ihv => subst e; exact .appRed hl.toCbv (ihr rfl) (ihv rfl)
  | neu hd => subst e; cases hd
  | deep _ hl hna _ _ _ ihr ihl' => subst e; exact .appNeu hl.toCbv hna (ihr rfl) (ihl' rfl)

theorem head_eager (he : o.eager = true) : o.head.eager = true := by rw [Order.head_eager, he]

theorem run {t v : Term} (h : Ev o t v) (he : o.eager = true := by rfl) : Runs o t v := by
  induction h with
  | var o i => exact ⟨1, Ret.var i⟩
  | stop hu b => exact ⟨1, Ret.abs_stop hu b⟩
  | abs hu _ ih =>
    obtain ⟨g, h⟩ := ih he
    exact ⟨g + 1, Ret.abs hu h⟩
  | red _ _ _ ihl ihr ihv =>
    -- the premises at a common fuel
    obtain ⟨g1, h1⟩ := ihl (head_eager he)
    obtain ⟨g2, h2⟩ := ihr he
    obtain ⟨g3, h3⟩ := ihv he
    exact ⟨max g1 (max g2 g3) + 1,
      Ret.app_red he (h1.mono (by omega)) (h2.mono (by omega)) (h3.mono (by omega))⟩
  | neu hd _ hna _ ihl ihr =>
    obtain ⟨g1, h1⟩ := ihl (head_eager he)
    obtain ⟨g2, h2⟩ := ihr he
    exact ⟨max g1 g2 + 1, Ret.app_neu he hd (h1.mono (by omega)) hna (h2.mono (by omega))⟩
  | deep hd _ hna _ _ ihl ihr ihl' =>
    obtain ⟨g1, h1⟩ := ihl (head_eager he)
    obtain ⟨g2, h2⟩ := ihr he
    obtain ⟨g3, h3⟩ := ihl' he
    exact ⟨max g1 (max g2 g3) + 1,
      Ret.app_neu_deep he hd (h1.mono (by omega)) hna (h2.mono (by omega)) (h3.mono (by omega))⟩

theorem of_run {fuel : Nat} {t : Term} {c : Nat} {p : Term × Nat} (h : betaOrd o 0 fuel t c = some p)
    (he : o.eager = true := by rfl) : Ev o t p.1 := by
  induction fuel generalizing o t c p with
  | zero => cases o <;> cases h
  | succ fuel ih =>
    rw [betaOrd_succ] at h
    cases t with
    | var i => rw [visit_var] at h; cases h; exact .var _ i
    | abs b =>
      cases hu : o.under with
      | false => rw [visit_abs_stop hu] at h; cases h; exact .stop hu b
      | true =>
        obtain ⟨b', c', hb, rfl⟩ := visit_abs_eq_some (gate_zero c) hu h
        exact .abs hu (ih hb he)
    | app l r =>
      obtain ⟨l', c1, r', c2, h1, h2, h3⟩ := visit_app_eager he h
      rcases h3 with ⟨b, rfl, hb⟩ | ⟨hna, ⟨hd, e⟩ | ⟨hd, l'', c3, hl, e⟩⟩
      · exact .red (ih h1 (head_eager he)) (ih h2 he) (ih hb he)
      · rw [e]; exact .neu hd (ih h1 (head_eager he)) hna (ih h2 he)
      · rw [e]; exact .deep hd (ih h1 (head_eager he)) hna (ih h2 he) (ih hl he)

theorem reduce {t v : Term} (h : Ev o t v) (he : o.eager = true := by rfl) :
    ∃ fuel c, reduce o 0 fuel t = some (v, c) :=
  (h.run he).reduce

theorem reduce_none {t : Term} (h : ∀ r, ¬ Ev o t r) (fuel : Nat) (he : o.eager = true := by rfl) :
    Term.reduce o 0 fuel t = none := by
  cases hr : Term.reduce o 0 fuel t with
  | none => rfl
  | some p => exact absurd (of_run (c := 0) hr he) (h _)

theorem of_nf {t : Term} (h : NF o t = true) (he : o.eager = true := by rfl) : Ev o t t :=
  of_run (p := (t, 0)) (betaOrd_nf_fixed o 0 t (size t) 0 (Nat.le_refl _) h) he

/-- `NF o` for an eager order is `isWNF` where the order stops at abstractions and `isNormal` where it enters them; in
these forms the term is found from the hypothesis by unification -/
theorem of_isNormal {t : Term} (h : isNormal t = true) (he : o.eager = true := by rfl) : Ev o t t :=
  of_nf (h := by
    cases o with
    | CBV => exact isNormal_isWNF h
    | APP => exact h
    | HAP => exact h
    | _ => cases he) he

theorem of_isWNF {t : Term} (h : isWNF t = true) (hu : o.under = false := by rfl) (he : o.eager = true := by rfl) :
    Ev o t t :=
  of_nf (h := by
    cases o with
    | CBV => exact h
    | APP => cases hu
    | HAP => cases hu
    | _ => cases he) he

theorem nf {t v : Term} (h : Ev o t v) (he : o.eager = true := by rfl) : NF o v = true := (h.run he).nf

theorem isWNF {t v : Term} (h : Ev o t v) (he : o.eager = true := by rfl) : isWNF v = true := by
  have := h.nf he
  cases o with
  | CBV => exact this
  | APP => exact isNormal_isWNF this
  | HAP => exact isNormal_isWNF this
  | _ => cases he

theorem isNormal {t v : Term} (h : Ev o t v) (hu : o.under = true := by rfl) (he : o.eager = true := by rfl) :
    isNormal v = true := by
  have := h.nf he
  cases o with
  | CBV => cases hu
  | APP => exact this
  | HAP => exact this
  | _ => cases he

theorem star {t v : Term} (h : Ev o t v) (he : o.eager = true := by rfl) : Star t v := (h.run he).star

theorem nf_eq {t v : Term} (h : Ev o t v) (hn : NF o t = true) (he : o.eager = true := by rfl) : v = t :=
  (h.run he).nf_eq hn

theorem det {t v v' : Term} (h : Ev o t v) (h' : Ev o t v') (he : o.eager = true := by rfl) : v = v' :=
  (h.run he).det (h'.run he)

theorem comp {t v w : Term} (h : Ev o t v) (hv : Ev o v w) (he : o.eager = true := by rfl) : Ev o t w :=
  hv.nf_eq (h.nf he) he ▸ h

/-! ### applications: operator and operand may be replaced by terms with the same evaluations -/

theorem app_mono {f f' x x' r : Term} (hf : ∀ g, Ev o.head f g → Ev o.head f' g)
    (hx : ∀ v, Ev o x v → Ev o x' v) (h : Ev o (Term.app f x) r) : Ev o (Term.app f' x') r := by
  cases h with
  | red hl hr hn => exact .red (hf _ hl) (hx _ hr) hn
  | neu hd hl hna hr => exact .neu hd (hf _ hl) hna (hx _ hr)
  | deep hd hl hna hr hl' => exact .deep hd (hf _ hl) hna (hx _ hr) hl'

theorem app_head {f f' x r : Term} (hf : ∀ g, Ev o.head f g → Ev o.head f' g) (h : Ev o (Term.app f x) r) :
    Ev o (Term.app f' x) r :=
  h.app_mono hf (fun _ => id)

theorem app_congr {f g x v r : Term} (hf : Ev o.head f g) (hx : Ev o x v) (h : Ev o (Term.app g v) r)
    (he : o.eager = true := by rfl) : Ev o (Term.app f x) r :=
  h.app_mono (fun _ hg => hf.comp hg (head_eager he)) (fun _ hv => hx.comp hv he)

theorem app_arg {f x v r : Term} (hx : Ev o x v) (h : Ev o (Term.app f v) r) (he : o.eager = true := by rfl) :
    Ev o (Term.app f x) r :=
  h.app_mono (fun _ => id) (fun _ hv => hx.comp hv he)

theorem app_fn {f g x r : Term} (hf : Ev o.head f g) (h : Ev o (Term.app g x) r) (he : o.eager = true := by rfl) :
    Ev o (Term.app f x) r :=
  h.app_mono (fun _ hg => hf.comp hg (head_eager he)) (fun _ => id)

theorem app2_fn {f g a b r : Term} (hf : Ev o.head f g) (h : Ev o (Term.app (Term.app g a) b) r)
    (he : o.eager = true := by rfl) : Ev o (Term.app (Term.app f a) b) r :=
  h.app_head fun _ hg => app_fn (o := o.head) (by rw [Order.head_head]; exact hf) hg (head_eager he)

theorem app2_arg1 {f a v b r : Term} (ha : Ev o.head a v) (h : Ev o (Term.app (Term.app f v) b) r)
    (he : o.eager = true := by rfl) : Ev o (Term.app (Term.app f a) b) r :=
  h.app_head fun _ hg => app_arg (o := o.head) ha hg (head_eager he)

theorem abs_inv {b v : Term} (h : Ev o (Term.abs b) v) (hu : o.under = true := by rfl) : ∃ b', Ev o b b' := by
  cases h with
  | stop hu' => rw [hu] at hu'; cases hu'
  | abs _ hb => exact ⟨_, hb⟩

theorem app_fn_inv {l r v : Term} (h : Ev o (Term.app l r) v) : ∃ l', Ev o.head l l' := by
  cases h with
  | red hl _ _ => exact ⟨_, hl⟩
  | neu _ hl _ _ => exact ⟨_, hl⟩
  | deep _ hl _ _ _ => exact ⟨_, hl⟩

theorem app_arg_inv {l r v : Term} (h : Ev o (Term.app l r) v) : ∃ r', Ev o r r' := by
  cases h with
  | red _ hr _ => exact ⟨_, hr⟩
  | neu _ _ _ hr => exact ⟨_, hr⟩
  | deep _ _ _ hr _ => exact ⟨_, hr⟩

theorem app_red_inv {l r b r' v : Term} (h : Ev o (Term.app l r) v) (hl : Ev o.head l (Term.abs b)) (hr : Ev o r r')
    (he : o.eager = true := by rfl) : Ev o (contract b r') v := by
  cases h with
  | red hl' hr' hv => cases hl'.det hl (head_eager he); cases hr'.det hr he; exact hv
  | neu _ hl' hna => cases hl'.det hl (head_eager he); cases hna
  | deep _ hl' hna => cases hl'.det hl (head_eager he); cases hna

/-! ### β for values -/

theorem beta {b v r : Term} (hb : NF o.head (Term.abs b) = true) (hv : NF o v = true) (h : Ev o (contract b v) r)
    (he : o.eager = true := by rfl) : Ev o (Term.app (Term.abs b) v) r :=
  .red (of_nf hb (head_eager he)) (of_nf hv he) h

theorem beta_inv {b v r : Term} (h : Ev o (Term.app (Term.abs b) v) r) (hb : NF o.head (Term.abs b) = true)
    (hv : NF o v = true) (he : o.eager = true := by rfl) : Ev o (contract b v) r :=
  h.app_red_inv (of_nf hb (head_eager he)) (of_nf hv he) he

/-! ### stability under shifting the free variables -/

theorem shift {t v : Term} (h : Ev o t v) (a k : Nat) : Ev o (shiftFV a k t) (shiftFV a k v) := by
  induction h generalizing k with
  | var o i => simp only [shiftFV]; split <;> exact .var _ _
  | stop hu b => exact .stop hu _
  | abs hu _ ih => exact .abs hu (ih (k + 1))
  | red _ _ _ ihl ihr ihv =>
    have hv := ihv k
    rw [shiftFV_contract] at hv
    exact .red (ihl k) (ihr k) hv
  | neu hd _ hna _ ihl ihr => exact .neu hd (ihl k) (by rw [isAbs_shiftFV]; exact hna) (ihr k)
  | deep hd _ hna _ _ ihl ihr ihl' => exact .deep hd (ihl k) (by rw [isAbs_shiftFV]; exact hna) (ihr k) (ihl' k)

end Ev

/-! ## 4. the instances: what the three written-out relations have of the traversals -/

theorem EvalCbv.reduce {t v : Term} (h : EvalCbv t v) : ∃ fuel c, reduce .CBV 0 fuel t = some (v, c) :=
  (Ev.of_cbv h).reduce

theorem EvalHap.reduce {t n : Term} (h : EvalHap t n) : ∃ fuel c, reduce .HAP 0 fuel t = some (n, c) :=
  (Ev.of_hap h).reduce

theorem EvalApp.reduce {t n : Term} (h : EvalApp t n) : ∃ fuel c, reduce .APP 0 fuel t = some (n, c) :=
  (Ev.of_app h).reduce

theorem EvalHap.isNormal {t n : Term} (h : EvalHap t n) : isNormal n = true := (Ev.of_hap h).isNormal

theorem EvalApp.isNormal {t n : Term} (h : EvalApp t n) : isNormal n = true := (Ev.of_app h).isNormal

theorem EvalHap.beta_inv {b v r : Term} (hv : Spec.isNormal v = true) (h : EvalHap (Term.app (Term.abs b) v) r) :
    EvalHap (contract b v) r :=
  ((Ev.of_hap h).beta_inv rfl hv).toHap

theorem EvalCbv.beta_inv {b v r : Term} (hv : Spec.isWNF v = true) (h : EvalCbv (Term.app (Term.abs b) v) r) :
    EvalCbv (contract b v) r :=
  ((Ev.of_cbv h).beta_inv rfl hv).toCbv

end LC
