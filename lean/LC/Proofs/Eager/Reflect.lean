/-
Big-step evaluation by computation.

A goal `Ev o T' V'` (`o` one of CBV, APP, HAP: `Eager/BigStep.lean`) whose term is built from closed constants and a few
unknown closed VALUES `x₀, x₁, …` (numerals, booleans, closures) is proved by running an evaluator on the PLACEHOLDER
term `T`: the free variable `P + k` stands where `T'` has `xₖ`; `inst P xs T` puts the values back; variables below `P`
are ordinary free variables (`P = 101` leaves room for a hundred).  A term of symbolic LENGTH (`iterApp f x n`) is not
for the evaluator: it is handled by induction (the iteration lemmas of `Eager/Church.lean`, or single rules) and
enters as a table entry.

* The evaluator `evalR nv o` has one branch per rule of `Ev` and never looks inside a placeholder.  One run is valid for
  all values because the values are closed, so filling in commutes with contraction (`inst_contract`), and normal, so a
  placeholder that is reached is its own value.  The run is on closed data: `by decide +kernel`.
* `Vals nv xs`: the first `nv` values are normal forms, the others only weak normal forms (enough where only call by
  value reaches them).  The evaluator knows a value by its number and takes `k < nv` as normal: weak ones come last.
* The tables bring in what is not computation (an induction hypothesis, another theorem, `ev_church_elim`).  A term is
  looked up as it stands; an application `l r` again as `l r'` and as `l' r'` once its parts are evaluated.  Keys are
  compared syntactically: a key is the term exactly as the evaluator meets it.  Operators are evaluated by `o.head`, so
  there are two tables: `Kh` of facts `Ev o.head` and `K` of facts `Ev o`; for CBV and APP, where `o.head = o`, the same
  table serves as both (`evR1`).  Below a binder the entries are shifted.
* A run is `none` when fuel runs out, when a placeholder stands in operator position with no entry for the application,
  or when HAP/APP reaches a weak value (or a number past the list) with no entry for its normal form.  To find where,
  prove a subterm with the same values and tables; a key never found is usually not literally the term met.
* Fuel bounds the depth of the evaluator's call tree, not the number of contractions: 10–40 for operations on
  numerals, 60–80 for long handlers; too much costs nothing.
* Readings.  Checking `inst P xs T = T'` by computation would make the elaborator traverse every constant, which is
  slower than the run.  So `T` is not written: a derivation of `Inst P xs T T'` follows the shape of `T'` (`.app`,
  `.app₂`, `.app₃`, `.abs`, `.c` closed constant, `.ph0 … .ph5` values, `.fv h` variable below `P`) and `T` is found by
  unification.  Rules and `Vals` constructors for particular data are next to the data, named `Inst.*` and `Vals.*`.
  The values are closed, so `.phk` serves at every depth (arbitrary terms, which stand shifted under binders, have the
  readings `PInst` of `Proofs/NorRead.lean`).

A call: `evR o P vals headTable table fuel termReading resultReading run` (`evR1 o P vals table fuel …` for CBV and APP);
a table is `.cons keyReading valueReading fact rest` or `.nil`.

    example (m n : Nat) (b : Bool) (h : Ev .HAP (app2 Gen.Church.leq (intoChurch n) (intoChurch m)) (fromBool b)) :
        Ev .HAP (app2 Gen.Church.geq (intoChurch m) (intoChurch n)) (fromBool b) :=
      -- placeholders: `m`, `n`, the boolean
      evR .HAP 101 (.church m (.church n (.bool b .nil))) .nil
        (.cons (.app₂ .c .ph1 .ph0) .ph2 h .nil) 20
        (.app₂ .c .ph0 .ph1) .ph2 (by decide +kernel)

The run takes `GEQ x₀ x₁` to `LEQ x₁ x₀`, finds that in the table, and returns the placeholder of the boolean.
A value one does not want to write: `noncomputable def q := (evalR 0 .CBV 101 [] [] 10 T).getD (var 0)`, then
`evR1 .CBV 101 .nil .nil 10 .c .c (by decide +kernel) : Ev .CBV T q`.
-/
import LC.Proofs.Eager.BigStep
import LC.Proofs.Eager.KernelTerm

namespace LC
open Term Spec RL

namespace Eager

noncomputable section

def inst (P : Nat) (xs : List Term) : Term → Term
  | var i => if P ≤ i then xs.getD (i - P) (var 0) else var i
  | abs b => abs (inst (P + 1) xs b)
  | app l r => app (inst P xs l) (inst P xs r)

inductive Vals : Nat → List Term → Prop
  | nil : Vals 0 []
  | normal {nv : Nat} {x : Term} {xs : List Term} :
      closedAt 0 x = true → isNormal x = true → Vals nv xs → Vals (nv + 1) (x :: xs)
  | weak {x : Term} {xs : List Term} : closedAt 0 x = true → isWNF x = true → Vals 0 xs → Vals 0 (x :: xs)

theorem Vals.getD_weak {nv : Nat} {xs : List Term} (h : Vals nv xs) (k : Nat) :
    closedAt 0 (xs.getD k (var 0)) = true ∧ isWNF (xs.getD k (var 0)) = true := by
  induction h generalizing k with
  | nil => exact ⟨rfl, rfl⟩
  | normal hc hn _ ih =>
    cases k with
    | zero => exact ⟨hc, isNormal_isWNF hn⟩
    | succ k => exact ih k
  | weak hc hw _ ih =>
    cases k with
    | zero => exact ⟨hc, hw⟩
    | succ k => exact ih k

theorem Vals.getD_normal {nv : Nat} {xs : List Term} (h : Vals nv xs) {k : Nat} (hk : k < nv) :
    isNormal (xs.getD k (var 0)) = true := by
  induction h generalizing k with
  | nil => omega
  | normal _ hn _ ih =>
    cases k with
    | zero => exact hn
    | succ k => exact ih (by omega)
  | weak _ _ _ _ => omega

/-- the parallel substitution that `inst` abbreviates -/
def instEnv (P : Nat) (xs : List Term) (j : Nat) : Term := if P ≤ j then xs.getD (j - P) (var 0) else var j

theorem inst_eq_psubstAux {P : Nat} (hP : 0 < P) {nv : Nat} {xs : List Term} (hxs : Vals nv xs) (d : Nat) (t : Term) :
    inst (P + d) xs t = psubstAux (instEnv P xs) d t := by
  induction t generalizing d with
  | var i =>
    simp only [inst, psubstAux, instEnv]
    by_cases h1 : i > d
    · by_cases h2 : P ≤ i - d
      · have h3 : P + d ≤ i := by omega
        rw [if_pos h3, if_pos h1, if_pos h2, shiftFV_closed _ _ (hxs.getD_weak _).1]
        congr 1; omega
      · have h3 : ¬ P + d ≤ i := by omega
        have h4 : i - d > 0 := by omega
        rw [if_neg h3, if_pos h1, if_neg h2]
        simp only [shiftFV, h4, if_true]
        congr 1; omega
    · have h3 : ¬ P + d ≤ i := by omega
      rw [if_neg h3, if_neg h1]
  | abs b ih => simp only [inst, psubstAux]; rw [← ih (d + 1)]; rfl
  | app l r ihl ihr => simp only [inst, psubstAux, ihl, ihr]

theorem inst_contract {P : Nat} (hP : 0 < P) {nv : Nat} {xs : List Term} (hxs : Vals nv xs) (b a : Term) :
    inst P xs (contract b a) = contract (inst (P + 1) xs b) (inst P xs a) := by
  have e := psubstAux_contract (instEnv P xs) 0 b a
  rw [← inst_eq_psubstAux hP hxs 0, ← inst_eq_psubstAux hP hxs 1, ← inst_eq_psubstAux hP hxs 0] at e
  exact e

theorem inst_app (P : Nat) (xs : List Term) (l r : Term) :
    inst P xs (app l r) = app (inst P xs l) (inst P xs r) := rfl

theorem inst_abs (P : Nat) (xs : List Term) (b : Term) : inst P xs (abs b) = abs (inst (P + 1) xs b) := rfl

theorem inst_var_lt {P i : Nat} (xs : List Term) (h : ¬ P ≤ i) : inst P xs (var i) = var i := by
  simp only [inst, if_neg h]

theorem inst_var_wnf {P : Nat} {nv : Nat} {xs : List Term} (hxs : Vals nv xs) (i : Nat) : isWNF (inst P xs (var i)) = true := by
  simp only [inst]
  split
  · exact (hxs.getD_weak _).2
  · rfl

theorem inst_closedAt {d P : Nat} (xs : List Term) {t : Term} (h : closedAt d t = true) (hd : d < P) :
    inst P xs t = t := by
  induction t generalizing d P with
  | var i =>
    simp only [closedAt, decide_eq_true_eq] at h
    exact inst_var_lt xs (by omega)
  | abs b ih => simp only [closedAt] at h; rw [inst_abs, ih h (by omega)]
  | app l r ihl ihr =>
    simp only [closedAt, Bool.and_eq_true] at h
    rw [inst_app, ihl h.1 hd, ihr h.2 hd]

def Inst (P : Nat) (xs : List Term) (T T' : Term) : Prop := inst P xs T = T'

namespace Inst
variable {P : Nat} {xs : List Term}

theorem app {l l' r r' : Term} (hl : Inst P xs l l') (hr : Inst P xs r r') :
    Inst P xs (Term.app l r) (Term.app l' r') := by
  unfold Inst at *; rw [inst_app, hl, hr]

theorem app₂ {f f' a a' b b' : Term} (hf : Inst P xs f f') (ha : Inst P xs a a') (hb : Inst P xs b b') :
    Inst P xs (Term.app (Term.app f a) b) (Term.app (Term.app f' a') b') := (hf.app ha).app hb

theorem app₃ {f f' a a' b b' c c' : Term} (hf : Inst P xs f f') (ha : Inst P xs a a') (hb : Inst P xs b b')
    (hc : Inst P xs c c') :
    Inst P xs (Term.app (Term.app (Term.app f a) b) c) (Term.app (Term.app (Term.app f' a') b') c') :=
  (hf.app₂ ha hb).app hc

theorem abs {b b' : Term} (hb : Inst (P + 1) xs b b') : Inst P xs (Term.abs b) (Term.abs b') := by
  unfold Inst at *; rw [inst_abs, hb]

theorem c {t : Term} (h : closedK t 0 = true := by decide +kernel) (hP : 0 < P := by decide) : Inst P xs t t :=
  inst_closedAt xs (closedK_eq t 0 ▸ h) hP

theorem fv {i : Nat} (h : i < P) : Inst P xs (var i) (var i) := inst_var_lt xs (by omega)

theorem ph (k : Nat) : Inst P xs (var (P + k)) (xs.getD k (var 0)) := by
  simp [Inst, inst]

theorem ph0 {x₀ : Term} : Inst P (x₀ :: xs) (var P) x₀ := by simpa using ph (xs := x₀ :: xs) 0
theorem ph1 {x₀ x₁ : Term} : Inst P (x₀ :: x₁ :: xs) (var (P + 1)) x₁ := by simpa using ph (xs := x₀ :: x₁ :: xs) 1
theorem ph2 {x₀ x₁ x₂ : Term} : Inst P (x₀ :: x₁ :: x₂ :: xs) (var (P + 2)) x₂ := by
  simpa using ph (xs := x₀ :: x₁ :: x₂ :: xs) 2
theorem ph3 {x₀ x₁ x₂ x₃ : Term} : Inst P (x₀ :: x₁ :: x₂ :: x₃ :: xs) (var (P + 3)) x₃ := by
  simpa using ph (xs := x₀ :: x₁ :: x₂ :: x₃ :: xs) 3
theorem ph4 {x₀ x₁ x₂ x₃ x₄ : Term} : Inst P (x₀ :: x₁ :: x₂ :: x₃ :: x₄ :: xs) (var (P + 4)) x₄ := by
  simpa using ph (xs := x₀ :: x₁ :: x₂ :: x₃ :: x₄ :: xs) 4
theorem ph5 {x₀ x₁ x₂ x₃ x₄ x₅ : Term} :
    Inst P (x₀ :: x₁ :: x₂ :: x₃ :: x₄ :: x₅ :: xs) (var (P + 5)) x₅ := by
  simpa using ph (xs := x₀ :: x₁ :: x₂ :: x₃ :: x₄ :: x₅ :: xs) 5

end Inst

def known : List (Term × Term) → Term → Option Term
  | [], _ => none
  | (a, v) :: K, t => if eqb a t then some v else known K t

inductive Known (R : Term → Term → Prop) (P : Nat) (xs : List Term) : List (Term × Term) → Prop
  | nil : Known R P xs []
  | cons {t t' v v' : Term} {K : List (Term × Term)} :
      Inst P xs t t' → Inst P xs v v' → R t' v' → Known R P xs K → Known R P xs ((t, v) :: K)

theorem known_mem {K : List (Term × Term)} {t v : Term} (e : known K t = some v) : (t, v) ∈ K := by
  induction K with
  | nil => simp [known] at e
  | cons p K ih =>
    obtain ⟨a, w⟩ := p
    simp only [known] at e
    split at e
    · rename_i hat
      have hat := eq_of_eqb hat
      injection e with e
      subst hat e
      exact List.mem_cons_self
    · exact List.mem_cons_of_mem _ (ih e)

def Holds (R : Term → Term → Prop) (P : Nat) (xs : List Term) (K : List (Term × Term)) : Prop :=
  ∀ p ∈ K, R (inst P xs p.1) (inst P xs p.2)

theorem Holds.known {R : Term → Term → Prop} {P : Nat} {xs : List Term} {K : List (Term × Term)}
    (h : Holds R P xs K) {t v : Term} (e : known K t = some v) : R (inst P xs t) (inst P xs v) :=
  h _ (known_mem e)

theorem Known.holds {R : Term → Term → Prop} {P : Nat} {xs : List Term} {K : List (Term × Term)}
    (h : Known R P xs K) : Holds R P xs K := by
  induction h with
  | nil => intro p hp; cases hp
  | @cons a a' w w' K ha hw hr _ ih =>
    intro p hp
    rcases List.mem_cons.mp hp with rfl | hp
    · show R (inst P xs a) (inst P xs w); rw [ha, hw]; exact hr
    · exact ih p hp

/-! ### below a binder

Every free variable, the placeholders included, is one higher below a binder; `Ev` is stable under that
shift, so a table goes below a binder by shifting its entries. -/

theorem inst_shift {P : Nat} (hP : 0 < P) {nv : Nat} {xs : List Term} (hxs : Vals nv xs) (t : Term) :
    inst (P + 1) xs (shiftFV 1 0 t) = shiftFV 1 0 (inst P xs t) := by
  have e0 : inst P xs t = psubstAux (instEnv P xs) 0 t := inst_eq_psubstAux hP hxs 0 t
  rw [inst_eq_psubstAux hP hxs 1, e0]
  exact psubstAux_shiftFV (instEnv P xs) 1 0 0 (Nat.le_refl 0) t

def lift (K : List (Term × Term)) : List (Term × Term) := K.map fun p => (shiftK 1 p.1 0, shiftK 1 p.2 0)

theorem Holds.lift {R : Term → Term → Prop} (hR : ∀ {t v : Term}, R t v → R (shiftFV 1 0 t) (shiftFV 1 0 v))
    {P : Nat} (hP : 0 < P) {nv : Nat} {xs : List Term} (hxs : Vals nv xs) {K : List (Term × Term)}
    (h : Holds R P xs K) : Holds R (P + 1) xs (lift K) := by
  intro p hp
  obtain ⟨q, hq, rfl⟩ := List.mem_map.mp hp
  show R (inst (P + 1) xs (shiftK 1 q.1 0)) (inst (P + 1) xs (shiftK 1 q.2 0))
  rw [shiftK_eq, shiftK_eq, inst_shift hP hxs, inst_shift hP hxs]
  exact hR (h q hq)

theorem inst_var_normal {P nv : Nat} {xs : List Term} (hxs : Vals nv xs) {i : Nat} (hi : ¬ P + nv ≤ i) :
    isNormal (inst P xs (var i)) = true := by
  simp only [inst]
  split
  · exact hxs.getD_normal (by omega)
  · rfl

/-! ## the evaluator

`evalR nv o` evaluates by `Ev o`; what depends on the order is read off its attributes: a variable that may stand for a
weak value is its own value only where the order does not enter abstractions, abstractions are entered when `o.under`,
a neutral operator is evaluated once more when `o.deep`.  `Kh` holds the known evaluations by `o.head`
(for operators), `K` those by `o`; for CBV and APP, where `o.head = o`, the same table is passed twice. -/

def evalR (nv : Nat) : Order → Nat → List (Term × Term) → List (Term × Term) → Nat → Term → Option Term
  | _, _, _, _, 0, _ => none
  | o, P, Kh, K, fuel + 1, t =>
    match known K t with
    | some v => some v
    | none =>
      match t with
      | var i => if o.under && decide (P + nv ≤ i) then none else some (var i)
      | abs b => if o.under then (evalR nv o (P + 1) (lift Kh) (lift K) fuel b).map abs else some (abs b)
      | app l r =>
        match evalR nv o.head P Kh Kh fuel l, evalR nv o P Kh K fuel r with
        | some l', some r' =>
          match known K (app l' r'), known K (app l r') with
          | some v, _ => some v
          | none, some v => some v
          | none, none =>
            match l' with
            | abs b => evalR nv o P Kh K fuel (contractK b r')
            | var i => if P ≤ i then none else some (app (var i) r')
            | app f a =>
              if o.deep then (evalR nv o P Kh K fuel (app f a)).map fun l'' => app l'' r'
              else some (app (app f a) r')
        | _, _ => none

theorem inst_var_nf {o : Order} (he : o.eager = true) {P nv : Nat} {xs : List Term} (hxs : Vals nv xs) {i : Nat}
    (hi : ¬ (o.under && decide (P + nv ≤ i)) = true) : NF o (inst P xs (var i)) = true := by
  cases o with
  | CBV => exact inst_var_wnf hxs i
  | APP => exact inst_var_normal hxs (by simpa [Order.under] using hi)
  | HAP => exact inst_var_normal hxs (by simpa [Order.under] using hi)
  | _ => cases he

theorem evalR_sound {nv : Nat} {xs : List Term} (hxs : Vals nv xs) (fuel : Nat) {o : Order} (he : o.eager = true)
    {P : Nat} (hP : 0 < P) {Kh K : List (Term × Term)} (hKh : Holds (Ev o.head) P xs Kh) (hK : Holds (Ev o) P xs K)
    (T V : Term) (h : evalR nv o P Kh K fuel T = some V) : Ev o (inst P xs T) (inst P xs V) := by
  induction fuel generalizing o P Kh K T V with
  | zero => simp [evalR] at h
  | succ fuel ih =>
    have he' := Ev.head_eager he
    have hKh' : Holds (Ev o.head.head) P xs Kh := by rw [Order.head_head]; exact hKh
    unfold evalR at h
    split at h
    · -- the term is in the table
      injection h with h; subst h; exact hK.known (by assumption)
    · split at h
      · -- a variable: a placeholder for a weak value where the order enters abstractions, or its own value
        split at h
        · simp at h
        · injection h with h; subst h
          exact Ev.of_nf (inst_var_nf he hxs ‹_›) he
      · -- an abstraction: entered, or its own value
        split at h
        · rename_i hu
          rw [Option.map_eq_some_iff] at h
          obtain ⟨b', hb, rfl⟩ := h
          exact Ev.abs hu (ih he (Nat.succ_pos P) (hKh.lift (fun h => h.shift 1 0) hP hxs)
            (hK.lift (fun h => h.shift 1 0) hP hxs) _ _ hb)
        · injection h with h; subst h
          exact Ev.stop (Bool.eq_false_iff.mpr ‹_›) _
      · -- an application: operator and operand are evaluated
        split at h
        · rename_i l r _ _ l' r' hl hr
          have hl := ih he' hP hKh' hKh _ _ hl
          have hr := ih he hP hKh hK _ _ hr
          split at h
          · -- `l' r'` is in the table
            injection h with h; subst h
            rename_i hv
            exact Ev.app_congr hl hr (hK.known hv) he
          · -- `l r'` is in the table
            injection h with h; subst h
            rename_i hv
            exact Ev.app_arg hr (hK.known hv) he
          · -- by the shape of the operator's value: an abstraction is contracted
            split at h
            · have hv := ih he hP hKh hK _ _ h
              rw [contractK_eq, inst_contract hP hxs] at hv
              exact Ev.red hl hr hv
            · -- a variable: a placeholder in operator position, or neutral
              split at h
              · simp at h
              · injection h with h; subst h
                rename_i i _ _ hi
                rw [inst_var_lt xs hi] at hl
                rw [inst_app P xs (var i), inst_var_lt xs hi]
                cases hd : o.deep with
                | false => exact Ev.neu hd hl rfl hr
                | true => exact Ev.deep hd hl rfl hr (Ev.var _ i)
            · -- a neutral application: evaluated once more when `o.deep`
              split at h
              · rename_i hd
                rw [Option.map_eq_some_iff] at h
                obtain ⟨l'', hl'', rfl⟩ := h
                exact Ev.deep hd hl rfl hr (ih he hP hKh hK _ _ hl'')
              · injection h with h; subst h
                exact Ev.neu (Bool.eq_false_iff.mpr ‹_›) hl rfl hr
        · simp at h

theorem evR (o : Order) (P : Nat) {nv : Nat} {xs : List Term} (hxs : Vals nv xs) {Kh K : List (Term × Term)}
    (hKh : Known (Ev o.head) P xs Kh) (hK : Known (Ev o) P xs K) (fuel : Nat) {T T' V V' : Term}
    (hT : Inst P xs T T') (hV : Inst P xs V V') (run : evalR nv o P Kh K fuel T = some V)
    (he : o.eager = true := by rfl) (hP : 0 < P := by decide) : Ev o T' V' := by
  have h := evalR_sound hxs fuel he hP hKh.holds hK.holds T V run
  rwa [hT, hV] at h

/-- the call for an order that evaluates operators by itself (CBV, APP): one table -/
theorem evR1 (o : Order) (P : Nat) {nv : Nat} {xs : List Term} (hxs : Vals nv xs) {K : List (Term × Term)}
    (hK : Known (Ev o) P xs K) (fuel : Nat) {T T' V V' : Term} (hT : Inst P xs T T') (hV : Inst P xs V V')
    (run : evalR nv o P K K fuel T = some V) (ho : o.head = o := by rfl) (he : o.eager = true := by rfl)
    (hP : 0 < P := by decide) : Ev o T' V' :=
  evR o P hxs (ho.symm ▸ hK) hK fuel hT hV run he hP

end

end Eager
end LC
