/-
Eager evaluation, order APP (applicative: operator and operand are normalised completely, also under binders,
before contraction): Church `sub`, the comparisons, `min`, `max`, for ALL arguments.

The operations are typable terms (`Eager/Typed.lean`), so their HAP values are their APP values.  `sub = λa b. b PRED a`:
the numeral `b` iterates `PRED : N (X A) → N A`, so `a` is a numeral at `N (Xⁿ A)` and `b` has the iterator type
`It X N n A`, where `n` is the value of `b`.  `leq = λa b. IS_ZERO (sub a b)` has these two argument types with `A` a type
of booleans; the other comparisons apply `leq` in one or both directions, and a connective `AND p q = p q p` uses `p` both
as the boolean that chooses and as one of the booleans chosen, so in `eq`, `neq` each argument has three types.
-/
import LC.Proofs.Eager.ChurchHapA

namespace LC
open Term Spec Enc Eager

namespace ChurchAppA

theorem isAbs_var (i : Nat) : isAbs (var i) = false := rfl
theorem isAbs_app (l r : Term) : isAbs (app l r) = false := rfl
theorem isAbs_abs (b : Term) : isAbs (abs b) = true := rfl

/-- a family `L j F z` of APP-normal forms of `Fʲ z` for the cores `F` that satisfy `P`, closed under shifting and
substitution -/
structure Leaf where
  L : Nat → Term → Term → Term
  P : Term → Prop
  zero : ∀ F z, L 0 F z = z
  shift : ∀ a o j F z, shiftFV a o (L j F z) = L j (shiftFV a o F) (shiftFV a o z)
  subst : ∀ r d, 1 ≤ d → ∀ j F z, applyAux r d (L j F z) = L j (applyAux r d F) (applyAux r d z)
  pshift : ∀ a o F, P F → P (shiftFV a o F)
  normF : ∀ F, P F → isNormal F = true
  step : ∀ j F z, P F → isNormal z = true → EvalApp (app F (L j F z)) (L (j + 1) F z)
  cong : ∀ j F Z X, P F → EvalApp Z X → EvalApp (L j F Z) (L j F X)

theorem Leaf.normal (D : Leaf) (j : Nat) (F X : Term) (hP : D.P F) (hX : isNormal X = true) :
    isNormal (D.L j F X) = true :=
  (Ev.of_app (D.cong j F X X hP (Ev.of_isNormal hX).toApp)).isNormal

/-- the type of the numeral that `sub` subtracts from, when `n` is subtracted and the difference iterates at `A` -/
def Lo (n : Nat) (A : Ty) : Ty := Ty.N (Ty.tower Ty.X n A)

/-- the type of the numeral `n` that `sub` subtracts -/
def Hi (n : Nat) (A : Ty) : Ty := Ty.It Ty.X Ty.N n A

theorem typed_Lo (Γ : List (List Ty)) (m n : Nat) (A : Ty) : Typed Γ (intoChurch m) (Lo n A) := typed_intoChurch_N Γ _ m

theorem typed_Hi (Γ : List (List Ty)) (n : Nat) (A : Ty) : Typed Γ (intoChurch n) (Hi n A) := typed_It Γ _ _ n A

theorem typed_sub (Γ : List (List Ty)) (n : Nat) (A : Ty) :
    Typed Γ Gen.Church.sub (.arr [Lo n A] (.arr [Hi n A] (Ty.N A))) :=
  Typed.abs (Typed.abs (typed_iterate (fun A => typed_pred _ A) (Typed.var1 (i := 0) rfl) (Typed.var1 (i := 1) rfl)))

/-- `leq a b` is a boolean that chooses at `A` when the difference `sub a b` iterates on such booleans -/
theorem typed_leq (Γ : List (List Ty)) (n : Nat) (A : Ty) :
    Typed Γ Gen.Church.leq (.arr [Lo n (Ty.B A)] (.arr [Hi n (Ty.B A)] (Ty.B A))) :=
  Typed.abs (Typed.abs (Typed.app1 (typed_is_zero _ A)
    (Typed.app1 (Typed.app1 (typed_sub _ n (Ty.B A)) (Typed.var1 (i := 1) rfl)) (Typed.var1 (i := 0) rfl))))

/-- `leq a b` for terms that have the two types among their types -/
theorem typed_leq_app {Γ : List (List Ty)} {a b : Term} {n : Nat} {A : Ty} (ha : Typed Γ a (Lo n (Ty.B A)))
    (hb : Typed Γ b (Hi n (Ty.B A))) : Typed Γ (app2 Gen.Church.leq a b) (Ty.B A) :=
  Typed.app1 (Typed.app1 (typed_leq Γ n A) ha) hb

/-- `min = λa b. leq a b a b`, `max = λa b. leq a b b a`: the comparison chooses between the numerals themselves -/
theorem typed_choice {Γ : List (List Ty)} {a b x y : Term} {n : Nat} (ha : Typed Γ a (Lo n (Ty.B (Ty.N .o))))
    (hb : Typed Γ b (Hi n (Ty.B (Ty.N .o)))) (hx : Typed Γ x (Ty.N .o)) (hy : Typed Γ y (Ty.N .o)) :
    Typed Γ (app2 (app2 Gen.Church.leq a b) x y) (Ty.N .o) :=
  Typed.app1 (Typed.app1 (typed_leq_app ha hb) hx) hy

end ChurchAppA

open ChurchAppA

theorem church_sub_app (m n : Nat) :
    Ev .APP (app2 Gen.Church.sub (intoChurch m) (intoChurch n)) (intoChurch (m - n)) :=
  (church_sub_hap m n).app_of_typed
    (Typed.app1 (Typed.app1 (typed_sub [] n .o) (typed_Lo [] m n _)) (typed_Hi [] n _))

theorem church_leq_app (m n : Nat) :
    Ev .APP (app2 Gen.Church.leq (intoChurch m) (intoChurch n)) (fromBool (decide (m ≤ n))) :=
  (church_leq_hap m n).app_of_typed (typed_leq_app (A := .o) (typed_Lo [] m n _) (typed_Hi [] n _))

theorem church_gt_app (m n : Nat) :
    Ev .APP (app2 Gen.Church.gt (intoChurch m) (intoChurch n)) (fromBool (decide (m > n))) := by
  -- `gt = λa b. NOT (leq a b)`
  have hgt : Typed [] Gen.Church.gt (.arr [Lo n (Ty.B (Ty.B .o))] (.arr [Hi n (Ty.B (Ty.B .o))] (Ty.B .o))) :=
    Typed.abs (Typed.abs (Typed.app1 (typed_not _ .o)
      (typed_leq_app (Typed.var1 (i := 1) rfl) (Typed.var1 (i := 0) rfl))))
  exact (church_gt_hap m n).app_of_typed (Typed.app1 (Typed.app1 hgt (typed_Lo [] m n _)) (typed_Hi [] n _))

theorem church_geq_app (m n : Nat) :
    Ev .APP (app2 Gen.Church.geq (intoChurch m) (intoChurch n)) (fromBool (decide (m ≥ n))) := by
  -- `geq = λa b. leq b a`
  have hgeq : Typed [] Gen.Church.geq (.arr [Hi m (Ty.B .o)] (.arr [Lo m (Ty.B .o)] (Ty.B .o))) :=
    Typed.abs (Typed.abs (typed_leq_app (Typed.var1 (i := 0) rfl) (Typed.var1 (i := 1) rfl)))
  exact (church_geq_hap m n).app_of_typed (Typed.app1 (Typed.app1 hgeq (typed_Hi [] m _)) (typed_Lo [] n m _))

theorem church_lt_app (m n : Nat) :
    Ev .APP (app2 Gen.Church.lt (intoChurch m) (intoChurch n)) (fromBool (decide (m < n))) := by
  -- `lt = λa b. NOT (leq b a)`
  have hlt : Typed [] Gen.Church.lt (.arr [Hi m (Ty.B (Ty.B .o))] (.arr [Lo m (Ty.B (Ty.B .o))] (Ty.B .o))) :=
    Typed.abs (Typed.abs (Typed.app1 (typed_not _ .o)
      (typed_leq_app (Typed.var1 (i := 0) rfl) (Typed.var1 (i := 1) rfl))))
  exact (church_lt_hap m n).app_of_typed (Typed.app1 (Typed.app1 hlt (typed_Hi [] m _)) (typed_Lo [] n m _))

theorem church_eq_app (m n : Nat) :
    Ev .APP (app2 Gen.Church.eq (intoChurch m) (intoChurch n)) (fromBool (decide (m = n))) := by
  -- `eq = λa b. AND (leq a b) (leq b a)`: `leq a b` chooses between booleans and is one of them
  have heq : Typed [] Gen.Church.eq
      (.arr [Lo n (Ty.B (Ty.B .o)), Lo n (Ty.B .o), Hi m (Ty.B .o)]
        (.arr [Hi n (Ty.B (Ty.B .o)), Hi n (Ty.B .o), Lo m (Ty.B .o)] (Ty.B .o))) :=
    Typed.abs (Typed.abs (Typed.app1 (Typed.appAt2 (typed_and _ .o)
        (typed_leq_app (Typed.var (i := 1) rfl (.head _)) (Typed.var (i := 0) rfl (.head _)))
        (typed_leq_app (Typed.var (i := 1) rfl (.tail _ (.head _))) (Typed.var (i := 0) rfl (.tail _ (.head _)))))
      (typed_leq_app (Typed.var (i := 0) rfl (.tail _ (.tail _ (.head _))))
        (Typed.var (i := 1) rfl (.tail _ (.tail _ (.head _)))))))
  have h := (church_eq_hap m n).app_of_typed (Typed.appAt3
    (Typed.appAt3 heq (typed_Lo [] m n _) (typed_Lo [] m n _) (typed_Hi [] m _))
    (typed_Hi [] n _) (typed_Hi [] n _) (typed_Lo [] n m _))
  rwa [show (m == n) = decide (m = n) from rfl] at h

theorem church_neq_app (m n : Nat) :
    Ev .APP (app2 Gen.Church.neq (intoChurch m) (intoChurch n)) (fromBool (decide (m ≠ n))) := by
  -- `neq = λa b. OR (NOT (leq a b)) (NOT (leq b a))`
  have hneq : Typed [] Gen.Church.neq
      (.arr [Lo n (Ty.B (Ty.B (Ty.B .o))), Lo n (Ty.B (Ty.B .o)), Hi m (Ty.B (Ty.B .o))]
        (.arr [Hi n (Ty.B (Ty.B (Ty.B .o))), Hi n (Ty.B (Ty.B .o)), Lo m (Ty.B (Ty.B .o))] (Ty.B .o))) :=
    Typed.abs (Typed.abs (Typed.app1 (Typed.appAt2 (typed_or _ .o)
        (Typed.app1 (typed_not _ _)
          (typed_leq_app (Typed.var (i := 1) rfl (.head _)) (Typed.var (i := 0) rfl (.head _))))
        (Typed.app1 (typed_not _ _)
          (typed_leq_app (Typed.var (i := 1) rfl (.tail _ (.head _))) (Typed.var (i := 0) rfl (.tail _ (.head _))))))
      (Typed.app1 (typed_not _ _) (typed_leq_app (Typed.var (i := 0) rfl (.tail _ (.tail _ (.head _))))
        (Typed.var (i := 1) rfl (.tail _ (.tail _ (.head _))))))))
  exact (church_neq_hap m n).app_of_typed (Typed.appAt3
    (Typed.appAt3 hneq (typed_Lo [] m n _) (typed_Lo [] m n _) (typed_Hi [] m _))
    (typed_Hi [] n _) (typed_Hi [] n _) (typed_Lo [] n m _))

theorem church_min_app (m n : Nat) :
    Ev .APP (app2 Gen.Church.min (intoChurch m) (intoChurch n)) (intoChurch (min m n)) := by
  have hmin : Typed [] Gen.Church.min
      (.arr [Lo n (Ty.B (Ty.N .o)), Ty.N .o] (.arr [Hi n (Ty.B (Ty.N .o)), Ty.N .o] (Ty.N .o))) :=
    Typed.abs (Typed.abs (typed_choice (Typed.var (i := 1) rfl (.head _)) (Typed.var (i := 0) rfl (.head _))
      (Typed.var (i := 1) rfl (.tail _ (.head _))) (Typed.var (i := 0) rfl (.tail _ (.head _)))))
  exact (church_min_hap m n).app_of_typed (Typed.appAt2
    (Typed.appAt2 hmin (typed_Lo [] m n _) (typed_intoChurch_N [] _ m)) (typed_Hi [] n _) (typed_intoChurch_N [] _ n))

theorem church_max_app (m n : Nat) :
    Ev .APP (app2 Gen.Church.max (intoChurch m) (intoChurch n)) (intoChurch (max m n)) := by
  have hmax : Typed [] Gen.Church.max
      (.arr [Lo n (Ty.B (Ty.N .o)), Ty.N .o] (.arr [Hi n (Ty.B (Ty.N .o)), Ty.N .o] (Ty.N .o))) :=
    Typed.abs (Typed.abs (typed_choice (Typed.var (i := 1) rfl (.head _)) (Typed.var (i := 0) rfl (.head _))
      (Typed.var (i := 0) rfl (.tail _ (.head _))) (Typed.var (i := 1) rfl (.tail _ (.head _)))))
  exact (church_max_hap m n).app_of_typed (Typed.appAt2
    (Typed.appAt2 hmax (typed_Lo [] m n _) (typed_intoChurch_N [] _ m)) (typed_Hi [] n _) (typed_intoChurch_N [] _ n))

theorem church_sub_reduce_app (m n : Nat) :
    ∃ fuel c, reduce .APP 0 fuel (app2 Gen.Church.sub (intoChurch m) (intoChurch n)) =
      some (intoChurch (m - n), c) :=
  (church_sub_app m n).reduce

theorem church_leq_reduce_app (m n : Nat) :
    ∃ fuel c, reduce .APP 0 fuel (app2 Gen.Church.leq (intoChurch m) (intoChurch n)) =
      some (fromBool (decide (m ≤ n)), c) :=
  (church_leq_app m n).reduce

theorem church_lt_reduce_app (m n : Nat) :
    ∃ fuel c, reduce .APP 0 fuel (app2 Gen.Church.lt (intoChurch m) (intoChurch n)) =
      some (fromBool (decide (m < n)), c) :=
  (church_lt_app m n).reduce

theorem church_geq_reduce_app (m n : Nat) :
    ∃ fuel c, reduce .APP 0 fuel (app2 Gen.Church.geq (intoChurch m) (intoChurch n)) =
      some (fromBool (decide (m ≥ n)), c) :=
  (church_geq_app m n).reduce

theorem church_gt_reduce_app (m n : Nat) :
    ∃ fuel c, reduce .APP 0 fuel (app2 Gen.Church.gt (intoChurch m) (intoChurch n)) =
      some (fromBool (decide (m > n)), c) :=
  (church_gt_app m n).reduce

theorem church_eq_reduce_app (m n : Nat) :
    ∃ fuel c, reduce .APP 0 fuel (app2 Gen.Church.eq (intoChurch m) (intoChurch n)) =
      some (fromBool (decide (m = n)), c) :=
  (church_eq_app m n).reduce

theorem church_neq_reduce_app (m n : Nat) :
    ∃ fuel c, reduce .APP 0 fuel (app2 Gen.Church.neq (intoChurch m) (intoChurch n)) =
      some (fromBool (decide (m ≠ n)), c) :=
  (church_neq_app m n).reduce

theorem church_min_reduce_app (m n : Nat) :
    ∃ fuel c, reduce .APP 0 fuel (app2 Gen.Church.min (intoChurch m) (intoChurch n)) =
      some (intoChurch (min m n), c) :=
  (church_min_app m n).reduce

theorem church_max_reduce_app (m n : Nat) :
    ∃ fuel c, reduce .APP 0 fuel (app2 Gen.Church.max (intoChurch m) (intoChurch n)) =
      some (intoChurch (max m n), c) :=
  (church_max_app m n).reduce

end LC
