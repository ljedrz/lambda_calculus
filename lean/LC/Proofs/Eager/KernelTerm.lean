/-
Substitution, shifting, closedness and equality of terms with the recursion over the term written as `Term.rec` itself:
the kernel unfolds them several times faster than the same functions compiled from pattern matching (`brecOn` and
matchers).  Each function is proved equal to the function of the model (or specification) it stands for; they are for
kernel evaluation only (`Proofs/Eager/Reflect.lean`, `Proofs/NorRead.lean`; `Proofs/GridEval.lean` has its own on terms
with boxes).
-/
import LC.Model.Subst
import LC.Proofs.Reflection

namespace LC
open Term Spec

namespace Eager

noncomputable section

def eqb (a : Term) : Term → Bool :=
  Term.rec (fun i t => match t with | var j => Nat.beq i j | _ => false)
    (fun _ ih t => match t with | abs b => ih b | _ => false)
    (fun _ _ ihl ihr t => match t with | app c d => ihl c && ihr d | _ => false) a

theorem eq_of_eqb {a b : Term} (h : eqb a b = true) : a = b := by
  induction a generalizing b with
  | var i =>
    cases b with
    | var j => exact congrArg var (Nat.eq_of_beq_eq_true h)
    | abs _ => exact absurd h (by simp [eqb])
    | app _ _ => exact absurd h (by simp [eqb])
  | abs a ih =>
    cases b with
    | abs b => exact congrArg abs (ih h)
    | var _ => exact absurd h (by simp [eqb])
    | app _ _ => exact absurd h (by simp [eqb])
  | app l r ihl ihr =>
    cases b with
    | app c d =>
      have h' : (eqb l c && eqb r d) = true := h
      rw [Bool.and_eq_true] at h'
      rw [ihl h'.1, ihr h'.2]
    | var _ => exact absurd h (by simp [eqb])
    | abs _ => exact absurd h (by simp [eqb])

theorem blt_eq_decide (o i : Nat) : Nat.blt o i = decide (o < i) := by
  rw [Bool.eq_iff_iff]; simp

theorem beq_eq_decide (o i : Nat) : Nat.beq o i = decide (o = i) := by
  rw [Bool.eq_iff_iff]; simp

/-- `shiftFV a o t` -/
def shiftK (a : Nat) (t : Term) : Nat → Term :=
  Term.rec (fun i o => bif Nat.blt o i then var (i + a) else var i) (fun _ ih o => abs (ih (o + 1)))
    (fun _ _ ihl ihr o => app (ihl o) (ihr o)) t

theorem shiftK_eq (a : Nat) (t : Term) (o : Nat) : shiftK a t o = shiftFV a o t := by
  induction t generalizing o with
  | var i =>
    show (bif Nat.blt o i then var (i + a) else var i) = _
    rw [blt_eq_decide]
    by_cases h : o < i <;> simp [shiftFV, h]
  | abs b ih => exact congrArg abs (ih (o + 1))
  | app l r ihl ihr => exact congr (congrArg app (ihl o)) (ihr o)

/-- `applyAux rhs d t` -/
def applyK (rhs : Term) (t : Term) : Nat → Term :=
  Term.rec
    (fun i d => bif Nat.beq i d then shiftK (d - 1) rhs 0 else bif Nat.blt d i then var (i - 1) else var i)
    (fun _ ih d => abs (ih (d + 1))) (fun _ _ ihl ihr d => app (ihl d) (ihr d)) t

theorem applyK_eq (rhs t : Term) (d : Nat) : applyK rhs t d = applyAux rhs d t := by
  induction t generalizing d with
  | var i =>
    show (bif Nat.beq i d then shiftK (d - 1) rhs 0 else bif Nat.blt d i then var (i - 1) else var i) = _
    rw [shiftK_eq, blt_eq_decide, beq_eq_decide]
    by_cases h1 : i = d
    · simp [applyAux, h1]
    · by_cases h2 : d < i <;> simp [applyAux, h1, h2]
  | abs b ih => exact congrArg abs (ih (d + 1))
  | app l r ihl ihr => exact congr (congrArg app (ihl d)) (ihr d)

def contractK (b a : Term) : Term := applyK a b 1

theorem contractK_eq (b a : Term) : contractK b a = contract b a := applyK_eq a b 1

/-- `closedAt d t` -/
def closedK (t : Term) : Nat → Bool :=
  Term.rec (fun i d => Nat.ble i d) (fun _ ih d => ih (d + 1)) (fun _ _ ihl ihr d => ihl d && ihr d) t

theorem closedK_eq (t : Term) (d : Nat) : closedK t d = closedAt d t := by
  induction t generalizing d with
  | var i => show Nat.ble i d = decide (i ≤ d); rw [Bool.eq_iff_iff]; simp
  | abs b ih => exact ih (d + 1)
  | app l r ihl ihr => show (closedK l d && closedK r d) = _; rw [ihl, ihr]; rfl

end

end Eager
end LC
