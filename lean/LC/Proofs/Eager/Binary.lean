/-
Eager evaluation (HAP / APP) of the operations on Mogensen's binary numerals (`/repo/src/data/num/binary.rs`):
unbounded termination-and-result theorems as big-step derivations (`LC/Proofs/Eager/BigStep.lean`), for ALL numerals and,
where it makes sense, for ARBITRARY bit strings `StumpFuBinary.binaryBits bs` (leading zeroes allowed).

HAP: the fold `n z a b` is contracted to `foldBits zv a b' bs` (`zv` the CBV value of `z`, `b'` the normal form of `b`); the
operand of every handler application is evaluated first and completely, so the state after a prefix of the bits (from the
most significant one) is a NORMAL pair: for `strip` the canonical numeral of the value so far and whether it is zero, for
`succ` (`pred`) the bit string so far and its successor (predecessor).

APP: the operations are typable terms (`Eager/Typed.lean`), so their HAP values are their APP values (last
section).
-/
import LC.Proofs.Eager.Numerals
import LC.Proofs.Eager.Typed
import LC.Proofs.Num.StumpFuBinary

namespace LC
open Term Spec Enc Eager StumpFuBinary

namespace EagerBin

@[simp] theorem applyAux_foldBits (r : Term) (d : Nat) (z a b : Term) (bs : List Bool) :
    applyAux r d (foldBits z a b bs) = foldBits (applyAux r d z) (applyAux r d a) (applyAux r d b) bs := by
  induction bs with
  | nil => rfl
  | cons c bs ih => cases c <;> simp [foldBits, applyAux, ih]

@[simp] theorem applyAux_bitsBody (r : Term) (bs : List Bool) :
    applyAux r 3 (bitsBody bs) = foldBits (shiftFV 2 0 r) (var 2) (var 1) bs := by
  rw [← foldBits_vars, applyAux_foldBits]; simp [applyAux]

@[simp] theorem isNormal_foldBits_var (z : Term) (j k : Nat) (bs : List Bool) :
    isNormal (foldBits z (var j) (var k) bs) = isNormal z := by
  induction bs with
  | nil => rfl
  | cons c bs ih => cases c <;> simp [foldBits, isNormal, isAbs, ih]

@[simp] theorem isNormal_bitsBody (bs : List Bool) : isNormal (bitsBody bs) = true := by
  rw [← foldBits_vars, isNormal_foldBits_var]; rfl

@[simp] theorem isWNF_bitsBody (bs : List Bool) : isWNF (bitsBody bs) = true := by
  induction bs with
  | nil => rfl
  | cons c bs ih => cases c <;> simp [bitsBody, isWNF, isAbs, ih]

@[simp] theorem isAbs_bitsBody (bs : List Bool) : isAbs (bitsBody bs) = false := by
  cases bs with
  | nil => rfl
  | cons c bs => rfl

@[simp] theorem isNormal_binaryBits (bs : List Bool) : isNormal (binaryBits bs) = true := by
  simp [binaryBits, isNormal]

@[simp] theorem isWNF_binaryBits (bs : List Bool) : isWNF (binaryBits bs) = true := rfl
@[simp] theorem isAbs_binaryBits (bs : List Bool) : isAbs (binaryBits bs) = true := rfl

@[simp] theorem isWNF_intoBinary (n : Nat) : isWNF (intoBinary n) = true := rfl
@[simp] theorem isAbs_intoBinary (n : Nat) : isAbs (intoBinary n) = true := rfl

theorem hap_foldBits {z a b : Term} (w : List Bool → Term) (h0 : Ev .HAP z (w []))
    (ha : ∀ bs, Ev .HAP (app a (w bs)) (w (false :: bs))) (hb : ∀ bs, Ev .HAP (app b (w bs)) (w (true :: bs)))
    (bs : List Bool) : Ev .HAP (foldBits z a b bs) (w bs) := by
  induction bs with
  | nil => exact h0
  | cons c bs ih => cases c <;> simp only [foldBits, if_true, if_false, Bool.false_eq_true] <;>
      first | exact Ev.app_arg ih (ha bs) | exact Ev.app_arg ih (hb bs)

end EagerBin

open EagerBin

namespace EagerBin
def lsbOf (bs : List Bool) : Term := if bs.headD false then Gen.Binary.b1 else Gen.Binary.b0

@[simp] theorem isNormal_lsbOf (bs : List Bool) : isNormal (lsbOf bs) = true := by
  unfold lsbOf; split <;> rfl

theorem closed_lsbOf (bs : List Bool) : Closed (lsbOf bs) := by
  unfold lsbOf; split <;> decide

/-- what `shl0 x` / `shl1 x` have become when the handlers of `succ`, `pred`, `strip` receive the state:
the body of the shift with the bit string `x` in place -/
def shl0C (x : Term) : Term := abs (abs (abs (app (var 2) (app3 x (var 3) (var 2) (var 1)))))
def shl1C (x : Term) : Term := abs (abs (abs (app (var 1) (app3 x (var 3) (var 2) (var 1)))))

/-- a numeral applied to the three variables of an enclosing numeral is the body of the numeral again: three β-steps
between normal forms -/
theorem ev_bits_reopen {o : Order} (bs : List Bool) (he : o.eager = true := by rfl) :
    Ev o (app3 (binaryBits bs) (var 3) (var 2) (var 1)) (bitsBody bs) := by
  have he' := Ev.head_eager he
  have n2 : isNormal (foldBits (var 4) (var 3) (var 1) bs) = true := by rw [isNormal_foldBits_var]; rfl
  refine Ev.app_fn (g := abs (foldBits (var 4) (var 3) (var 1) bs))
    (Ev.app_fn (g := abs (abs (foldBits (var 5) (var 2) (var 1) bs)))
      (ev_beta_nf (by simp [isNormal]) rfl (by simp [contract, applyAux, shiftFV]) (by simp [isNormal])
        (Ev.head_eager he'))
      (ev_beta_nf (by simp [isNormal]) rfl (by simp [contract, applyAux, shiftFV]) (by simp [isNormal]) he') he')
    (ev_beta_nf n2 rfl (by simp [contract, applyAux, shiftFV, foldBits_vars]) (by simp) he) he

/-- `shl0 x`, `shl1 x` under the orders that enter abstractions: the bit in front of the body of `x` -/
theorem ev_shl0C {o : Order} (bs : List Bool) (hu : o.under = true := by rfl) (he : o.eager = true := by rfl) :
    Ev o (shl0C (binaryBits bs)) (binaryBits (false :: bs)) := by
  cases hd : o.deep with
  | false => exact .abs hu (.abs hu (.abs hu (.neu hd (.var _ 2) rfl (ev_bits_reopen bs he))))
  | true => exact .abs hu (.abs hu (.abs hu (.deep hd (.var _ 2) rfl (ev_bits_reopen bs he) (.var _ 2))))

theorem ev_shl1C {o : Order} (bs : List Bool) (hu : o.under = true := by rfl) (he : o.eager = true := by rfl) :
    Ev o (shl1C (binaryBits bs)) (binaryBits (true :: bs)) := by
  cases hd : o.deep with
  | false => exact .abs hu (.abs hu (.abs hu (.neu hd (.var _ 1) rfl (ev_bits_reopen bs he))))
  | true => exact .abs hu (.abs hu (.abs hu (.deep hd (.var _ 1) rfl (ev_bits_reopen bs he) (.var _ 1))))

def succP (bs : List Bool) : Term := tuple2 (binaryBits bs) (binaryBits (incBits bs))
def predP (bs : List Bool) : Term := tuple2 (binaryBits bs) (binaryBits (decBits bs))
def stripP (bs : List Bool) : Term := tuple2 (intoBinary (valueOf bs)) (fromBool (valueOf bs == 0))

/-- the first component of `strip`'s state after a zero bit, as the conditional of the handler leaves it -/
theorem stripP_false (bs : List Bool) : stripP (false :: bs) =
    tuple2 (if (valueOf bs == 0) = true then Gen.Binary.zero else binaryBits (false :: bitsLSB (valueOf bs)))
      (fromBool (valueOf bs == 0)) := by
  unfold stripP
  rw [valueOf_false]
  by_cases h : valueOf bs = 0
  · simp only [h, Nat.mul_zero, intoBinary_zero, beq_self_eq_true, if_true]; rfl
  · have e : (valueOf bs == 0) = false := by simp [h]
    rw [show (2 * valueOf bs == 0) = false by rw [beq_eq_false_iff_ne]; omega, e, intoBinary_eq_bits,
      bitsLSB_double h]
    rfl

theorem stripP_nil : stripP [] = tuple2 (binaryBits []) Gen.Bool.tru := by
  unfold stripP; rw [show valueOf [] = 0 from rfl, intoBinary_zero]; rfl

theorem stripP_true (bs : List Bool) : stripP (true :: bs) =
    tuple2 (binaryBits (true :: bitsLSB (valueOf bs))) Gen.Bool.fls := by
  unfold stripP
  rw [valueOf_true, show (2 * valueOf bs + 1 == 0) = false by simp, intoBinary_eq_bits, bitsLSB_double_succ]
  rfl

theorem _root_.LC.Eager.Vals.bits (bs : List Bool) {nv : Nat} {xs : List Term} (h : Vals nv xs) :
    Vals (nv + 1) (binaryBits bs :: xs) :=
  .normal (closed_binaryBits bs) (isNormal_binaryBits bs) h

theorem _root_.LC.Eager.Inst.shl0C {P : Nat} {xs : List Term} {t t' : Term} (h : Inst (P + 1 + 1 + 1) xs t t')
    (hP : 0 < P := by decide) : Inst P xs (abs (abs (abs (app (var 2) (app3 t (var 3) (var 2) (var 1)))))) (shl0C t') :=
  .abs (.abs (.abs (.app (.fv (by omega)) (.app (.app (.app h (.fv (by omega))) (.fv (by omega))) (.fv (by omega))))))

theorem _root_.LC.Eager.Inst.shl1C {P : Nat} {xs : List Term} {t t' : Term} (h : Inst (P + 1 + 1 + 1) xs t t')
    (hP : 0 < P := by decide) : Inst P xs (abs (abs (abs (app (var 1) (app3 t (var 3) (var 2) (var 1)))))) (shl1C t') :=
  .abs (.abs (.abs (.app (.fv (by omega)) (.app (.app (.app h (.fv (by omega))) (.fv (by omega))) (.fv (by omega))))))

/-- the normal form of a handler `λp. p (λxy. PAIR l r)`; below its binders `x = var 3`, `y = var 2`.  Inside a shift
closure `shl0C`/`shl1C`, three binders further down, they are `var 6` and `var 5`: `handler (shl1C (var 6)) (shl0C (var 5))`
is `λp. p (λxy. PAIR (shl1 x) (shl0 y))` in normal form -/
def handler (l r : Term) : Term := abs (app (var 1) (abs (abs (abs (app2 (var 1) l r)))))

/-- the numeral applied to the three arguments of a fold: `z` and `a` stand in operator position (CBV), the one-bit
handler is normalised, then the fold runs -/
theorem hap_bits_elim (bs : List Bool) {z a b zv b' r : Term} (hz : Ev .CBV z zv) (cz : Closed zv) (ca : Closed a)
    (wa : isWNF a = true) (hb : Ev .HAP b b') (cb : Closed b') (h : Ev .HAP (foldBits zv a b' bs) r) :
    Ev .HAP (app3 (binaryBits bs) z a b) r := by
  unfold binaryBits
  refine .red (.red (.red (.stop rfl _) hz (.stop rfl _)) (Ev.of_nf wa) (.stop rfl _)) hb ?_
  simp [lc_simp, cz, ca, cb]
  exact h

end EagerBin

theorem binary_is_zero_bits_hap (bs : List Bool) :
    Ev .HAP (app Gen.Binary.is_zero (binaryBits bs)) (fromBool (valueOf bs == 0)) := by
  have hfold : Ev .HAP (app3 (binaryBits bs) Gen.Bool.tru Gen.Comb.I (abs Gen.Bool.fls)) (fromBool (valueOf bs == 0)) :=
    hap_bits_elim bs (Ev.of_isWNF rfl) (by decide) (by decide) rfl (Ev.of_isNormal rfl) (by decide)
      (hap_foldBits (fun bs => fromBool (valueOf bs == 0)) (Ev.of_isNormal rfl)
        (fun bs => by
          rw [show (valueOf (false :: bs) == 0) = (valueOf bs == 0) by rw [Bool.eq_iff_iff]; simp [valueOf]; omega]
          exact evR .HAP 101 (.bool _ .nil) .nil .nil 10 (.app .c .ph0) .ph0 (by decide +kernel))
        (fun bs => by
          rw [show (valueOf (true :: bs) == 0) = false by simp [valueOf]]
          exact evR .HAP 101 (.bool _ .nil) .nil .nil 10 (.app .c .ph0) (.c (t := Gen.Bool.fls)) (by decide +kernel)) bs)
  exact evR .HAP 101 (.bits bs (.bool (valueOf bs == 0) .nil)) .nil
    (.cons (.app (.app (.app .ph0 .c) .c) .c) .ph1 hfold .nil) 20 (.app .c .ph0) .ph1 (by decide +kernel)

theorem binary_lsb_bits_hap (bs : List Bool) :
    Ev .HAP (app Gen.Binary.lsb (binaryBits bs)) (if bs.headD false then Gen.Binary.b1 else Gen.Binary.b0) := by
  have hfold : Ev .HAP (app3 (binaryBits bs) Gen.Bool.tru (abs Gen.Bool.tru) (abs Gen.Bool.fls)) (lsbOf bs) :=
    hap_bits_elim bs (Ev.of_isWNF rfl) (by decide) (by decide) rfl (Ev.of_isNormal rfl) (by decide)
      (hap_foldBits lsbOf (Ev.of_isNormal rfl)
        (fun bs => evR .HAP 101 (.normal (closed_lsbOf bs) (isNormal_lsbOf bs) .nil) .nil .nil 10 (.app .c .ph0)
          (.c (t := Gen.Binary.b0)) (by decide +kernel))
        (fun bs => evR .HAP 101 (.normal (closed_lsbOf bs) (isNormal_lsbOf bs) .nil) .nil .nil 10 (.app .c .ph0)
          (.c (t := Gen.Binary.b1)) (by decide +kernel)) bs)
  exact evR .HAP 101 (.bits bs (.normal (closed_lsbOf bs) (isNormal_lsbOf bs) .nil)) .nil
    (.cons (.app (.app (.app .ph0 .c) .c) .c) .ph1 hfold .nil) 20 (.app .c .ph0) .ph1 (by decide +kernel)

theorem binary_shl1_bits_hap (bs : List Bool) :
    Ev .HAP (app Gen.Binary.shl1 (binaryBits bs)) (binaryBits (true :: bs)) :=
  evR .HAP 101 (.bits bs (.bits (true :: bs) .nil)) .nil (.cons (.shl1C .ph0) .ph1 (ev_shl1C (o := .HAP) bs) .nil) 10 (.app .c .ph0) .ph1
    (by decide +kernel)

theorem binary_shl0_bits_hap (bs : List Bool) :
    Ev .HAP (app Gen.Binary.shl0 (binaryBits bs)) (binaryBits (false :: bs)) :=
  evR .HAP 101 (.bits bs (.bits (false :: bs) .nil)) .nil (.cons (.shl0C .ph0) .ph1 (ev_shl0C (o := .HAP) bs) .nil) 10 (.app .c .ph0) .ph1
    (by decide +kernel)

theorem binary_succ_bits_hap (bs : List Bool) :
    Ev .HAP (app Gen.Binary.succ (binaryBits bs)) (binaryBits (incBits bs)) := by
  have hfold : Ev .HAP (app3 (binaryBits bs) (foldZ Gen.Binary.succ) (foldA Gen.Binary.succ) (foldB Gen.Binary.succ))
      (succP bs) := by
    refine hap_bits_elim bs (zv := succP []) (b' := handler (shl1C (var 6)) (shl0C (var 5)))
      (evR1 .CBV 101 .nil .nil 20 .c .c (by decide +kernel)) (by decide) (by decide) rfl
      (evR .HAP 101 .nil .nil .nil 40 .c .c (by decide +kernel)) (by decide)
      (hap_foldBits succP (Ev.of_isNormal (by decide)) (fun bs => ?_) (fun bs => ?_) bs)
    -- placeholders: the state `(x, y)` before the bit, then the two components after it
    · exact evR .HAP 101 (.bits bs (.bits (incBits bs) (.bits (false :: bs) (.bits (true :: bs) .nil)))) .nil
        (.cons (.shl0C .ph0) .ph2 (ev_shl0C (o := .HAP) bs) (.cons (.shl1C .ph0) .ph3 (ev_shl1C (o := .HAP) bs) .nil)) 40
        (.app .c (.tuple2 .ph0 .ph1)) (.tuple2 .ph2 .ph3) (by decide +kernel)
    · exact evR .HAP 101 (.bits bs (.bits (incBits bs) (.bits (true :: bs) (.bits (false :: incBits bs) .nil)))) .nil
        (.cons (.shl1C .ph0) .ph2 (ev_shl1C (o := .HAP) bs) (.cons (.shl0C .ph1) .ph3 (ev_shl0C (o := .HAP) (incBits bs)) .nil)) 40
        (.app .c (.tuple2 .ph0 .ph1)) (.tuple2 .ph2 .ph3) (by decide +kernel)
  rw [succ_eq]
  exact evR .HAP 101 (.bits bs (.bits (incBits bs) .nil)) .nil
    (.cons (.app (.app (.app .ph0 .c) .c) .c) (.tuple2 .ph0 .ph1) hfold .nil) 20
    (.app (.abs (.app .c (.app (.app (.app (.fv (by decide)) .c) .c) .c))) .ph0) .ph1 (by decide +kernel)

theorem binary_pred_bits_hap (bs : List Bool) :
    Ev .HAP (app Gen.Binary.pred (binaryBits bs)) (binaryBits (decBits bs)) := by
  have hfold : Ev .HAP (app3 (binaryBits bs) (foldZ Gen.Binary.pred) (foldA Gen.Binary.pred) (foldB Gen.Binary.pred))
      (predP bs) := by
    refine hap_bits_elim bs (zv := predP []) (b' := handler (shl1C (var 6)) (shl0C (var 6)))
      (evR1 .CBV 101 .nil .nil 20 .c .c (by decide +kernel)) (by decide) (by decide) rfl
      (evR .HAP 101 .nil .nil .nil 40 .c .c (by decide +kernel)) (by decide)
      (hap_foldBits predP (Ev.of_isNormal (by decide)) (fun bs => ?_) (fun bs => ?_) bs)
    -- placeholders: the state `(x, y)` before the bit, then the two components after it; looked up: the shifts
    · exact evR .HAP 101 (.bits bs (.bits (decBits bs) (.bits (false :: bs) (.bits (true :: decBits bs) .nil)))) .nil
        (.cons (.shl0C .ph0) .ph2 (ev_shl0C (o := .HAP) bs) (.cons (.shl1C .ph1) .ph3 (ev_shl1C (o := .HAP) (decBits bs)) .nil)) 40
        (.app .c (.tuple2 .ph0 .ph1)) (.tuple2 .ph2 .ph3) (by decide +kernel)
    · exact evR .HAP 101 (.bits bs (.bits (decBits bs) (.bits (true :: bs) (.bits (false :: bs) .nil)))) .nil
        (.cons (.shl1C .ph0) .ph2 (ev_shl1C (o := .HAP) bs) (.cons (.shl0C .ph0) .ph3 (ev_shl0C (o := .HAP) bs) .nil)) 40
        (.app .c (.tuple2 .ph0 .ph1)) (.tuple2 .ph2 .ph3) (by decide +kernel)
  rw [pred_eq]
  exact evR .HAP 101 (.bits bs (.bits (decBits bs) .nil)) .nil
    (.cons (.app (.app (.app .ph0 .c) .c) .c) (.tuple2 .ph0 .ph1) hfold .nil) 20
    (.app (.abs (.app .c (.app (.app (.app (.fv (by decide)) .c) .c) .c))) .ph0) .ph1 (by decide +kernel)

theorem binary_strip_hap (bs : List Bool) :
    Ev .HAP (app Gen.Binary.strip (binaryBits bs)) (intoBinary (valueOf bs)) := by
  have hfold : Ev .HAP
      (app3 (binaryBits bs) (foldZ Gen.Binary.strip) (foldA Gen.Binary.strip) (foldB Gen.Binary.strip))
      (stripP bs) := by
    refine hap_bits_elim bs (zv := tuple2 (binaryBits []) Gen.Bool.tru) (b' := handler (shl1C (var 6)) Gen.Bool.fls)
      (evR1 .CBV 101 .nil .nil 20 .c .c (by decide +kernel)) (by decide) (by decide) rfl
      (evR .HAP 101 .nil .nil .nil 40 .c .c (by decide +kernel)) (by decide)
      (hap_foldBits stripP (by rw [stripP_nil]; exact Ev.of_isNormal (by decide)) (fun bs => ?_) (fun bs => ?_) bs)
    · rw [stripP_false, stripP, intoBinary_eq_bits]
      generalize bitsLSB (valueOf bs) = cs
      cases (valueOf bs == 0)
      · exact evR .HAP 101 (.bits cs (.bits (false :: cs) .nil)) .nil (.cons (.shl0C .ph0) .ph1 (ev_shl0C (o := .HAP) cs) .nil) 40
          (.app .c (.tuple2 .ph0 .c)) (.tuple2 .ph1 .c) (by decide +kernel)
      · exact evR .HAP 101 (.bits cs .nil) .nil .nil 40 (.app .c (.tuple2 .ph0 .c))
          (.tuple2 (.c (t := Gen.Binary.zero)) .c) (by decide +kernel)
    · rw [stripP_true, stripP, intoBinary_eq_bits]
      generalize bitsLSB (valueOf bs) = cs
      exact evR .HAP 101 (.bits cs (.bool (valueOf bs == 0) (.bits (true :: cs) .nil))) .nil
        (.cons (.shl1C .ph0) .ph2 (ev_shl1C (o := .HAP) cs) .nil) 40
        (.app .c (.tuple2 .ph0 .ph1)) (.tuple2 .ph2 .c) (by decide +kernel)
  rw [strip_eq]
  exact evR .HAP 101 (.bits bs (.bits (bitsLSB (valueOf bs)) (.bool (valueOf bs == 0) .nil))) .nil
    (.cons (.app (.app (.app .ph0 .c) .c) .c) (by rw [stripP, intoBinary_eq_bits]; exact .tuple2 .ph1 .ph2) hfold .nil)
    20 (.app (.abs (.app .c (.app (.app (.app (.fv (by decide)) .c) .c) .c))) .ph0)
    (by rw [intoBinary_eq_bits]; exact .ph1) (by decide +kernel)

theorem EagerBin.lsbOf_bitsLSB (n : Nat) :
    lsbOf (bitsLSB n) = if n % 2 = 1 then Gen.Binary.b1 else Gen.Binary.b0 := by
  unfold lsbOf
  by_cases h : n = 0
  · subst h; rw [bitsLSB_zero]; rfl
  · rw [bitsLSB_pos h]
    by_cases hb : n % 2 = 1 <;> simp [hb]

theorem binary_is_zero_hap (n : Nat) : Ev .HAP (app Gen.Binary.is_zero (intoBinary n)) (fromBool (n == 0)) := by
  have := binary_is_zero_bits_hap (bitsLSB n)
  rwa [← intoBinary_eq_bits, valueOf_bitsLSB] at this

theorem binary_lsb_hap (n : Nat) :
    Ev .HAP (app Gen.Binary.lsb (intoBinary n)) (if n % 2 = 1 then Gen.Binary.b1 else Gen.Binary.b0) := by
  have := binary_lsb_bits_hap (bitsLSB n)
  rw [← intoBinary_eq_bits] at this
  rw [← lsbOf_bitsLSB]; exact this

theorem binary_shl1_hap (n : Nat) : Ev .HAP (app Gen.Binary.shl1 (intoBinary n)) (intoBinary (2 * n + 1)) := by
  rw [intoBinary_eq_bits, intoBinary_eq_bits, bitsLSB_double_succ]; exact binary_shl1_bits_hap _

theorem binary_shl0_hap (n : Nat) :
    Ev .HAP (app Gen.Binary.strip (app Gen.Binary.shl0 (intoBinary n))) (intoBinary (2 * n)) := by
  have h := binary_strip_hap (false :: bitsLSB n)
  rw [valueOf_false, valueOf_bitsLSB] at h
  rw [intoBinary_eq_bits n]
  exact Ev.app_arg (binary_shl0_bits_hap _) h

theorem binary_succ_hap (n : Nat) : Ev .HAP (app Gen.Binary.succ (intoBinary n)) (intoBinary (n + 1)) := by
  rw [intoBinary_eq_bits, intoBinary_eq_bits, ← incBits_bitsLSB]; exact binary_succ_bits_hap _

theorem EagerBin.valueOf_decBits_bitsLSB (n : Nat) : valueOf (decBits (bitsLSB n)) = n - 1 := by
  by_cases h0 : n = 0
  · subst h0; rw [bitsLSB_zero]; rfl
  · rw [valueOf_decBits _ (by rw [valueOf_bitsLSB]; exact h0), valueOf_bitsLSB]

theorem binary_pred_hap (n : Nat) :
    Ev .HAP (app Gen.Binary.strip (app Gen.Binary.pred (intoBinary n))) (intoBinary (n - 1)) := by
  have h := binary_strip_hap (decBits (bitsLSB n))
  rw [valueOf_decBits_bitsLSB] at h
  rw [intoBinary_eq_bits n]
  exact Ev.app_arg (binary_pred_bits_hap _) h

/-! ## APP: the operations are typable

A numeral is a fold `λz a b. …`; as a datum it folds at one type (`BN`), and `shl0`, `shl1` map `BN` to `BN`.  In
`succ`, `pred`, `strip` the state of the fold is a pair, which is a function of what is made of it: the pair that a
handler gives is taken apart by the handler of the next bit, so the type of the state at one bit mentions that at the next,
down to the projection at the end (`typed_fold`, as for a Church numeral that iterates `PRED`). -/

namespace EagerBin

/-- a numeral `λz a b. …` applies, from the most significant bit, `a` for a zero bit and `b` for a one bit: with `z : τ 0`
and both handlers at `τ k → τ (k+1)` for the `k`-th bit the result is at `τ` of the number of bits -/
theorem typed_bits (Γ : List (List Ty)) (τ : Nat → Ty) (Sa Sb : List Ty) (bs : List Bool)
    (hSa : ∀ k, k < bs.length → Ty.arr [τ k] (τ (k + 1)) ∈ Sa) (hSb : ∀ k, k < bs.length → Ty.arr [τ k] (τ (k + 1)) ∈ Sb) :
    Typed Γ (binaryBits bs) (.arr [τ 0] (.arr Sa (.arr Sb (τ bs.length)))) := by
  have body : ∀ cs : List Bool, cs.length ≤ bs.length → Typed (Sb :: Sa :: [τ 0] :: Γ) (bitsBody cs) (τ cs.length) := by
    intro cs
    induction cs with
    | nil => exact fun _ => Typed.var1 (i := 2) rfl
    | cons c cs ih =>
      intro h
      have h' : cs.length < bs.length := h
      cases c
      · exact Typed.app1 (Typed.var (i := 1) rfl (hSa _ h')) (ih (Nat.le_of_lt h'))
      · exact Typed.app1 (Typed.var (i := 0) rfl (hSb _ h')) (ih (Nat.le_of_lt h'))
  exact Typed.abs (Typed.abs (Typed.abs (body bs (Nat.le_refl _))))

/-- the numerals as folds with state `A` -/
def BNat (A : Ty) : Ty := .arr [A] (.arr [.arr [A] A] (.arr [.arr [A] A] A))

theorem typed_bits_BNat (Γ : List (List Ty)) (A : Ty) (bs : List Bool) : Typed Γ (binaryBits bs) (BNat A) :=
  typed_bits Γ (fun _ => A) _ _ bs (fun _ _ => .head _) (fun _ _ => .head _)

/-- the numerals as data: what `shl0`, `shl1` take and give -/
def BN : Ty := BNat .o

/-- the type of the numeral with `n` bits as a fold whose handlers lead from `τ k` to `τ (k+1)` at the `k`-th bit -/
def IterB (τ : Nat → Ty) (n : Nat) : Ty := .arr [τ 0] (.arr (steps τ n) (.arr (steps τ n) (τ n)))

theorem typed_IterB (Γ : List (List Ty)) (τ : Nat → Ty) (bs : List Bool) : Typed Γ (binaryBits bs) (IterB τ bs.length) :=
  typed_bits Γ τ _ _ bs (fun _ hk => mem_steps hk) (fun _ hk => mem_steps hk)

/-- `x z a b` where `x` has a fold type of a numeral with `n` bits and `a`, `b : G (F A) → G A` for every `A`: `n` bits
lead from `G (Fⁿ A)` to `G A` -/
theorem typed_fold {Γ : List (List Ty)} {F G : Ty → Ty} {x z a b : Term} {n : Nat} {A : Ty}
    (hx : Typed Γ x (IterB (fun k => G (Ty.tower F (n - k) A)) n)) (hz : Typed Γ z (G (Ty.tower F n A)))
    (ha : ∀ A, Typed Γ a (.arr [G (F A)] (G A))) (hb : ∀ A, Typed Γ b (.arr [G (F A)] (G A))) :
    Typed Γ (app3 x z a b) (G A) := by
  have step : ∀ {f : Term}, (∀ A, Typed Γ f (.arr [G (F A)] (G A))) →
      ∀ σ ∈ steps (fun k => G (Ty.tower F (n - k) A)) n, Typed Γ f σ := by
    intro f hf σ hσ
    obtain ⟨k, hk, rfl⟩ := of_mem_steps hσ
    show Typed Γ f (.arr [G (Ty.tower F (n - k) A)] (G (Ty.tower F (n - (k + 1)) A)))
    rw [show n - k = (n - (k + 1)) + 1 by omega]
    exact hf _
  have h := Typed.app (Typed.app (Typed.app1 hx hz) (ha A) (step ha)) (hb A) (step hb)
  simpa only [Nat.sub_self, Ty.tower] using h

/-- the pairs of two numerals, with the type `R` of what is made of them -/
def PairT (R : Ty) : Ty := .arr [.arr [BN] (.arr [BN] R)] R

/-- an operation `λx. PROJ (x Z A B)` whose state is a pair (of type `PT R`, when `R` is made of it) and whose handlers
make a pair from a pair -/
theorem typed_pairFold {op proj : Term} (PT : Ty → Ty)
    (e : op = abs (app proj (app3 (var 1) (foldZ op) (foldA op) (foldB op))))
    (hproj : ∀ Γ, Typed Γ proj (.arr [PT BN] BN)) (hZ : ∀ Γ R, Typed Γ (foldZ op) (PT R))
    (hA : ∀ Γ R, Typed Γ (foldA op) (.arr [PT (PT R)] (PT R)))
    (hB : ∀ Γ R, Typed Γ (foldB op) (.arr [PT (PT R)] (PT R))) (bs : List Bool) :
    Typed [] (app op (binaryBits bs)) BN := by
  rw [e]
  exact Typed.app1 (Typed.abs (Typed.app1 (hproj _) (typed_fold (F := PT) (G := PT) (A := BN) (n := bs.length)
    (Typed.var1 (i := 0) rfl) (hZ _ _) (hA _) (hB _)))) (typed_IterB [] _ bs)

/-- the state of `strip`: a numeral and a boolean that chooses between numerals -/
def PairS (R : Ty) : Ty := .arr [.arr [BN] (.arr [Ty.B BN] R)] R

end EagerBin

theorem binary_succ_bits_app (bs : List Bool) :
    Ev .APP (app Gen.Binary.succ (binaryBits bs)) (binaryBits (incBits bs)) :=
  (binary_succ_bits_hap bs).app_of_typed (typed_pairFold PairT succ_eq
    (fun Γ => by unfold Gen.Pair.snd PairT; stlc_typecheck) (fun Γ R => by unfold PairT BN BNat; stlc_typecheck)
    (fun Γ R => by unfold PairT BN BNat; stlc_typecheck) (fun Γ R => by unfold PairT BN BNat; stlc_typecheck) bs)

theorem binary_pred_bits_app (bs : List Bool) :
    Ev .APP (app Gen.Binary.pred (binaryBits bs)) (binaryBits (decBits bs)) :=
  (binary_pred_bits_hap bs).app_of_typed (typed_pairFold PairT pred_eq
    (fun Γ => by unfold Gen.Pair.snd PairT; stlc_typecheck) (fun Γ R => by unfold PairT BN BNat; stlc_typecheck)
    (fun Γ R => by unfold PairT BN BNat; stlc_typecheck) (fun Γ R => by unfold PairT BN BNat; stlc_typecheck) bs)

theorem binary_strip_app (bs : List Bool) :
    Ev .APP (app Gen.Binary.strip (binaryBits bs)) (intoBinary (valueOf bs)) :=
  (binary_strip_hap bs).app_of_typed (typed_pairFold PairS strip_eq
    (fun Γ => by unfold Gen.Pair.fst PairS; stlc_typecheck) (fun Γ R => by unfold PairS BN BNat Ty.B; stlc_typecheck)
    (fun Γ R => by unfold PairS BN BNat Ty.B; stlc_typecheck) (fun Γ R => by unfold PairS BN BNat Ty.B; stlc_typecheck) bs)

theorem binary_is_zero_bits_app (bs : List Bool) :
    Ev .APP (app Gen.Binary.is_zero (binaryBits bs)) (fromBool (valueOf bs == 0)) :=
  (binary_is_zero_bits_hap bs).app_of_typed (Typed.app1 (τ := Ty.B .o)
    (by unfold Gen.Binary.is_zero BNat Ty.B; stlc_typecheck) (typed_bits_BNat [] (Ty.B .o) bs))

theorem binary_lsb_bits_app (bs : List Bool) :
    Ev .APP (app Gen.Binary.lsb (binaryBits bs)) (if bs.headD false then Gen.Binary.b1 else Gen.Binary.b0) :=
  (binary_lsb_bits_hap bs).app_of_typed (Typed.app1 (τ := Ty.B .o)
    (by unfold Gen.Binary.lsb BNat Ty.B; stlc_typecheck) (typed_bits_BNat [] (Ty.B .o) bs))

theorem binary_shl1_bits_app (bs : List Bool) :
    Ev .APP (app Gen.Binary.shl1 (binaryBits bs)) (binaryBits (true :: bs)) :=
  (binary_shl1_bits_hap bs).app_of_typed (Typed.app1 (τ := BN)
    (by unfold Gen.Binary.shl1 BN BNat; stlc_typecheck) (typed_bits_BNat [] .o bs))

theorem binary_shl0_bits_app (bs : List Bool) :
    Ev .APP (app Gen.Binary.shl0 (binaryBits bs)) (binaryBits (false :: bs)) :=
  (binary_shl0_bits_hap bs).app_of_typed (Typed.app1 (τ := BN)
    (by unfold Gen.Binary.shl0 BN BNat; stlc_typecheck) (typed_bits_BNat [] .o bs))

theorem binary_is_zero_app (n : Nat) : Ev .APP (app Gen.Binary.is_zero (intoBinary n)) (fromBool (n == 0)) := by
  have := binary_is_zero_bits_app (bitsLSB n)
  rwa [← intoBinary_eq_bits, valueOf_bitsLSB] at this

theorem binary_lsb_app (n : Nat) :
    Ev .APP (app Gen.Binary.lsb (intoBinary n)) (if n % 2 = 1 then Gen.Binary.b1 else Gen.Binary.b0) := by
  have := binary_lsb_bits_app (bitsLSB n)
  rw [← intoBinary_eq_bits] at this
  rw [← lsbOf_bitsLSB]; exact this

theorem binary_shl1_app (n : Nat) : Ev .APP (app Gen.Binary.shl1 (intoBinary n)) (intoBinary (2 * n + 1)) := by
  rw [intoBinary_eq_bits, intoBinary_eq_bits, bitsLSB_double_succ]; exact binary_shl1_bits_app _

theorem binary_shl0_app (n : Nat) :
    Ev .APP (app Gen.Binary.strip (app Gen.Binary.shl0 (intoBinary n))) (intoBinary (2 * n)) := by
  have h := binary_strip_app (false :: bitsLSB n)
  rw [valueOf_false, valueOf_bitsLSB] at h
  rw [intoBinary_eq_bits n]
  exact Ev.app_arg (binary_shl0_bits_app _) h

theorem binary_succ_app (n : Nat) : Ev .APP (app Gen.Binary.succ (intoBinary n)) (intoBinary (n + 1)) := by
  rw [intoBinary_eq_bits, intoBinary_eq_bits, ← incBits_bitsLSB]; exact binary_succ_bits_app _

theorem binary_pred_app (n : Nat) :
    Ev .APP (app Gen.Binary.strip (app Gen.Binary.pred (intoBinary n))) (intoBinary (n - 1)) := by
  have h := binary_strip_app (decBits (bitsLSB n))
  rw [valueOf_decBits_bitsLSB] at h
  rw [intoBinary_eq_bits n]
  exact Ev.app_arg (binary_pred_bits_app _) h

theorem binary_is_zero_reduce_hap (n : Nat) :
    ∃ fuel c, reduce .HAP 0 fuel (app Gen.Binary.is_zero (intoBinary n)) = some (fromBool (n == 0), c) :=
  (binary_is_zero_hap n).reduce
theorem binary_is_zero_reduce_app (n : Nat) :
    ∃ fuel c, reduce .APP 0 fuel (app Gen.Binary.is_zero (intoBinary n)) = some (fromBool (n == 0), c) :=
  (binary_is_zero_app n).reduce
theorem binary_lsb_reduce_hap (n : Nat) :
    ∃ fuel c, reduce .HAP 0 fuel (app Gen.Binary.lsb (intoBinary n)) =
      some (if n % 2 = 1 then Gen.Binary.b1 else Gen.Binary.b0, c) :=
  (binary_lsb_hap n).reduce
theorem binary_lsb_reduce_app (n : Nat) :
    ∃ fuel c, reduce .APP 0 fuel (app Gen.Binary.lsb (intoBinary n)) =
      some (if n % 2 = 1 then Gen.Binary.b1 else Gen.Binary.b0, c) :=
  (binary_lsb_app n).reduce
theorem binary_shl1_reduce_hap (n : Nat) :
    ∃ fuel c, reduce .HAP 0 fuel (app Gen.Binary.shl1 (intoBinary n)) = some (intoBinary (2 * n + 1), c) :=
  (binary_shl1_hap n).reduce
theorem binary_shl1_reduce_app (n : Nat) :
    ∃ fuel c, reduce .APP 0 fuel (app Gen.Binary.shl1 (intoBinary n)) = some (intoBinary (2 * n + 1), c) :=
  (binary_shl1_app n).reduce
theorem binary_shl0_reduce_hap (n : Nat) :
    ∃ fuel c, reduce .HAP 0 fuel (app Gen.Binary.strip (app Gen.Binary.shl0 (intoBinary n))) =
      some (intoBinary (2 * n), c) :=
  (binary_shl0_hap n).reduce
theorem binary_shl0_reduce_app (n : Nat) :
    ∃ fuel c, reduce .APP 0 fuel (app Gen.Binary.strip (app Gen.Binary.shl0 (intoBinary n))) =
      some (intoBinary (2 * n), c) :=
  (binary_shl0_app n).reduce
theorem binary_succ_reduce_hap (n : Nat) :
    ∃ fuel c, reduce .HAP 0 fuel (app Gen.Binary.succ (intoBinary n)) = some (intoBinary (n + 1), c) :=
  (binary_succ_hap n).reduce
theorem binary_succ_reduce_app (n : Nat) :
    ∃ fuel c, reduce .APP 0 fuel (app Gen.Binary.succ (intoBinary n)) = some (intoBinary (n + 1), c) :=
  (binary_succ_app n).reduce
theorem binary_pred_reduce_hap (n : Nat) :
    ∃ fuel c, reduce .HAP 0 fuel (app Gen.Binary.strip (app Gen.Binary.pred (intoBinary n))) =
      some (intoBinary (n - 1), c) :=
  (binary_pred_hap n).reduce
theorem binary_pred_reduce_app (n : Nat) :
    ∃ fuel c, reduce .APP 0 fuel (app Gen.Binary.strip (app Gen.Binary.pred (intoBinary n))) =
      some (intoBinary (n - 1), c) :=
  (binary_pred_app n).reduce
theorem binary_strip_reduce_hap (bs : List Bool) :
    ∃ fuel c, reduce .HAP 0 fuel (app Gen.Binary.strip (binaryBits bs)) = some (intoBinary (valueOf bs), c) :=
  (binary_strip_hap bs).reduce
theorem binary_strip_reduce_app (bs : List Bool) :
    ∃ fuel c, reduce .APP 0 fuel (app Gen.Binary.strip (binaryBits bs)) = some (intoBinary (valueOf bs), c) :=
  (binary_strip_app bs).reduce

end LC
