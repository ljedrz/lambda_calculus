/-
Unbounded termination-and-result theorems for the Scott and Parigot numeral operations (and the conversions
out of Church numerals) under the EAGER orders HAP and APP, as big-step derivations (`LC/Proofs/Eager/BigStep.lean`).

Scott and Parigot `succ`, `pred`, `is_zero`, Parigot `add`, `sub`, `mul`, Church `to_scott`, `to_parigot`: both orders, all arguments.
NEGATIVE results (the `Z`-recursive Scott operations, documented in the Rust source as unsuitable for APP and HAP):
  `scott_add/mul/pow/to_church_diverges_hap` — no fuel suffices under HAP, for ALL numeral arguments;
  `Z_diverges_app`, `scott_add/mul/pow/to_church_diverges_app` — under APP already the constant `Z` loops, hence every
  application of these operations to ANY terms.

Method.  Parigot numerals store the recursor: `P_n s z` contracts to `parigotRec s z n`; under HAP the recursive results are
operands (evaluated first), so a family of results suffices (`ev_parigotRec (o := .HAP)`).  Under APP the operations are typable terms
(`Eager/Typed.lean`), so their HAP values are their APP values: the step of the numeral `n` has one type per level, and
the numeral `k` has one type `canon k` at which it can be both stored and run.
-/
import LC.Proofs.Eager.ChurchAppB
import LC.Proofs.Eager.Numerals
import LC.Proofs.Num.ScottParigot

namespace LC
open Term Spec Enc Eager

namespace EagerSP

@[simp] theorem isNormal_parigot_pred : isNormal Gen.Parigot.pred = true := by decide
@[simp] theorem isNormal_scott_succ : isNormal Gen.Scott.succ = true := by decide

theorem applyAux_parigotBody2 (s : Term) (n : Nat) :
    applyAux s 2 (parigotBody n) = parigotRec (shiftFV 1 0 s) (var 1) n := by
  induction n with
  | zero => simp [parigotBody, applyAux]
  | succ n ih => rw [parigotBody_succ]; lc_simp [parigotRec, ih]

theorem applyAux_parigotRec (r : Term) (d : Nat) (hd : 1 ≤ d) (s z : Term) (n : Nat) :
    applyAux r d (parigotRec s z n) = parigotRec (applyAux r d s) (applyAux r d z) n := by
  induction n with
  | zero => rfl
  | succ n ih => lc_simp [parigotRec, ih]

theorem shiftFV_parigotRec (a o : Nat) (s z : Term) (n : Nat) :
    shiftFV a o (parigotRec s z n) = parigotRec (shiftFV a o s) (shiftFV a o z) n := by
  induction n with
  | zero => rfl
  | succ n ih => lc_simp [parigotRec, ih]

/-- a Parigot numeral applied to its step argument, CBV (and hence in operator position under HAP): ONE contraction;
the result is the closure `λz. parigotRec s z n` -/
theorem cbv_parigot_step (n : Nat) {s : Term} (ws : isWNF s = true) :
    Ev .CBV (app (intoParigot n) s) (abs (parigotRec (shiftFV 1 0 s) (var 1) n)) := by
  rw [intoParigot_eq]
  refine Ev.beta rfl ws ?_
  simp only [contract, applyAux, Nat.reduceAdd, applyAux_parigotBody2]
  exact Ev.stop rfl _

/-- under HAP a Parigot numeral applied to a closed step and a base runs the recursion -/
theorem hap_parigot_elim (n : Nat) {s z r : Term} (cs : Closed s) (ws : isWNF s = true) (nz : isNormal z = true)
    (h : Ev .HAP (parigotRec s z n) r) : Ev .HAP (app2 (intoParigot n) s z) r := by
  refine Ev.red (cbv_parigot_step n ws) (Ev.of_isNormal nz) ?_
  have e : contract (parigotRec (shiftFV 1 0 s) (var 1) n) z = parigotRec s z n := by
    rw [contract, applyAux_parigotRec _ _ (Nat.le_refl 1)]; lc_simp
  rw [e]; exact h

@[simp] theorem isNormal_parigotRec_var (i : Nat) (z : Term) (n : Nat) :
    isNormal (parigotRec (var i) z n) = isNormal z := by
  induction n with
  | zero => rfl
  | succ n ih => simp [parigotRec, isNormal, isAbs, ih]

theorem ev_parigot_reopen {o : Order} (n : Nat) (he : o.eager = true := by rfl) :
    Ev o (app2 (intoParigot n) (var 2) (var 1)) (parigotBody n) := by
  have n1 : isNormal (parigotRec (var 3) (var 1) n) = true := by rw [isNormal_parigotRec_var]; rfl
  have n2 : isNormal (parigotBody n) = true := by rw [← ScottParigot.parigotRec_vars, isNormal_parigotRec_var]; rfl
  rw [intoParigot_eq]
  exact Ev.app_fn (g := abs (parigotRec (var 3) (var 1) n))
    (ev_beta_nf (by simp [isNormal]) rfl (by simp [contract, applyAux, applyAux_parigotBody2, shiftFV])
      (by simp [isNormal]) (Ev.head_eager he))
    (ev_beta_nf n1 rfl
      (by rw [contract, applyAux_parigotRec _ _ (Nat.le_refl 1)]; simp [applyAux, shiftFV, ScottParigot.parigotRec_vars])
      n2 he) he

/-- primitive recursion: a family of results suffices (the recursive result is the OPERAND, evaluated first) -/
theorem ev_parigotRec {o : Order} {s z : Term} (w : Nat → Term) (h0 : Ev o z (w 0))
    (hs : ∀ k, Ev o (app2 s (intoParigot k) (w k)) (w (k + 1))) (n : Nat) (he : o.eager = true := by rfl) :
    Ev o (parigotRec s z n) (w n) := by
  induction n with
  | zero => exact h0
  | succ n ih => exact Ev.app_arg ih (hs n) he

theorem cbv_parigotRec {s z : Term} (w : Nat → Term) (h0 : EvalCbv z (w 0))
    (hs : ∀ k, EvalCbv (app2 s (intoParigot k) (w k)) (w (k + 1))) (n : Nat) : EvalCbv (parigotRec s z n) (w n) :=
  (ev_parigotRec (o := .CBV) w (.of_cbv h0) (fun k => .of_cbv (hs k)) n).toCbv

end EagerSP

open EagerSP

theorem scott_succ_hap (n : Nat) : Ev .HAP (app Gen.Scott.succ (intoScott n)) (intoScott (n + 1)) :=
  evR .HAP 101 (.scott n .nil) .nil .nil 20 (.app .c .ph0) .scott_succ (by decide +kernel)

theorem scott_succ_app (n : Nat) : Ev .APP (app Gen.Scott.succ (intoScott n)) (intoScott (n + 1)) :=
  evR1 .APP 101 (.scott n .nil) .nil 20 (.app .c .ph0) .scott_succ (by decide +kernel)

theorem scott_pred_hap (n : Nat) : Ev .HAP (app Gen.Scott.pred (intoScott n)) (intoScott (n - 1)) := by
  cases n with
  | zero => exact evR .HAP 101 .nil .nil .nil 20 (.app .c .c) .c (by decide +kernel)
  | succ n => exact evR .HAP 101 (.scott n .nil) .nil .nil 20 (.app .c .scott_succ) .ph0 (by decide +kernel)

theorem scott_pred_app (n : Nat) : Ev .APP (app Gen.Scott.pred (intoScott n)) (intoScott (n - 1)) := by
  cases n with
  | zero => exact evR1 .APP 101 .nil .nil 20 (.app .c .c) .c (by decide +kernel)
  | succ n => exact evR1 .APP 101 (.scott n .nil) .nil 20 (.app .c .scott_succ) .ph0 (by decide +kernel)

theorem scott_is_zero_hap (n : Nat) : Ev .HAP (app Gen.Scott.is_zero (intoScott n)) (fromBool (n == 0)) := by
  cases n with
  | zero => exact evR .HAP 101 .nil .nil .nil 20 (.app .c .c) .c (by decide +kernel)
  | succ n =>
    exact evR .HAP 101 (.scott n .nil) .nil .nil 20 (.app .c .scott_succ) (.c (t := Gen.Bool.fls)) (by decide +kernel)

theorem scott_is_zero_app (n : Nat) : Ev .APP (app Gen.Scott.is_zero (intoScott n)) (fromBool (n == 0)) := by
  cases n with
  | zero => exact evR1 .APP 101 .nil .nil 20 (.app .c .c) .c (by decide +kernel)
  | succ n =>
    exact evR1 .APP 101 (.scott n .nil) .nil 20 (.app .c .scott_succ) (.c (t := Gen.Bool.fls)) (by decide +kernel)

theorem parigot_succ_hap (n : Nat) : Ev .HAP (app Gen.Parigot.succ (intoParigot n)) (intoParigot (n + 1)) := by
  -- `SUCC n` contracts to `λs z. s n (n s z)`; the head `s n` is a value, `n s z` is the body of `n`
  have cn := closed_intoParigot n
  rw [intoParigot_eq (n + 1), parigotBody_succ]
  refine Ev.beta rfl (isNormal_intoParigot n) ?_
  simp [lc_simp, cn]
  have hd : Ev .CBV (app (var 2) (intoParigot n)) (app (var 2) (intoParigot n)) :=
    .neu rfl (.var _ 2) rfl (Ev.of_isWNF (isWNF_intoParigot n))
  exact .abs rfl (.abs rfl (.deep rfl hd rfl (ev_parigot_reopen n)
    (.deep rfl (.var _ 2) rfl (Ev.of_isNormal (isNormal_intoParigot n)) (.var _ 2))))

theorem parigot_pred_hap (n : Nat) : Ev .HAP (app Gen.Parigot.pred (intoParigot n)) (intoParigot (n - 1)) := by
  have h := hap_parigot_elim n (s := abs (abs (var 2))) (z := Gen.Parigot.zero) (by decide) rfl rfl
    (ev_parigotRec (o := .HAP) (fun k => intoParigot (k - 1)) (Ev.of_isNormal rfl) (fun k => by
      rw [Nat.add_sub_cancel]
      exact evR .HAP 101 (.parigot k (.parigot (k - 1) .nil)) .nil .nil 20 (.app (.app .c .ph0) .ph1) .ph0
        (by decide +kernel)) n)
  exact evR .HAP 101 (.parigot n (.parigot (n - 1) .nil)) .nil (.cons (.app (.app .ph0 .c) .c) .ph1 h .nil) 20
    (.app .c .ph0) .ph1 (by decide +kernel)

theorem parigot_is_zero_hap (n : Nat) : Ev .HAP (app Gen.Parigot.is_zero (intoParigot n)) (fromBool (n == 0)) := by
  have h := hap_parigot_elim n (s := abs (abs Gen.Bool.fls)) (z := Gen.Bool.tru) (by decide) rfl rfl
    (ev_parigotRec (o := .HAP) (fun k => fromBool (k == 0)) (Ev.of_isNormal rfl) (fun k =>
      evR .HAP 101 (.parigot k (.bool (k == 0) .nil)) .nil .nil 20 (.app (.app .c .ph0) .ph1) (.c (t := Gen.Bool.fls))
        (by decide +kernel)) n)
  exact evR .HAP 101 (.parigot n (.bool (n == 0) .nil)) .nil (.cons (.app (.app .ph0 .c) .c) .ph1 h .nil) 20
    (.app .c .ph0) .ph1 (by decide +kernel)

/-- the recursion of `add`: `m (λp. SUCC) n` -/
theorem EagerSP.parigot_add_core_hap (m n : Nat) :
    Ev .HAP (app2 (intoParigot m) (abs Gen.Parigot.succ) (intoParigot n)) (intoParigot (m + n)) := by
  rw [Nat.add_comm]
  exact hap_parigot_elim m (by decide) rfl (isNormal_intoParigot n)
    (ev_parigotRec (o := .HAP) (fun k => intoParigot (n + k)) (Ev.of_isNormal (isNormal_intoParigot n)) (fun k =>
      evR .HAP 101 (.parigot k (.parigot (n + k) (.parigot (n + k + 1) .nil))) .nil
        (.cons (.app .c .ph1) .ph2 (parigot_succ_hap (n + k)) .nil) 20 (.app (.app .c .ph0) .ph1) .ph2
        (by decide +kernel)) m)

theorem parigot_add_hap (m n : Nat) :
    Ev .HAP (app2 Gen.Parigot.add (intoParigot m) (intoParigot n)) (intoParigot (m + n)) :=
  evR .HAP 101 (.parigot m (.parigot n (.parigot (m + n) .nil))) .nil
    (.cons (.app (.app .ph0 .c) .ph1) .ph2 (parigot_add_core_hap m n) .nil) 20 (.app (.app .c .ph0) .ph1) .ph2
    (by decide +kernel)

theorem parigot_sub_hap (m n : Nat) :
    Ev .HAP (app2 Gen.Parigot.sub (intoParigot m) (intoParigot n)) (intoParigot (m - n)) := by
  have h := hap_parigot_elim n (s := abs Gen.Parigot.pred) (by decide) rfl (isNormal_intoParigot m)
    (ev_parigotRec (o := .HAP) (fun k => intoParigot (m - k)) (Ev.of_isNormal (isNormal_intoParigot m)) (fun k => by
      rw [Nat.sub_add_eq]
      exact evR .HAP 101 (.parigot k (.parigot (m - k) (.parigot (m - k - 1) .nil))) .nil
        (.cons (.app .c .ph1) .ph2 (parigot_pred_hap (m - k)) .nil) 20 (.app (.app .c .ph0) .ph1) .ph2
        (by decide +kernel)) n)
  exact evR .HAP 101 (.parigot m (.parigot n (.parigot (m - n) .nil))) .nil
    (.cons (.app (.app .ph1 .c) .ph0) .ph2 h .nil) 20 (.app (.app .c .ph0) .ph1) .ph2 (by decide +kernel)

theorem parigot_mul_hap (m n : Nat) :
    Ev .HAP (app2 Gen.Parigot.mul (intoParigot m) (intoParigot n)) (intoParigot (m * n)) := by
  have h := hap_parigot_elim m (s := abs (app Gen.Parigot.add (intoParigot n))) (z := Gen.Parigot.zero) (by lc_simp)
    rfl rfl
    (ev_parigotRec (o := .HAP) (fun k => intoParigot (k * n)) (by rw [Nat.zero_mul]; exact Ev.of_isNormal rfl) (fun k => by
      rw [show (k + 1) * n = n + k * n by rw [Nat.succ_mul, Nat.add_comm]]
      -- the step `(λp. ADD n) k r`; looked up: the recursion `n (λp. SUCC) r` inside `ADD n r`
      exact evR .HAP 101 (.parigot k (.parigot n (.parigot (k * n) (.parigot (n + k * n) .nil)))) .nil
        (.cons (.app (.app .ph1 .c) .ph2) .ph3 (parigot_add_core_hap n (k * n)) .nil) 20
        (.app (.app (.abs (.app .c .ph1)) .ph0) .ph2) .ph3 (by decide +kernel)) m)
  exact evR .HAP 101 (.parigot m (.parigot n (.parigot (m * n) .nil))) .nil
    (.cons (.app (.app .ph0 (.abs (.app .c .ph1))) .c) .ph2 h .nil) 20 (.app (.app .c .ph0) .ph1) .ph2
    (by decide +kernel)

theorem church_to_scott_hap (n : Nat) : Ev .HAP (app Gen.Church.to_scott (intoChurch n)) (intoScott n) := by
  have h := ev_church_elim (o := .HAP) n (f := Gen.Scott.succ) (x := intoScott 0) rfl (isNormal_intoScott 0)
    (ev_iterApp (o := .HAP) intoScott (Ev.of_isNormal (isNormal_intoScott 0)) scott_succ_hap n)
  exact evR .HAP 101 (.church n (.scott n .nil)) .nil (.cons (.app (.app .ph0 .c) .c) .ph1 h .nil) 20
    (.app .c .ph0) .ph1 (by decide +kernel)

theorem church_to_parigot_hap (n : Nat) : Ev .HAP (app Gen.Church.to_parigot (intoChurch n)) (intoParigot n) := by
  have h := ev_church_elim (o := .HAP) n (f := Gen.Parigot.succ) (x := intoParigot 0) rfl (isNormal_intoParigot 0)
    (ev_iterApp (o := .HAP) intoParigot (Ev.of_isNormal (isNormal_intoParigot 0)) parigot_succ_hap n)
  exact evR .HAP 101 (.church n (.parigot n .nil)) .nil (.cons (.app (.app .ph0 .c) .c) .ph1 h .nil) 20
    (.app .c .ph0) .ph1 (by decide +kernel)

/-! ## the shape of an iterated Parigot successor

`WT k x` is the APP-normal form of `succᵏ x` for a variable `x` ("the numeral `k` built on `x` instead of zero"), `XT k x`
that of `succᵏ x s z` under the binders `λs z`; both commute with shifting and substitution. -/

namespace EagerSP

/-- `succᵏ x s z`, evaluated, for the bound variables `s = var 2`, `z = var 1` (`x` as seen under these binders) -/
def XT : Nat → Term → Term
  | 0, x => app2 x (var 2) (var 1)
  | k + 1, x => app2 (var 2) (match k with | 0 => x | _ + 1 => abs (abs (XT k (shiftFV 2 0 x)))) (XT k x)

def WT (k : Nat) (x : Term) : Term :=
  match k with
  | 0 => x
  | _ + 1 => abs (abs (XT k (shiftFV 2 0 x)))

theorem XT_zero (x : Term) : XT 0 x = app2 x (var 2) (var 1) := rfl
theorem XT_succ (k : Nat) (x : Term) : XT (k + 1) x = app2 (var 2) (WT k x) (XT k x) := by
  cases k <;> rfl
theorem WT_succ (k : Nat) (x : Term) : WT (k + 1) x = abs (abs (XT (k + 1) (shiftFV 2 0 x))) := rfl

theorem shiftFV_XT_WT (a : Nat) (k : Nat) : ∀ (x : Term) (o : Nat),
    (2 ≤ o → shiftFV a o (XT k x) = XT k (shiftFV a o x)) ∧ shiftFV a o (WT k x) = WT k (shiftFV a o x) := by
  induction k with
  | zero =>
    intro x o
    refine ⟨fun ho => ?_, rfl⟩
    have h1 : ¬ (2 > o) := by omega
    have h2 : ¬ (1 > o) := by omega
    simp [XT_zero, shiftFV, h1, h2]
  | succ k ih =>
    intro x o
    have hX : ∀ (x : Term) (o : Nat), 2 ≤ o → shiftFV a o (XT (k + 1) x) = XT (k + 1) (shiftFV a o x) := by
      intro x o ho
      have h1 : ¬ (2 > o) := by omega
      simp [XT_succ, shiftFV, h1, (ih x o).1 ho, (ih x o).2]
    refine ⟨hX x o, ?_⟩
    simp only [WT_succ, shiftFV]
    rw [hX _ _ (by omega), shiftFV_comm 2 a 0 o (by omega)]

theorem shiftFV_XT (a o : Nat) (ho : 2 ≤ o) (k : Nat) (x : Term) : shiftFV a o (XT k x) = XT k (shiftFV a o x) :=
  (shiftFV_XT_WT a k x o).1 ho
theorem applyAux_XT_WT (r : Term) (k : Nat) : ∀ (x : Term) (d : Nat),
    (3 ≤ d → applyAux r d (XT k x) = XT k (applyAux r d x)) ∧
    (1 ≤ d → applyAux r d (WT k x) = WT k (applyAux r d x)) := by
  induction k with
  | zero =>
    intro x d
    refine ⟨fun hd => ?_, fun _ => rfl⟩
    have h1 : ¬ (2 = d) := by omega
    have h2 : ¬ (2 > d) := by omega
    have h3 : ¬ (1 = d) := by omega
    have h4 : ¬ (1 > d) := by omega
    simp [XT_zero, applyAux, h1, h2, h3, h4]
  | succ k ih =>
    intro x d
    have hX : ∀ (x : Term) (d : Nat), 3 ≤ d → applyAux r d (XT (k + 1) x) = XT (k + 1) (applyAux r d x) := by
      intro x d hd
      have h1 : ¬ (2 = d) := by omega
      have h2 : ¬ (2 > d) := by omega
      simp [XT_succ, applyAux, h1, h2, (ih x d).1 hd, (ih x d).2 (by omega)]
    refine ⟨hX x d, fun hd => ?_⟩
    simp only [WT_succ, applyAux]
    rw [hX _ _ (by omega), shiftFV_applyAux_lt 2 0 d hd (by omega)]

theorem applyAux_XT (r : Term) (d : Nat) (hd : 3 ≤ d) (k : Nat) (x : Term) :
    applyAux r d (XT k x) = XT k (applyAux r d x) := (applyAux_XT_WT r k x d).1 hd

/-! ## APP: the operations are typable

The numeral `n + 1 = λs z. s n (n s z)` hands its step `s` the numeral `n` and the result for `n`; so `s` has one type for
every level, `θ k → ρ k → ρ (k+1)`, where `θ k` is a type of the numeral `k` and `ρ k` the type of the result for `k`. -/

def psteps (θ ρ : Nat → Ty) (n : Nat) : List Ty :=
  (List.range n).map fun k => Ty.arr [θ k] (.arr [ρ k] (ρ (k + 1)))

theorem mem_psteps {θ ρ : Nat → Ty} {k n : Nat} (h : k < n) : Ty.arr [θ k] (.arr [ρ k] (ρ (k + 1))) ∈ psteps θ ρ n :=
  List.mem_map.mpr ⟨k, List.mem_range.mpr h, rfl⟩

theorem of_mem_psteps {θ ρ : Nat → Ty} {σ : Ty} {n : Nat} (h : σ ∈ psteps θ ρ n) :
    ∃ k, k < n ∧ σ = Ty.arr [θ k] (.arr [ρ k] (ρ (k + 1))) :=
  let ⟨k, hk, e⟩ := List.mem_map.mp h
  ⟨k, List.mem_range.mp hk, e.symm⟩

theorem typed_intoParigot (Γ : List (List Ty)) (θ ρ : Nat → Ty) (S : List Ty) (n : Nat)
    (hS : ∀ k, k < n → Ty.arr [θ k] (.arr [ρ k] (ρ (k + 1))) ∈ S)
    (hθ : ∀ k, k < n → ∀ Γ', Typed Γ' (intoParigot k) (θ k)) :
    Typed Γ (intoParigot n) (.arr S (.arr [ρ 0] (ρ n))) := by
  have body : ∀ k, k ≤ n → Typed ([ρ 0] :: S :: Γ) (parigotBody k) (ρ k) := by
    intro k
    induction k with
    | zero => exact fun _ => Typed.var1 (i := 0) rfl
    | succ k ih =>
      intro hk
      rw [parigotBody_succ]
      exact Typed.app1 (Typed.app1 (Typed.var (i := 1) rfl (hS k (by omega))) (hθ k (by omega) _)) (ih (by omega))
  rw [intoParigot_eq]
  exact Typed.abs (Typed.abs (body n (Nat.le_refl n)))

/-- ONE type of the numeral `k` at which it is stored and run: its step takes the stored numerals at their types of this
kind -/
def cS : Nat → List Ty
  | 0 => []
  | k + 1 => Ty.arr [Ty.arr (cS k) (.arr [.o] .o)] (.arr [.o] .o) :: cS k

def canon (k : Nat) : Ty := .arr (cS k) (.arr [.o] .o)

theorem cS_succ (k : Nat) : cS (k + 1) = Ty.arr [canon k] (.arr [.o] .o) :: cS k := rfl

theorem mem_cS {j k : Nat} (h : j < k) : Ty.arr [canon j] (.arr [.o] .o) ∈ cS k := by
  induction k with
  | zero => omega
  | succ k ih =>
    rw [cS_succ]
    by_cases e : j = k
    · subst e; exact List.mem_cons_self
    · exact List.mem_cons_of_mem _ (ih (by omega))

theorem typed_canon (k : Nat) : ∀ Γ, Typed Γ (intoParigot k) (canon k) := by
  induction k using Nat.strongRecOn with
  | _ k ih =>
    exact fun Γ => typed_intoParigot Γ canon (fun _ => .o) (cS k) k (fun j hj => mem_cS hj) (fun j hj Γ' => ih j hj Γ')

/-- the type of the numeral `n` as recursor with the step types `θ k → ρ k → ρ (k+1)`, `θ k` a type of the numeral `k` -/
def PR (θ ρ : Nat → Ty) (n : Nat) : Ty := .arr (psteps θ ρ n) (.arr [ρ 0] (ρ n))

theorem typed_PR (Γ : List (List Ty)) {θ : Nat → Ty} (hθ : ∀ k Γ', Typed Γ' (intoParigot k) (θ k)) (ρ : Nat → Ty) (n : Nat) :
    Typed Γ (intoParigot n) (PR θ ρ n) :=
  typed_intoParigot Γ θ ρ _ n (fun _ hk => mem_psteps hk) (fun k _ => hθ k)

/-- `b s a` where `b` has a recursor type of the numeral `n` and `s` has the step types (and a type `d`, for `n = 0`) -/
theorem typed_precurse {Γ : List (List Ty)} {d : Ty} {θ ρ : Nat → Ty} {s a b : Term} {n : Nat}
    (hb : Typed Γ b (PR θ ρ n)) (hd : Typed Γ s d) (hs : ∀ k, k < n → Typed Γ s (.arr [θ k] (.arr [ρ k] (ρ (k + 1)))))
    (ha : Typed Γ a (ρ 0)) : Typed Γ (app2 b s a) (ρ n) :=
  Typed.app1 (Typed.app hb hd (fun _ hσ => by obtain ⟨k, hk, rfl⟩ := of_mem_psteps hσ; exact hs k hk)) ha

/-- the successor stores its argument and runs it, at the same type -/
theorem typed_psucc (Γ : List (List Ty)) (j : Nat) : Typed Γ Gen.Parigot.succ (.arr [canon j] (canon (j + 1))) :=
  Typed.abs (Typed.abs (Typed.abs (Typed.app1
    (Typed.app1 (Typed.var (i := 1) rfl (.head _)) (Typed.var1 (i := 2) rfl))
    (Typed.app1 (Typed.app (Typed.var1 (i := 2) rfl) (Typed.var (i := 1) rfl (.head _))
      (fun _ hσ => Typed.var (i := 1) rfl (.tail _ hσ))) (Typed.var1 (i := 0) rfl)))))

/-- `add = λa b. a (λp. SUCC) b`: the first numeral runs the successor on the second, which is the numeral `j` -/
theorem typed_padd (Γ : List (List Ty)) (j m : Nat) :
    Typed Γ Gen.Parigot.add (.arr [PR canon (fun k => canon (j + k)) m] (.arr [canon j] (canon (j + m)))) :=
  Typed.abs (Typed.abs (typed_precurse (θ := canon) (ρ := fun k => canon (j + k)) (n := m) (Typed.var1 (i := 1) rfl)
    (Typed.abs (σs := [canon 0]) (typed_psucc _ j)) (fun k _ => Typed.abs (typed_psucc _ (j + k)))
    (Typed.var1 (i := 0) rfl)))

/-- the numeral `j` at a type at which the predecessor can be taken `d` times: its step hands the stored numerals on at
the types of this kind for `d - 1` -/
def D : Nat → Nat → Ty
  | 0, j => canon j
  | d + 1, j => PR (D d) (fun i => D d (i - 1)) j

theorem typed_D (d : Nat) : ∀ j Γ, Typed Γ (intoParigot j) (D d j) := by
  induction d with
  | zero => exact typed_canon
  | succ d ih => exact fun j Γ => typed_PR Γ ih _ j

/-- `pred = λa. a (λp r. p) ZERO` -/
theorem typed_ppred (Γ : List (List Ty)) (d j : Nat) : Typed Γ Gen.Parigot.pred (.arr [D (d + 1) j] (D d (j - 1))) :=
  Typed.abs (typed_precurse (θ := D d) (ρ := fun i => D d (i - 1)) (n := j) (Typed.var1 (i := 0) rfl)
    (d := .arr [.o] (.arr [.o] .o)) (Typed.abs (Typed.abs (Typed.var1 (i := 1) rfl)))
    (fun _ _ => Typed.abs (Typed.abs (Typed.var1 (i := 1) rfl))) (typed_D d 0 _))

/-- a type of the Scott numeral `k` -/
def scT : Nat → Ty
  | 0 => .arr [.o] (.arr [.o] .o)
  | k + 1 => .arr [.o] (.arr [.arr [scT k] .o] .o)

theorem typed_ssucc (Γ : List (List Ty)) (k : Nat) : Typed Γ Gen.Scott.succ (.arr [scT k] (scT (k + 1))) :=
  Typed.abs (Typed.abs (Typed.abs (Typed.app1 (Typed.var1 (i := 0) rfl) (Typed.var1 (i := 2) rfl))))

/-- `to_parigot = λa. a SUCC ZERO` -/
theorem typed_to_parigot (Γ : List (List Ty)) (n : Nat) :
    Typed Γ Gen.Church.to_parigot (.arr [Ty.Iter canon n] (canon n)) :=
  Typed.abs (typed_iter_app (Typed.var1 (i := 0) rfl) (typed_psucc _ 0) (fun k _ => typed_psucc _ k) (typed_canon 0 _))

theorem typed_to_scott (Γ : List (List Ty)) (n : Nat) : Typed Γ Gen.Church.to_scott (.arr [Ty.Iter scT n] (scT n)) :=
  Typed.abs (typed_iter_app (Typed.var1 (i := 0) rfl) (typed_ssucc _ 0) (fun k _ => typed_ssucc _ k)
    (Typed.abs (Typed.abs (Typed.var1 (i := 1) rfl))))

end EagerSP

theorem parigot_succ_app (n : Nat) : Ev .APP (app Gen.Parigot.succ (intoParigot n)) (intoParigot (n + 1)) :=
  (parigot_succ_hap n).app_of_typed (Typed.app1 (typed_psucc [] n) (typed_canon n _))

theorem parigot_pred_app (n : Nat) : Ev .APP (app Gen.Parigot.pred (intoParigot n)) (intoParigot (n - 1)) :=
  (parigot_pred_hap n).app_of_typed (Typed.app1 (typed_ppred [] 0 n) (typed_D 1 n _))

theorem parigot_is_zero_app (n : Nat) : Ev .APP (app Gen.Parigot.is_zero (intoParigot n)) (fromBool (n == 0)) := by
  -- `is_zero = λa. a (λp r. FALSE) TRUE`
  have h : Typed [] Gen.Parigot.is_zero (.arr [PR canon (fun _ => Ty.B .o) n] (Ty.B .o)) :=
    Typed.abs (typed_precurse (θ := canon) (ρ := fun _ => Ty.B .o) (n := n) (Typed.var1 (i := 0) rfl)
      (d := .arr [.o] (.arr [.o] (Ty.B .o))) (Typed.abs (Typed.abs (typed_fromBool _ .o false)))
      (fun _ _ => Typed.abs (Typed.abs (typed_fromBool _ .o false))) (typed_fromBool _ .o true))
  exact (parigot_is_zero_hap n).app_of_typed (Typed.app1 h (typed_PR [] typed_canon _ n))

theorem parigot_add_app (m n : Nat) :
    Ev .APP (app2 Gen.Parigot.add (intoParigot m) (intoParigot n)) (intoParigot (m + n)) :=
  (parigot_add_hap m n).app_of_typed
    (Typed.app1 (Typed.app1 (typed_padd [] n m) (typed_PR [] typed_canon _ m)) (typed_canon n _))

theorem parigot_sub_app (m n : Nat) :
    Ev .APP (app2 Gen.Parigot.sub (intoParigot m) (intoParigot n)) (intoParigot (m - n)) := by
  -- `sub = λa b. b (λp. PRED) a`: at turn `k` the numeral `m - k` still has `n - k` predecessors to give
  have hsub : Typed [] Gen.Parigot.sub
      (.arr [D n m] (.arr [PR canon (fun k => D (n - k) (m - k)) n] (D (n - n) (m - n)))) :=
    Typed.abs (Typed.abs (typed_precurse (θ := canon) (ρ := fun k => D (n - k) (m - k)) (n := n)
      (Typed.var1 (i := 0) rfl) (Typed.abs (σs := [canon 0]) (typed_ppred _ 0 0))
      (fun k hk => Typed.abs (by
        show Typed _ _ (.arr [D (n - k) (m - k)] (D (n - (k + 1)) (m - (k + 1))))
        rw [show n - k = (n - (k + 1)) + 1 by omega, show m - (k + 1) = m - k - 1 by omega]
        exact typed_ppred _ _ _))
      (Typed.var1 (i := 1) rfl)))
  exact (parigot_sub_hap m n).app_of_typed (Typed.app1 (Typed.app1 hsub (typed_D _ m _)) (typed_PR [] typed_canon _ n))

theorem parigot_mul_app (m n : Nat) :
    Ev .APP (app2 Gen.Parigot.mul (intoParigot m) (intoParigot n)) (intoParigot (m * n)) := by
  -- `mul = λa b. a (λp. ADD b) ZERO`: at turn `k` the numeral `b` runs the successor on the numeral `k * n`
  let R : Nat → Ty := fun k => PR canon (fun i => canon (k * n + i)) n
  let A : Ty := PR canon (fun k => canon (k * n)) m
  have hstep : ∀ k, k ≤ m → Typed [(List.range (m + 1)).map R, [A]] (abs (app Gen.Parigot.add (var 2)))
      (.arr [canon k] (.arr [canon (k * n)] (canon ((k + 1) * n)))) := fun k hk => by
    rw [Nat.succ_mul]
    exact Typed.abs (Typed.app1 (typed_padd _ (k * n) n)
      (Typed.var (i := 1) rfl (List.mem_map.mpr ⟨k, List.mem_range.mpr (Nat.lt_succ_of_le hk), rfl⟩)))
  have hmul : Typed [] Gen.Parigot.mul (.arr [A] (.arr ((List.range (m + 1)).map R) (canon (m * n)))) :=
    Typed.abs (Typed.abs (typed_precurse (θ := canon) (ρ := fun k => canon (k * n)) (n := m)
      (Typed.var1 (i := 1) rfl) (hstep 0 (Nat.zero_le m)) (fun k hk => hstep k (by omega))
      (by rw [Nat.zero_mul]; exact typed_canon 0 _)))
  refine (parigot_mul_hap m n).app_of_typed (Typed.app (Typed.app1 hmul (typed_PR [] typed_canon _ m))
    (typed_canon n _) (fun σ hσ => ?_))
  obtain ⟨k, _, rfl⟩ := List.mem_map.mp hσ
  exact typed_PR [] typed_canon _ n

theorem church_to_parigot_app (n : Nat) : Ev .APP (app Gen.Church.to_parigot (intoChurch n)) (intoParigot n) :=
  (church_to_parigot_hap n).app_of_typed (Typed.app1 (typed_to_parigot [] n) (typed_Iter [] _ n))

theorem church_to_scott_app (n : Nat) : Ev .APP (app Gen.Church.to_scott (intoChurch n)) (intoScott n) :=
  (church_to_scott_hap n).app_of_typed (Typed.app1 (typed_to_scott [] n) (typed_Iter [] _ n))

/-! ## negative result: the `Z`-recursive Scott operations diverge under HAP

`Scott.add = Z (λf m n. m n (λo. SUCC (f o n)))`: HAP normalises the OPERAND `λo. SUCC (f o n)` — under its binder — before the
numeral `m` can select a branch; the recursive call `f o n` (through the stub `λv. ZF F v`) unfolds to
`o n (λo'. SUCC (f o' n))`, whose operand is the SAME term again: a visible loop, for every argument.  (The Rust docs say:
"will overflow the stack if used with an applicative-family (APP or HAP) reduction order".) -/

namespace EagerSP

/-- A family of operands `L j = λo. G j (T j (Y j))` in which the recursive call `T j (Y j)` contracts to a term that has
`L (j + 1)` as operand has no derivation: a derivation for `L j` would contain one for `G j (T j (Y j))`, for `T j (Y j)`,
for its contractum and so for `L (j + 1)`.  By induction on the derivation, for these four shapes at once. -/
theorem loop_family_diverges {G T Y y : Nat → Term} (hY : ∀ j, Ev .HAP (Y j) (y j))
    (hT : ∀ j, ∃ b C, Ev .CBV (T j) (abs b) ∧
      contract b (y j) = app C (abs (app (G (j + 1)) (app (T (j + 1)) (Y (j + 1)))))) :
    ∀ j r, ¬ Ev .HAP (abs (app (G j) (app (T j) (Y j)))) r := by
  have key : ∀ {o : Order} {t r : Term}, Ev o t r → o = .HAP → ∀ j,
      (t = abs (app (G j) (app (T j) (Y j))) ∨ t = app (G j) (app (T j) (Y j)) ∨ t = app (T j) (Y j) ∨
        ∃ C, t = app C (abs (app (G (j + 1)) (app (T (j + 1)) (Y (j + 1)))))) → False := by
    intro o t r h
    induction h with
    | var o i => intro _ j ht; rcases ht with h | h | h | ⟨_, h⟩ <;> cases h
    | stop hu => intro ho; subst ho; cases hu
    | abs hu hb ih =>
      intro ho j ht
      rcases ht with h | h | h | ⟨_, h⟩ <;> cases h
      exact ih ho j (.inr (.inl rfl))
    | red hl hr hv ihl ihr ihv =>
      intro ho j ht
      subst ho
      rcases ht with h | h | h | ⟨_, h⟩ <;> cases h
      · exact ihr rfl j (.inr (.inr (.inl rfl)))
      · obtain ⟨b, C, hb, eb⟩ := hT j
        cases hl.det hb
        cases hr.det (hY j)
        exact ihv rfl j (.inr (.inr (.inr ⟨C, eb⟩)))
      · exact ihr rfl (j + 1) (.inl rfl)
    | neu hd => intro ho; subst ho; cases hd
    | deep hd hl hna hr hl' ihl ihr ihl' =>
      intro ho j ht
      subst ho
      rcases ht with h | h | h | ⟨_, h⟩ <;> cases h
      · exact ihr rfl j (.inr (.inr (.inl rfl)))
      · obtain ⟨b, C, hb, eb⟩ := hT j
        cases hl.det hb
        cases hna
      · exact ihr rfl (j + 1) (.inl rfl)
  exact fun j r h => key h rfl j (.inl rfl)

theorem loop_diverges {G T Y y b C : Term} (hT : Ev .CBV T (abs b)) (hY : Ev .HAP Y y)
    (e : contract b y = app C (abs (app G (app T Y)))) : ∀ r, ¬ Ev .HAP (abs (app G (app T Y))) r :=
  loop_family_diverges (G := fun _ => G) (T := fun _ => T) (Y := fun _ => Y) (y := fun _ => y) (fun _ => hY)
    (fun _ => ⟨b, C, hT, e⟩) 0

/-- the operand that HAP tries to normalise first: `λo. SUCC (f o n)` with `f` the recursive-call stub -/
def addLoop (n : Nat) : Term := abs (app Gen.Scott.succ (app2 (stub scottAddF) (var 1) (intoScott n)))

theorem addLoop_step (n : Nat) : ∃ b, Ev .CBV (app (stub scottAddF) (var 1)) (abs b) ∧
    contract b (intoScott n) = app2 (var 1) (intoScott n) (addLoop n) :=
  ⟨app2 (var 2) (var 1) (abs (app Gen.Scott.succ (app2 (stub scottAddF) (var 1) (var 2)))),
    evR1 .CBV 101 .nil .nil 30 (.app .c (.fv (by decide)))
      (.abs (.app (.app (.fv (by decide)) (.fv (by decide)))
        (.abs (.app .c (.app (.app .c (.fv (by decide))) (.fv (by decide)))))))
      (by decide +kernel),
    by simp [lc_simp, addLoop]⟩

theorem addLoop_diverges (n : Nat) : ∀ r, ¬ Ev .HAP (addLoop n) r := by
  obtain ⟨b, hb, eb⟩ := addLoop_step n
  exact loop_diverges hb (Ev.of_isNormal (isNormal_intoScott n)) eb

theorem scott_add_step (m n : Nat) : ∃ b, Ev .CBV (app Gen.Scott.add (intoScott m)) (abs b) ∧
    contract b (intoScott n) = app2 (intoScott m) (intoScott n) (addLoop n) :=
  ⟨app2 (intoScott m) (var 1) (abs (app Gen.Scott.succ (app2 (stub scottAddF) (var 1) (var 2)))),
    evR1 .CBV 101 (.scott m .nil) .nil 30 (.app .c .ph0)
      (.abs (.app (.app .ph0 (.fv (by decide)))
        (.abs (.app .c (.app (.app .c (.fv (by decide))) (.fv (by decide)))))))
      (by decide +kernel),
    by simp [lc_simp, addLoop]⟩

end EagerSP

theorem scott_add_diverges_hap (m n fuel : Nat) :
    reduce .HAP 0 fuel (app2 Gen.Scott.add (intoScott m) (intoScott n)) = none := by
  refine Ev.reduce_none (fun r h0 => ?_) fuel
  obtain ⟨b, hb, eb⟩ := scott_add_step m n
  have h1 := h0.app_red_inv hb (Ev.of_isNormal (isNormal_intoScott n))
  rw [eb] at h1
  obtain ⟨r2, h2⟩ := h1.app_arg_inv
  exact addLoop_diverges n r2 h2

namespace EagerSP

/-- `λo. ADD n (f o n)` with `f` the recursive-call stub of `mul` -/
def mulLoop (n : Nat) : Term :=
  abs (app2 Gen.Scott.add (intoScott n) (app2 (stub ScottParigot.scottMulF) (var 1) (intoScott n)))

theorem mulLoop_step (n : Nat) : ∃ b, Ev .CBV (app (stub ScottParigot.scottMulF) (var 1)) (abs b) ∧
    contract b (intoScott n) = app2 (var 1) (intoScott 0) (mulLoop n) :=
  ⟨app2 (var 2) (intoScott 0)
      (abs (app2 Gen.Scott.add (var 2) (app2 (stub ScottParigot.scottMulF) (var 1) (var 2)))),
    evR1 .CBV 101 .nil .nil 30 (.app .c (.fv (by decide)))
      (.abs (.app (.app (.fv (by decide)) .c)
        (.abs (.app (.app .c (.fv (by decide))) (.app (.app .c (.fv (by decide))) (.fv (by decide)))))))
      (by decide +kernel),
    by simp [lc_simp, mulLoop]⟩

theorem mulLoop_diverges (n : Nat) : ∀ r, ¬ Ev .HAP (mulLoop n) r := by
  obtain ⟨b, hb, eb⟩ := mulLoop_step n
  exact loop_diverges hb (Ev.of_isNormal (isNormal_intoScott n)) eb

theorem scott_mul_step (m n : Nat) : ∃ b, Ev .CBV (app Gen.Scott.mul (intoScott m)) (abs b) ∧
    contract b (intoScott n) = app2 (intoScott m) (intoScott 0) (mulLoop n) :=
  ⟨app2 (intoScott m) (intoScott 0)
      (abs (app2 Gen.Scott.add (var 2) (app2 (stub ScottParigot.scottMulF) (var 1) (var 2)))),
    evR1 .CBV 101 (.scott m .nil) .nil 30 (.app .c .ph0)
      (.abs (.app (.app .ph0 .c)
        (.abs (.app (.app .c (.fv (by decide))) (.app (.app .c (.fv (by decide))) (.fv (by decide)))))))
      (by decide +kernel),
    by simp [lc_simp, mulLoop]⟩

/-- `λo. MUL m (f m o)` with `f` the recursive-call stub of `pow` -/
def powLoop (m : Nat) : Term :=
  abs (app2 Gen.Scott.mul (intoScott m) (app2 (stub ScottParigot.scottPowF) (intoScott m) (var 1)))

theorem powLoop_step (m : Nat) : ∃ b, Ev .CBV (app (stub ScottParigot.scottPowF) (intoScott m)) (abs b) ∧
    contract b (var 1) = app2 (var 1) (intoScott 1) (powLoop m) :=
  ⟨app2 (var 1) (intoScott 1)
      (abs (app2 Gen.Scott.mul (intoScott m) (app2 (stub ScottParigot.scottPowF) (intoScott m) (var 1)))),
    evR1 .CBV 101 (.scott m .nil) .nil 30 (.app .c .ph0)
      (.abs (.app (.app (.fv (by decide)) .c)
        (.abs (.app (.app .c .ph0) (.app (.app .c .ph0) (.fv (by decide)))))))
      (by decide +kernel),
    by simp [lc_simp, powLoop]⟩

theorem powLoop_diverges (m : Nat) : ∀ r, ¬ Ev .HAP (powLoop m) r := by
  obtain ⟨b, hb, eb⟩ := powLoop_step m
  exact loop_diverges hb (Ev.var _ 1) eb

theorem scott_pow_step (m n : Nat) : ∃ b, Ev .CBV (app Gen.Scott.pow (intoScott m)) (abs b) ∧
    contract b (intoScott n) = app2 (intoScott n) (intoScott 1) (powLoop m) :=
  ⟨app2 (var 1) (intoScott 1)
      (abs (app2 Gen.Scott.mul (intoScott m) (app2 (stub ScottParigot.scottPowF) (intoScott m) (var 1)))),
    evR1 .CBV 101 (.scott m .nil) .nil 30 (.app .c .ph0)
      (.abs (.app (.app (.fv (by decide)) .c)
        (.abs (.app (.app .c .ph0) (.app (.app .c .ph0) (.fv (by decide)))))))
      (by decide +kernel),
    by simp [lc_simp, powLoop]⟩

end EagerSP

theorem scott_mul_diverges_hap (m n fuel : Nat) :
    reduce .HAP 0 fuel (app2 Gen.Scott.mul (intoScott m) (intoScott n)) = none := by
  refine Ev.reduce_none (fun r h0 => ?_) fuel
  obtain ⟨b, hb, eb⟩ := scott_mul_step m n
  have h1 := h0.app_red_inv hb (Ev.of_isNormal (isNormal_intoScott n))
  rw [eb] at h1
  obtain ⟨r2, h2⟩ := h1.app_arg_inv
  exact mulLoop_diverges n r2 h2

theorem scott_pow_diverges_hap (m n fuel : Nat) :
    reduce .HAP 0 fuel (app2 Gen.Scott.pow (intoScott m) (intoScott n)) = none := by
  refine Ev.reduce_none (fun r h0 => ?_) fuel
  obtain ⟨b, hb, eb⟩ := scott_pow_step m n
  have h1 := h0.app_red_inv hb (Ev.of_isNormal (isNormal_intoScott n))
  rw [eb] at h1
  obtain ⟨r2, h2⟩ := h1.app_arg_inv
  exact powLoop_diverges m r2 h2

/-! `to_church = λa b c. Z F b c a` with `F = λd e f g. g f (λh. e (d e f h))`: the same loop, one binder deeper at every turn -/

namespace EagerSP

/-- `λh. e (stub e f h)` where the variables `e`, `f` have the indices `i + 1`, `i` outside the abstraction -/
def tcLoop (i : Nat) : Term :=
  abs (app (var (i + 2)) (app3 (stub ScottParigot.scottToChurchF) (var (i + 2)) (var (i + 1)) (var 1)))

theorem tcLoop_step_vars : Ev .CBV (app2 (stub ScottParigot.scottToChurchF) (var 2) (var 1))
    (abs (app2 (var 1) (var 2) (abs (app (var 4) (app3 (stub ScottParigot.scottToChurchF) (var 4) (var 3) (var 1)))))) :=
  evR1 .CBV 101 .nil .nil 30 (.app₂ .c (.fv (by decide)) (.fv (by decide)))
    (.abs (.app₂ (.fv (by decide)) (.fv (by decide))
      (.abs (.app (.fv (by decide)) (.app₃ .c (.fv (by decide)) (.fv (by decide)) (.fv (by decide)))))))
    (by decide +kernel)

theorem tcLoop_step (i : Nat) (hi : 1 ≤ i) :
    ∃ b, Ev .CBV (app2 (stub ScottParigot.scottToChurchF) (var (i + 1)) (var i)) (abs b) ∧
      contract b (var 1) = app2 (var 1) (var i) (tcLoop i) := by
  obtain ⟨k, rfl⟩ : ∃ k, i = k + 1 := ⟨i - 1, by omega⟩
  have cF : Closed (stub ScottParigot.scottToChurchF) := by decide
  have h := tcLoop_step_vars.shift k 0
  simp [shiftFV, lc_simp, cF] at h
  rw [show k + 1 + 1 = 2 + k by omega, show k + 1 = 1 + k by omega]
  refine ⟨_, h, ?_⟩
  simp +arith [lc_simp, tcLoop, cF]

theorem tcLoop_diverges : ∀ j r, ¬ Ev .HAP (tcLoop j) r :=
  loop_family_diverges (G := fun j => var (j + 2))
    (T := fun j => app2 (stub ScottParigot.scottToChurchF) (var (j + 2)) (var (j + 1))) (Y := fun _ => var 1)
    (y := fun _ => var 1) (fun _ => .var _ 1) (fun j => by
      obtain ⟨b, hb, eb⟩ := tcLoop_step (j + 1) (by omega)
      exact ⟨b, _, hb, eb⟩)

theorem scott_to_church_step1 (n : Nat) : ∃ b, Ev .CBV Gen.Scott.to_church (abs b) ∧
    contract b (intoScott n) =
      abs (abs (app3 (app Gen.Comb.Z ScottParigot.scottToChurchF) (var 2) (var 1) (intoScott n))) := by
  apply Exists.intro
  apply And.intro
  · exact Ev.stop rfl _
  · simp [lc_simp, ScottParigot.scottToChurchF, ScottParigot.body3, appArg, appFn, Gen.Comb.Z, Gen.Scott.to_church]

theorem scott_to_church_step2 (n : Nat) :
    ∃ b, Ev .CBV (app2 (app Gen.Comb.Z ScottParigot.scottToChurchF) (var 2) (var 1)) (abs b) ∧
      contract b (intoScott n) = app2 (intoScott n) (var 1) (tcLoop 1) :=
  ⟨app2 (var 1) (var 2)
      (abs (app (var 4) (app3 (stub ScottParigot.scottToChurchF) (var 4) (var 3) (var 1)))),
    evR1 .CBV 101 .nil .nil 30 (.app (.app (.app .c .c) (.fv (by decide))) (.fv (by decide)))
      (.abs (.app (.app (.fv (by decide)) (.fv (by decide)))
        (.abs (.app (.fv (by decide))
          (.app (.app (.app .c (.fv (by decide))) (.fv (by decide))) (.fv (by decide)))))))
      (by decide +kernel),
    by simp [lc_simp, tcLoop]⟩

end EagerSP

theorem scott_to_church_diverges_hap (n fuel : Nat) :
    reduce .HAP 0 fuel (app Gen.Scott.to_church (intoScott n)) = none := by
  refine Ev.reduce_none (fun r h0 => ?_) fuel
  obtain ⟨b, hb, eb⟩ := scott_to_church_step1 n
  have h1 := h0.app_red_inv hb (Ev.of_isNormal (isNormal_intoScott n))
  rw [eb] at h1
  obtain ⟨_, h2⟩ := h1.abs_inv
  obtain ⟨_, h3⟩ := h2.abs_inv
  obtain ⟨b', hb', eb'⟩ := scott_to_church_step2 n
  have h4 := h3.app_red_inv hb' (Ev.of_isNormal (isNormal_intoScott n))
  rw [eb'] at h4
  obtain ⟨r5, h5⟩ := h4.app_arg_inv
  exact tcLoop_diverges 1 r5 h5

/-! ### … and under APP the fixed-point combinator `Z` itself has no terminating run

APP normalises operator and operand completely, also under binders, BEFORE contracting; `Z = λf. W W` with
`W = λx. f (λv. x x v)` has no normal form at all (`W W → f (λv. W W v)`), so APP loops on the constant `Z` alone and hence
on every term that contains `Z` anywhere (`ChurchAppB.reduce_app_none_of_Z`) — in particular on every application of the
`Z`-recursive Scott operations. -/

theorem Z_diverges_app (fuel : Nat) : reduce .APP 0 fuel Gen.Comb.Z = none :=
  ChurchAppB.reduce_app_none_of_Z (by decide) fuel

theorem scott_add_diverges_app (a b : Term) (fuel : Nat) :
    reduce .APP 0 fuel (app2 Gen.Scott.add a b) = none :=
  ChurchAppB.reduce_app_none_of_Z (ChurchAppB.hasSub_app2 (by decide) a b) fuel

theorem scott_mul_diverges_app (a b : Term) (fuel : Nat) :
    reduce .APP 0 fuel (app2 Gen.Scott.mul a b) = none :=
  ChurchAppB.reduce_app_none_of_Z (ChurchAppB.hasSub_app2 (by decide) a b) fuel

theorem scott_pow_diverges_app (a b : Term) (fuel : Nat) :
    reduce .APP 0 fuel (app2 Gen.Scott.pow a b) = none :=
  ChurchAppB.reduce_app_none_of_Z (ChurchAppB.hasSub_app2 (by decide) a b) fuel

theorem scott_to_church_diverges_app (a : Term) (fuel : Nat) :
    reduce .APP 0 fuel (app Gen.Scott.to_church a) = none :=
  ChurchAppB.reduce_app_none_of_Z
    (by simp [ChurchAppB.hasSub, show ChurchAppB.hasSub Gen.Comb.Z Gen.Scott.to_church = true by decide]) fuel

theorem scott_succ_reduce_hap (n : Nat) :
    ∃ fuel c, reduce .HAP 0 fuel (app Gen.Scott.succ (intoScott n)) = some (intoScott (n + 1), c) :=
  (scott_succ_hap n).reduce
theorem scott_succ_reduce_app (n : Nat) :
    ∃ fuel c, reduce .APP 0 fuel (app Gen.Scott.succ (intoScott n)) = some (intoScott (n + 1), c) :=
  (scott_succ_app n).reduce
theorem scott_pred_reduce_hap (n : Nat) :
    ∃ fuel c, reduce .HAP 0 fuel (app Gen.Scott.pred (intoScott n)) = some (intoScott (n - 1), c) :=
  (scott_pred_hap n).reduce
theorem scott_pred_reduce_app (n : Nat) :
    ∃ fuel c, reduce .APP 0 fuel (app Gen.Scott.pred (intoScott n)) = some (intoScott (n - 1), c) :=
  (scott_pred_app n).reduce
theorem scott_is_zero_reduce_hap (n : Nat) :
    ∃ fuel c, reduce .HAP 0 fuel (app Gen.Scott.is_zero (intoScott n)) = some (fromBool (n == 0), c) :=
  (scott_is_zero_hap n).reduce
theorem scott_is_zero_reduce_app (n : Nat) :
    ∃ fuel c, reduce .APP 0 fuel (app Gen.Scott.is_zero (intoScott n)) = some (fromBool (n == 0), c) :=
  (scott_is_zero_app n).reduce
theorem parigot_succ_reduce_hap (n : Nat) :
    ∃ fuel c, reduce .HAP 0 fuel (app Gen.Parigot.succ (intoParigot n)) = some (intoParigot (n + 1), c) :=
  (parigot_succ_hap n).reduce
theorem parigot_succ_reduce_app (n : Nat) :
    ∃ fuel c, reduce .APP 0 fuel (app Gen.Parigot.succ (intoParigot n)) = some (intoParigot (n + 1), c) :=
  (parigot_succ_app n).reduce
theorem parigot_pred_reduce_hap (n : Nat) :
    ∃ fuel c, reduce .HAP 0 fuel (app Gen.Parigot.pred (intoParigot n)) = some (intoParigot (n - 1), c) :=
  (parigot_pred_hap n).reduce
theorem parigot_pred_reduce_app (n : Nat) :
    ∃ fuel c, reduce .APP 0 fuel (app Gen.Parigot.pred (intoParigot n)) = some (intoParigot (n - 1), c) :=
  (parigot_pred_app n).reduce
theorem parigot_is_zero_reduce_hap (n : Nat) :
    ∃ fuel c, reduce .HAP 0 fuel (app Gen.Parigot.is_zero (intoParigot n)) = some (fromBool (n == 0), c) :=
  (parigot_is_zero_hap n).reduce
theorem parigot_is_zero_reduce_app (n : Nat) :
    ∃ fuel c, reduce .APP 0 fuel (app Gen.Parigot.is_zero (intoParigot n)) = some (fromBool (n == 0), c) :=
  (parigot_is_zero_app n).reduce
theorem parigot_add_reduce_hap (m n : Nat) :
    ∃ fuel c, reduce .HAP 0 fuel (app2 Gen.Parigot.add (intoParigot m) (intoParigot n)) = some (intoParigot (m + n), c) :=
  (parigot_add_hap m n).reduce
theorem parigot_add_reduce_app (m n : Nat) :
    ∃ fuel c, reduce .APP 0 fuel (app2 Gen.Parigot.add (intoParigot m) (intoParigot n)) = some (intoParigot (m + n), c) :=
  (parigot_add_app m n).reduce
theorem parigot_sub_reduce_hap (m n : Nat) :
    ∃ fuel c, reduce .HAP 0 fuel (app2 Gen.Parigot.sub (intoParigot m) (intoParigot n)) = some (intoParigot (m - n), c) :=
  (parigot_sub_hap m n).reduce
theorem parigot_sub_reduce_app (m n : Nat) :
    ∃ fuel c, reduce .APP 0 fuel (app2 Gen.Parigot.sub (intoParigot m) (intoParigot n)) = some (intoParigot (m - n), c) :=
  (parigot_sub_app m n).reduce
theorem parigot_mul_reduce_hap (m n : Nat) :
    ∃ fuel c, reduce .HAP 0 fuel (app2 Gen.Parigot.mul (intoParigot m) (intoParigot n)) = some (intoParigot (m * n), c) :=
  (parigot_mul_hap m n).reduce
theorem parigot_mul_reduce_app (m n : Nat) :
    ∃ fuel c, reduce .APP 0 fuel (app2 Gen.Parigot.mul (intoParigot m) (intoParigot n)) = some (intoParigot (m * n), c) :=
  (parigot_mul_app m n).reduce
theorem church_to_scott_reduce_hap (n : Nat) :
    ∃ fuel c, reduce .HAP 0 fuel (app Gen.Church.to_scott (intoChurch n)) = some (intoScott n, c) :=
  (church_to_scott_hap n).reduce
theorem church_to_scott_reduce_app (n : Nat) :
    ∃ fuel c, reduce .APP 0 fuel (app Gen.Church.to_scott (intoChurch n)) = some (intoScott n, c) :=
  (church_to_scott_app n).reduce
theorem church_to_parigot_reduce_hap (n : Nat) :
    ∃ fuel c, reduce .HAP 0 fuel (app Gen.Church.to_parigot (intoChurch n)) = some (intoParigot n, c) :=
  (church_to_parigot_hap n).reduce
theorem church_to_parigot_reduce_app (n : Nat) :
    ∃ fuel c, reduce .APP 0 fuel (app Gen.Church.to_parigot (intoChurch n)) = some (intoParigot n, c) :=
  (church_to_parigot_app n).reduce

end LC
