/-
Church numerals under the EAGER orders HAP (hybrid applicative) and APP (applicative): a theorem of termination with the
result, for all arguments, for `succ add is_zero mul pred` under both orders and for `sub leq` under HAP (under APP they
are in `ChurchAppA.lean`).

Under HAP the results are big-step derivations (`Eager/BigStep.lean`).  A finite stretch between closed values is a run of
the evaluators of `Eager/Reflect.lean`; a stretch of symbolic length is an iteration lemma (`ev_iterApp`,
`ev_church_elim`) or a β-step between normal forms (`ev_beta_nf`).  Under APP the operations are typable terms, so their
HAP values are their APP values (`Eager/Typed.lean`).
-/
import LC.Proofs.Eager.Reflect
import LC.Proofs.Eager.Typed
import LC.Proofs.Num.Toolkit

namespace LC
open Term Spec Enc

namespace Eager

theorem isNormal_iterApp_var' (i : Nat) (x : Term) (n : Nat) :
    isNormal (iterApp (var i) x n) = isNormal x := by
  induction n with
  | zero => rfl
  | succ n ih => simp [iterApp, isNormal, isAbs, ih]

theorem isWNF_iterApp_var' (i : Nat) (x : Term) (n : Nat) :
    isWNF (iterApp (var i) x n) = isWNF x := by
  induction n with
  | zero => rfl
  | succ n ih => simp [iterApp, isWNF, isAbs, ih]

theorem isWNF_iterApp (f x : Term) (n : Nat) :
    isWNF (iterApp f x n) = (isWNF x && (n == 0 || (!isAbs f && isWNF f))) := by
  induction n with
  | zero => simp [iterApp]
  | succ n ih => simp [iterApp, isWNF, ih]; grind

@[simp] theorem isWNF_intoChurch (n : Nat) : isWNF (intoChurch n) = true := rfl
@[simp] theorem isAbs_intoChurch (n : Nat) : isAbs (intoChurch n) = true := rfl

@[simp] theorem isNormal_fromBool (b : Bool) : isNormal (fromBool b) = true := by cases b <;> rfl
@[simp] theorem isWNF_fromBool (b : Bool) : isWNF (fromBool b) = true := by cases b <;> rfl

variable {o : Order}

theorem ev_iterApp_var (i : Nat) {x x' : Term} (h : Ev o x x') (n : Nat) :
    Ev o (iterApp (var i) x n) (iterApp (var i) x' n) := by
  induction n with
  | zero => exact h
  | succ n ih =>
    cases hd : o.deep with
    | false => exact .neu hd (.var _ i) rfl ih
    | true => exact .deep hd (.var _ i) rfl ih (.var _ i)

theorem hap_iterApp_var (i : Nat) {x x' : Term} (h : EvalHap x x') (n : Nat) :
    EvalHap (iterApp (var i) x n) (iterApp (var i) x' n) :=
  (ev_iterApp_var i (Ev.of_hap h) n).toHap

/-- iteration under an eager order: the operand is evaluated first, so a family of results suffices -/
theorem ev_iterApp {f x : Term} (w : Nat → Term) (h0 : Ev o x (w 0)) (hs : ∀ k, Ev o (app f (w k)) (w (k + 1)))
    (n : Nat) (he : o.eager = true := by rfl) : Ev o (iterApp f x n) (w n) := by
  induction n with
  | zero => exact h0
  | succ n ih => exact Ev.app_arg ih (hs n) he

/-- the same with the operator evaluated -/
theorem ev_iterApp' {f g x : Term} (hf : Ev o.head f g) (w : Nat → Term) (h0 : Ev o x (w 0))
    (hs : ∀ k, Ev o (app g (w k)) (w (k + 1))) (n : Nat) (he : o.eager = true := by rfl) :
    Ev o (iterApp f x n) (w n) := by
  induction n with
  | zero => exact h0
  | succ n ih => exact Ev.app_congr hf ih (hs n) he

theorem hap_iterApp' {f g x : Term} (hf : EvalCbv f g) (w : Nat → Term) (h0 : EvalHap x (w 0))
    (hs : ∀ k, EvalHap (app g (w k)) (w (k + 1))) (n : Nat) : EvalHap (iterApp f x n) (w n) :=
  (ev_iterApp' (o := .HAP) (.of_cbv hf) w (.of_hap h0) (fun k => .of_hap (hs k)) n).toHap

theorem cbv_iterApp' {f g x : Term} (hf : EvalCbv f g) (w : Nat → Term) (h0 : EvalCbv x (w 0))
    (hs : ∀ k, EvalCbv (app g (w k)) (w (k + 1))) (n : Nat) : EvalCbv (iterApp f x n) (w n) :=
  (ev_iterApp' (o := .CBV) (.of_cbv hf) w (.of_cbv h0) (fun k => .of_cbv (hs k)) n).toCbv

theorem Vals.church (m : Nat) {nv : Nat} {xs : List Term} (h : Vals nv xs) : Vals (nv + 1) (intoChurch m :: xs) :=
  .normal (closed_intoChurch m) (normal_intoChurch m) h

theorem Vals.bool (b : Bool) {nv : Nat} {xs : List Term} (h : Vals nv xs) : Vals (nv + 1) (fromBool b :: xs) :=
  .normal (closedAt_fromBool 0 b) (isNormal_fromBool b) h

theorem Inst.tuple2 {P : Nat} {xs : List Term} {a a' b b' : Term} (ha : Inst (P + 1) xs a a')
    (hb : Inst (P + 1) xs b b') (hP : 0 < P := by decide) :
    Inst P xs (Term.abs (app2 (var 1) a b)) (tuple2 a' b') :=
  Inst.abs (Inst.app (Inst.app (Inst.fv (by omega)) ha) hb)

theorem contract_church_fn (n : Nat) (f : Term) :
    contract (abs (iterApp (var 2) (var 1) n)) f = abs (iterApp (shiftFV 1 0 f) (var 1) n) := by simp [lc_simp]

theorem contract_church_arg (n : Nat) (f x : Term) :
    contract (iterApp (shiftFV 1 0 f) (var 1) n) x = iterApp f x n := by simp [lc_simp]

/-- a numeral applied to a function and an argument iterates the function, under the orders that evaluate operators by
value (CBV, HAP): the abstraction that the first contraction leaves is not entered -/
theorem ev_church_elim (n : Nat) {f x r : Term} (wf : isWNF f = true) (nx : NF o x = true)
    (h : Ev o (iterApp f x n) r) (ho : o.head = .CBV := by rfl) (he : o.eager = true := by rfl) :
    Ev o (app2 (intoChurch n) f x) r := by
  have hl : Ev o.head (app (intoChurch n) f) (abs (iterApp (shiftFV 1 0 f) (var 1) n)) := by
    rw [ho, intoChurch_eq]
    exact Ev.red (Ev.stop rfl _) (Ev.of_nf wf) (by rw [contract_church_fn]; exact Ev.stop rfl _)
  exact Ev.red hl (Ev.of_nf nx he) (by rw [contract_church_arg]; exact h)

/-- a numeral applied to one argument, under the orders that enter abstractions (APP, HAP): the argument is evaluated
first and then iterated under the binder -/
theorem ev_church_app1 (n : Nat) {a a' r : Term} (ha : Ev o a a') (ca : Closed a')
    (h : Ev o (iterApp a' (var 1) n) r) (hu : o.under = true := by rfl) (he : o.eager = true := by rfl) :
    Ev o (app (intoChurch n) a) (abs r) := by
  have hn := normal_intoChurch n
  rw [intoChurch_eq] at hn ⊢
  exact Ev.red (Ev.of_isNormal hn (Ev.head_eager he)) ha (by rw [contract_church_fn, shiftFV_closed _ _ ca]; exact Ev.abs hu h)

/-- a β-step between normal forms is a derivation of every eager order -/
theorem ev_beta_nf {b v c : Term} (hb : isNormal b = true) (hv : isNormal v = true)
    (e : contract b v = c) (hc : isNormal c = true) (he : o.eager = true := by rfl) : Ev o (app (abs b) v) c :=
  e ▸ Ev.red (Ev.of_isNormal (t := abs b) hb (Ev.head_eager he)) (Ev.of_isNormal hv he) (Ev.of_isNormal (e ▸ hc) he)

/-- a numeral applied to the two variables of an enclosing numeral is the body of the numeral again: two β-steps between
normal forms -/
theorem ev_church_reopen (n : Nat) (he : o.eager = true := by rfl) :
    Ev o (app2 (intoChurch n) (var 2) (var 1)) (iterApp (var 2) (var 1) n) := by
  rw [intoChurch_eq]
  exact Ev.app_fn (g := abs (iterApp (var 3) (var 1) n))
    (ev_beta_nf (by simp [isNormal_iterApp_var', isNormal]) rfl (by simp [lc_simp])
      (by simp [isNormal_iterApp_var', isNormal]) (Ev.head_eager he))
    (ev_beta_nf (by simp [isNormal_iterApp_var', isNormal]) rfl (by simp [lc_simp])
      (by simp [isNormal_iterApp_var', isNormal]) he) he

theorem ev_num_var (m : Nat) (he : o.eager = true := by rfl) :
    Ev o (app (intoChurch m) (var 1)) (abs (iterApp (var 2) (var 1) m)) := by
  rw [intoChurch_eq]
  exact ev_beta_nf (by simp [isNormal_iterApp_var', isNormal]) rfl (by simp [lc_simp])
    (by simp [isNormal_iterApp_var', isNormal]) he

theorem ev_num_pw (m p : Nat) (hu : o.under = true := by rfl) (he : o.eager = true := by rfl) :
    Ev o (app (intoChurch m) (abs (iterApp (var 2) (var 1) p))) (abs (iterApp (var 2) (var 1) (p * m))) := by
  have hn := normal_intoChurch m
  rw [intoChurch_eq] at hn ⊢
  refine Ev.red (Ev.of_isNormal hn (Ev.head_eager he))
    (Ev.of_isNormal (by simp [isNormal_iterApp_var', isNormal]) he) ?_
  rw [contract_church_fn,
    show shiftFV 1 0 (abs (iterApp (var 2) (var 1) p)) = abs (iterApp (var 3) (var 1) p) by simp [lc_simp]]
  refine Ev.abs hu (ev_iterApp (fun j => iterApp (var 2) (var 1) (p * j)) (.var _ 1) (fun j => ?_) m he)
  -- the contractum is `fᵖ (f^(p·j) x)`, and `p·(j+1) = p + p·j`
  exact ev_beta_nf (by simp [isNormal_iterApp_var', isNormal]) (by simp [isNormal_iterApp_var', isNormal])
    (by simp [lc_simp, Nat.mul_succ, Nat.add_comm (p * j), iterApp_add])
    (by simp [isNormal_iterApp_var', isNormal]) he

/-- `λf x. f (n f x)`, what `SUCC n` contracts to, under the orders that enter abstractions -/
theorem ev_succ_body (n : Nat) (hu : o.under = true := by rfl) (he : o.eager = true := by rfl) :
    Ev o (abs (abs (app (var 2) (app2 (intoChurch n) (var 2) (var 1))))) (intoChurch (n + 1)) := by
  rw [intoChurch_eq (n + 1), iterApp_succ]
  cases hd : o.deep with
  | false => exact .abs hu (.abs hu (.neu hd (.var _ 2) rfl (ev_church_reopen n he)))
  | true => exact .abs hu (.abs hu (.deep hd (.var _ 2) rfl (ev_church_reopen n he) (.var _ 2)))

/-! ## conditionals: a Church boolean applied to its two branches -/

theorem contract_shiftFV (x y : Term) : contract (shiftFV 1 0 x) y = x := by simp [lc_simp]

theorem ev_id {x r : Term} (h : Ev o x r) (he : o.eager = true := by rfl) : Ev o (app (abs (var 1)) x) r :=
  .red (Ev.of_isNormal (t := abs (var 1)) rfl (Ev.head_eager he)) h
    (by rw [show contract (var 1) r = r by simp [lc_simp]]; exact Ev.of_nf (h.nf he) he)

theorem ev_const {x : Term} (h : Ev o x x) : Ev o (abs (shiftFV 1 0 x)) (abs (shiftFV 1 0 x)) := by
  cases hu : o.under with
  | false => exact .stop hu _
  | true => exact .abs hu (h.shift 1 0)

/-- the boolean and the first branch stand in operator position (`o.head`); the selected first branch is evaluated by
`o` only after selection -/
theorem ev_ite {P X Y x x' y : Term} {p : Bool} (hp : Ev o.head P (fromBool p)) (hx : Ev o.head X x)
    (hx' : Ev o x x') (hy : Ev o Y y) (he : o.eager = true := by rfl) :
    Ev o (app2 P X Y) (if p then x' else y) := by
  have hh := Ev.head_eager he
  have hp' : Ev o.head.head P (fromBool p) := by rw [Order.head_head]; exact hp
  cases p with
  | true =>
    exact .red (.red hp' hx (ev_const (Ev.of_nf (hx.nf hh) hh))) hy (by rw [contract_shiftFV]; exact hx')
  | false => exact Ev.app_fn (.red hp' hx (Ev.of_isNormal (t := abs (var 1)) rfl hh)) (ev_id hy he) he

theorem ev_not {X : Term} {b : Bool} (h : Ev o X (fromBool b)) (he : o.eager = true := by rfl) :
    Ev o (app Gen.Bool.not X) (fromBool (!b)) := by
  cases o with
  | CBV => cases b <;> exact Ev.app_arg h (evR1 .CBV 101 .nil .nil 10 .c .c (by decide +kernel))
  | HAP => cases b <;> exact Ev.app_arg h (evR .HAP 101 .nil .nil .nil 10 .c .c (by decide +kernel))
  | APP => cases b <;> exact Ev.app_arg h (evR1 .APP 101 .nil .nil 10 .c .c (by decide +kernel))
  | _ => cases he

theorem ev_iter_is_zero (n : Nat) (he : o.eager = true := by rfl) :
    Ev o (iterApp (abs Gen.Bool.fls) Gen.Bool.tru n) (fromBool (n == 0)) :=
  ev_iterApp (fun k => fromBool (k == 0)) (Ev.of_isNormal rfl he)
    (fun k => ev_beta_nf (b := Gen.Bool.fls) rfl (isNormal_fromBool _) (contract_of_closed (by decide +kernel) _) rfl he)
    n he

theorem hap_and {X Y : Term} {a b : Bool} (hx : Ev .CBV X (fromBool a)) (hy : Ev .HAP Y (fromBool b)) :
    Ev .HAP (app2 Gen.Bool.and X Y) (fromBool (a && b)) := by
  refine Ev.app_arg hy (Ev.app2_arg1 (o := .HAP) hx ?_)
  cases a <;> cases b <;> exact evR .HAP 101 .nil .nil .nil 10 .c .c (by decide +kernel)

theorem hap_or {X Y : Term} {a b : Bool} (hx : Ev .CBV X (fromBool a)) (hy : Ev .HAP Y (fromBool b)) :
    Ev .HAP (app2 Gen.Bool.or X Y) (fromBool (a || b)) := by
  refine Ev.app_arg hy (Ev.app2_arg1 (o := .HAP) hx ?_)
  cases a <;> cases b <;> exact evR .HAP 101 .nil .nil .nil 10 .c .c (by decide +kernel)

end Eager

open Eager

theorem church_succ_hap (n : Nat) : Ev .HAP (app Gen.Church.succ (intoChurch n)) (intoChurch (n + 1)) := by
  refine Ev.beta rfl (normal_intoChurch n) ?_
  have cn := closed_intoChurch n
  simp [lc_simp, cn]
  exact ev_succ_body n

theorem church_add_hap (m n : Nat) :
    Ev .HAP (app2 Gen.Church.add (intoChurch m) (intoChurch n)) (intoChurch (m + n)) := by
  have hit : Ev .HAP (iterApp Gen.Church.succ (intoChurch m) n) (intoChurch (m + n)) :=
    ev_iterApp (o := .HAP) (fun k => intoChurch (m + k)) (Ev.of_nf (normal_intoChurch m))
      (fun k => church_succ_hap (m + k)) n
  exact evR .HAP 101 (.church m (.church n (.church (m + n) .nil))) .nil
    (.cons (.app₂ .ph1 .c .ph0) .ph2
      (ev_church_elim (o := .HAP) n rfl (normal_intoChurch m) hit) .nil) 10
    (.app₂ .c .ph0 .ph1) .ph2 (by decide +kernel)

theorem church_is_zero_hap (n : Nat) : Ev .HAP (app Gen.Church.is_zero (intoChurch n)) (fromBool (n == 0)) :=
  evR .HAP 101 (.church n (.bool (n == 0) .nil)) .nil
    (.cons (.app₂ .ph0 .c .c) .ph1 (ev_church_elim (o := .HAP) n rfl rfl (ev_iter_is_zero n)) .nil) 10
    (.app .c .ph0) .ph1 (by decide +kernel)

theorem church_succ_app (n : Nat) : Ev .APP (app Gen.Church.succ (intoChurch n)) (intoChurch (n + 1)) :=
  (church_succ_hap n).app_of_typed (Typed.app1 (typed_succ [] .o) (typed_intoChurch_N [] .o n))

theorem church_add_app (m n : Nat) :
    Ev .APP (app2 Gen.Church.add (intoChurch m) (intoChurch n)) (intoChurch (m + n)) := by
  -- `add = λa b. b SUCC a`: the second numeral iterates on numerals
  have hadd : Typed [] Gen.Church.add (.arr [Ty.N .o] (.arr [Ty.N (Ty.N .o)] (Ty.N .o))) := by
    unfold Gen.Church.add Ty.N; stlc_typecheck
  exact (church_add_hap m n).app_of_typed
    (Typed.app1 (Typed.app1 hadd (typed_intoChurch_N [] _ m)) (typed_intoChurch_N [] _ n))

theorem church_is_zero_app (n : Nat) : Ev .APP (app Gen.Church.is_zero (intoChurch n)) (fromBool (n == 0)) :=
  (church_is_zero_hap n).app_of_typed (Typed.app1 (typed_is_zero [] .o) (typed_intoChurch_N [] _ n))

theorem church_mul_hap (m n : Nat) :
    Ev .HAP (app2 Gen.Church.mul (intoChurch m) (intoChurch n)) (intoChurch (m * n)) := by
  -- `MUL m` is `λb f. m (b f)` for CBV; with `n` for `b`, under the binder `n f` is `λx. fⁿ x`, which `m` iterates
  have h : Ev .CBV (app Gen.Church.mul (intoChurch m)) (abs (abs (app (intoChurch m) (app (var 2) (var 1))))) :=
    evR1 .CBV 101 (.church m .nil) .nil 10 (.app .c .ph0)
      (.abs (.abs (.app .ph0 (.app (.fv (by decide)) (.fv (by decide)))))) (by decide +kernel)
  refine Ev.red h (Ev.of_isNormal (normal_intoChurch n)) ?_
  have cm := closed_intoChurch m
  have cn := closed_intoChurch n
  simp [lc_simp, cm, cn]
  rw [intoChurch_eq (m * n), Nat.mul_comm]
  exact Ev.abs rfl (Ev.app_arg (ev_num_var n) (ev_num_pw m n))

theorem church_mul_app (m n : Nat) :
    Ev .APP (app2 Gen.Church.mul (intoChurch m) (intoChurch n)) (intoChurch (m * n)) :=
  (church_mul_hap m n).app_of_typed
    (Typed.app1 (Typed.app1 (typed_mul [] .o) (typed_intoChurch_N [] _ m)) (typed_intoChurch_N [] _ n))

/-- CBV value of `(λgh. h (g f))ᵏ (λu. x)` for variables `f = var i`, `x = var j`: nested closures
`λh. h ((λh. h (… (λu. x) … f)) f)` — CBV does not evaluate under the binders -/
def predV (i j : Nat) : Nat → Term
  | 0 => abs (var (j + 1))
  | k + 1 => abs (app (var 1) (app (predV (i + 1) (j + 1) k) (var (i + 1))))

@[simp] theorem isWNF_predV (i j k : Nat) : isWNF (predV i j k) = true := by cases k <;> rfl
@[simp] theorem isAbs_predV (i j k : Nat) : isAbs (predV i j k) = true := by cases k <;> rfl

/-! ## closures that stand for numerals

A Church numeral in OPERATOR position under HAP is evaluated by CBV, which does not normalise under binders: `pred` then
returns a CLOSURE, not a numeral.  `ONum v j` says which closures stand for which number: they behave like the numeral on
all CBV values, and HAP normalises them to the numeral.  The behaviour is asked for on OPEN values too: HAP finds the
normal form of `predC v` under its two binders, and there `v` is applied to terms that mention the bound variables
(second half of `onum_predC`). -/

/-- `v` is a closed CBV value that behaves like the Church numeral `j` on arbitrary (possibly open) CBV values and
whose HAP-normal form is the numeral `j` -/
structure Eager.ONum (v : Term) (j : Nat) : Prop where
  wnf : isWNF v = true
  closed : Closed v
  iterates : ∀ f x r, isWNF f = true → isWNF x = true → Ev .CBV (iterApp f x j) r → Ev .CBV (app2 v f x) r
  hap : Ev .HAP v (intoChurch j)

theorem Eager.Vals.onum {v : Term} {j : Nat} (h : ONum v j) {xs : List Term} (hxs : Vals 0 xs) : Vals 0 (v :: xs) :=
  .weak h.closed h.wnf hxs

theorem Eager.onum_intoChurch (j : Nat) : ONum (intoChurch j) j := by
  exact ⟨rfl, closed_intoChurch j, fun f x r wf wx h => ev_church_elim (o := .CBV) j wf wx h,
    Ev.of_isNormal (normal_intoChurch j)⟩

def Eager.succC (v : Term) : Term := abs (abs (app (var 2) (app2 v (var 2) (var 1))))

theorem Eager.cbv_succC {v : Term} (wv : isWNF v = true) (cv : Closed v) : Ev .CBV (app Gen.Church.succ v) (succC v) :=
  evR1 .CBV 101 (.weak cv wv .nil) .nil 10 (.app .c .ph0)
    (.abs (.abs (.app (.fv (by decide)) (.app₂ .ph0 (.fv (by decide)) (.fv (by decide)))))) (by decide +kernel)

theorem Eager.Inst.succC {P : Nat} {xs : List Term} {t t' : Term} (h : Inst (P + 1 + 1) xs t t')
    (hP : 0 < P := by decide) :
    Inst P xs (Term.abs (Term.abs (Term.app (var 2) (app2 t (var 2) (var 1))))) (succC t') :=
  .abs (.abs (.app (.fv (by omega)) (.app (.app h (.fv (by omega))) (.fv (by omega)))))

/-- the CBV value of `PRED v` -/
def Eager.predC (v : Term) : Term :=
  abs (abs (app3 v (abs (abs (app (var 1) (app (var 2) (var 4))))) (abs (var 2)) (abs (var 1))))

theorem Eager.closed_predC {v : Term} (hv : Closed v) : Closed (predC v) := by lc_simp [predC]

theorem Eager.cbv_predC {v : Term} (wv : isWNF v = true) (cv : Closed v) : Ev .CBV (app Gen.Church.pred v) (predC v) :=
  evR1 .CBV 101 (.weak cv wv .nil) .nil 10 (.app .c .ph0)
    (.abs (.abs (.app₃ .ph0 (.abs (.abs (.app (.fv (by decide)) (.app (.fv (by decide)) (.fv (by decide))))))
      (.abs (.fv (by decide))) (.abs (.fv (by decide)))))) (by decide +kernel)

/-- CBV values of `(λgh. h (g f))ᵏ (λu. x)` for arbitrary (open) values `f`, `x` -/
def Eager.pvo (f x : Term) : Nat → Term
  | 0 => abs (shiftFV 1 0 x)
  | k + 1 => abs (app (var 1) (app (shiftFV 1 0 (pvo f x k)) (shiftFV 1 0 f)))

@[simp] theorem Eager.isWNF_pvo (f x : Term) (k : Nat) : isWNF (pvo f x k) = true := by cases k <;> rfl

theorem Eager.shiftFV_pvo (a o : Nat) (f x : Term) (k : Nat) :
    shiftFV a o (pvo f x k) = pvo (shiftFV a o f) (shiftFV a o x) k := by
  induction k with
  | zero => simp [pvo, shiftFV, shiftFV_comm 1 a 0 o (Nat.zero_le _)]
  | succ k ih => simp [pvo, shiftFV, ← ih, shiftFV_comm 1 a 0 o (Nat.zero_le _)]

theorem Eager.applyAux_pvo (r : Term) (d : Nat) (hd : 1 ≤ d) (f x : Term) (k : Nat) :
    applyAux r d (pvo f x k) = pvo (applyAux r d f) (applyAux r d x) k := by
  induction k with
  | zero => simp [pvo, applyAux, shiftFV_applyAux_lt 1 0 d hd (by omega)]
  | succ k ih =>
    have h0 : d ≠ 0 := by omega
    simp [pvo, applyAux, ← ih, shiftFV_applyAux_lt 1 0 d hd (by omega), h0]

theorem predV_eq_pvo (i j k : Nat) (hi : 0 < i) (hj : 0 < j) : predV i j k = pvo (var i) (var j) k := by
  induction k generalizing i j with
  | zero => simp [predV, pvo, shiftFV, hj]
  | succ k ih => rw [pvo, shiftFV_pvo, predV, ih (i + 1) (j + 1) (by omega) (by omega)]; simp [shiftFV, hi, hj]

theorem shiftFV_predV (a o i j k : Nat) (hi : o < i) (hj : o < j) :
    shiftFV a o (predV i j k) = predV (i + a) (j + a) k := by
  rw [predV_eq_pvo i j k (by omega) (by omega), predV_eq_pvo _ _ k (by omega) (by omega), shiftFV_pvo]
  simp [shiftFV, hi, hj]

theorem applyAux_predV (r : Term) (d i j k : Nat) (hd : 1 ≤ d) (hi : d < i) (hj : d < j) :
    applyAux r d (predV i j k) = predV (i - 1) (j - 1) k := by
  rw [predV_eq_pvo i j k (by omega) (by omega), predV_eq_pvo _ _ k (by omega) (by omega), applyAux_pvo r d hd]
  have h1 : i ≠ d := by omega
  have h2 : j ≠ d := by omega
  simp [applyAux, h1, h2, hi, hj]

theorem hap_predV_app (k : Nat) : Ev .HAP (app (predV 2 1 k) (var 2)) (iterApp (var 2) (var 1) k) := by
  induction k with
  | zero => rw [iterApp_zero]; exact Ev.beta rfl rfl (.var _ 1)
  | succ k ih =>
    have e : contract (app (var 1) (app (predV 3 2 k) (var 3))) (var 2) = app (var 2) (app (predV 2 1 k) (var 2)) := by
      simp [contract, applyAux, shiftFV, applyAux_predV]
    rw [iterApp_succ]
    exact Ev.beta rfl rfl (by rw [e]; exact .deep rfl (.var _ 2) rfl ih (.var _ 2))

theorem Eager.cbv_iter_pvo (f x : Term) (k : Nat) :
    Ev .CBV (iterApp (abs (abs (app (var 1) (app (var 2) (shiftFV 2 0 f))))) (abs (shiftFV 1 0 x)) k) (pvo f x k) := by
  refine ev_iterApp (o := .CBV) (pvo f x) (.stop rfl _) (fun k => Ev.beta rfl (isWNF_pvo f x k) ?_) k
  rw [show contract (abs (app (var 1) (app (var 2) (shiftFV 2 0 f)))) (pvo f x k) = pvo f x (k + 1) by
    simp [lc_simp, pvo]]
  exact .stop rfl _

/-- each layer of the closure applies `f` to what the layer inside returns, value or neutral term -/
theorem Eager.cbv_pvo_app {f x : Term} (wf : isWNF f = true) (wx : isWNF x = true) :
    ∀ (k : Nat) (r : Term), Ev .CBV (iterApp f x k) r → Ev .CBV (app (pvo f x k) f) r := by
  intro k
  induction k with
  | zero =>
    intro r h
    simp only [iterApp_zero] at h
    have e := h.nf_eq wx; subst e
    exact Ev.beta rfl wf (by rw [contract_shiftFV]; exact h)
  | succ k ih =>
    intro r h
    rw [iterApp_succ] at h
    simp only [pvo]
    cases h with
    | red hl hr hn =>
      have h1 := ih _ hr
      refine Ev.beta rfl wf ?_
      simp [lc_simp]
      exact Ev.red hl h1 hn
    | neu _ hl hna hr =>
      have h1 := ih _ hr
      refine Ev.beta rfl wf ?_
      simp [lc_simp]
      exact Ev.neu rfl hl hna h1
    | deep hd => cases hd

theorem Eager.cbv_iter_predV (k : Nat) :
    Ev .CBV (iterApp (abs (abs (app (var 1) (app (var 2) (var 4))))) (abs (var 2)) k) (predV 2 1 k) := by
  rw [predV_eq_pvo 2 1 k (by decide) (by decide)]
  exact cbv_iter_pvo (var 2) (var 1) k

/-- `PRED` on a closure that stands for `j` returns a closure that stands for `j - 1`.
Behaviour: `predC v f x` lets `v` build `pvo f x j` (`cbv_iter_pvo`) and hands it the identity in place of `f`, so the
outermost layer does not apply `f`: what is left is `f^(j-1) x` (`cbv_pvo_app`).
Normal form: under the binders `λf x` the same happens with the variables for `f` and `x` — here `v` is used on open
values —: `v` builds `predV 2 1 j`, and HAP normalises `predV 2 1 j I` to `f^(j-1) x` (`hap_predV_app`). -/
theorem Eager.onum_predC {v : Term} {j : Nat} (h : ONum v j) : ONum (predC v) (j - 1) := by
  obtain ⟨wv, cv, hv, _⟩ := h
  refine ⟨rfl, closed_predC cv, fun f x r wf wx h => ?_, ?_⟩
  · have h1 := hv _ _ _ rfl rfl (cbv_iter_pvo f x j)
    unfold predC
    refine Ev.red (Ev.beta rfl wf (.stop rfl _)) (Ev.of_nf wx) ?_
    simp [lc_simp, cv]
    refine Ev.app_fn (o := .CBV) h1 ?_
    cases j with
    | zero =>
      simp only [Nat.zero_sub, iterApp_zero] at h
      exact Ev.beta rfl rfl (by rw [contract_shiftFV]; exact h)
    | succ k =>
      simp only [Nat.add_sub_cancel] at h
      refine Ev.beta rfl rfl ?_
      simp [lc_simp]
      exact ev_id (cbv_pvo_app wf wx k r h)
  · rw [intoChurch_eq (j - 1)]
    have h1 := hv _ _ _ rfl rfl (cbv_iter_predV j)
    unfold predC
    refine .abs rfl (.abs rfl (Ev.app_fn (o := .HAP) h1 ?_))
    cases j with
    | zero => rw [Nat.zero_sub, iterApp_zero]; exact Ev.beta rfl rfl (.var _ 1)
    | succ n =>
      refine Ev.beta rfl rfl ?_
      simp [contract, applyAux, shiftFV, applyAux_predV]
      exact ev_id (hap_predV_app n)

theorem church_pred_hap (n : Nat) : Ev .HAP (app Gen.Church.pred (intoChurch n)) (intoChurch (n - 1)) := by
  refine Ev.beta rfl (normal_intoChurch n) ?_
  have cn := closed_intoChurch n
  simp [lc_simp, cn]
  exact (onum_predC (onum_intoChurch n)).hap

theorem church_pred_app (n : Nat) : Ev .APP (app Gen.Church.pred (intoChurch n)) (intoChurch (n - 1)) :=
  (church_pred_hap n).app_of_typed (Typed.app1 (typed_pred [] .o) (typed_intoChurch_N [] _ n))

theorem church_sub_hap (m n : Nat) :
    Ev .HAP (app2 Gen.Church.sub (intoChurch m) (intoChurch n)) (intoChurch (m - n)) := by
  have hit : Ev .HAP (iterApp Gen.Church.pred (intoChurch m) n) (intoChurch (m - n)) :=
    ev_iterApp (o := .HAP) (fun k => intoChurch (m - k)) (Ev.of_nf (normal_intoChurch m))
      (fun k => church_pred_hap (m - k)) n
  exact evR .HAP 101 (.church m (.church n (.church (m - n) .nil))) .nil
    (.cons (.app₂ .ph1 .c .ph0) .ph2
      (ev_church_elim (o := .HAP) n rfl (normal_intoChurch m) hit) .nil) 10
    (.app₂ .c .ph0 .ph1) .ph2 (by decide +kernel)

theorem church_leq_hap (m n : Nat) :
    Ev .HAP (app2 Gen.Church.leq (intoChurch m) (intoChurch n)) (fromBool (decide (m ≤ n))) := by
  rw [show decide (m ≤ n) = (m - n == 0) by rw [Bool.eq_iff_iff]; simp [Nat.sub_eq_zero_iff_le]]
  exact evR .HAP 101 (.church m (.church n (.church (m - n) (.bool (m - n == 0) .nil)))) .nil
    (.cons (.app₂ .c .ph0 .ph1) .ph2 (church_sub_hap m n)
      (.cons (.app .c .ph2) .ph3 (church_is_zero_hap (m - n)) .nil)) 10
    (.app₂ .c .ph0 .ph1) .ph3 (by decide +kernel)

theorem church_succ_reduce_hap (n : Nat) :
    ∃ fuel c, reduce .HAP 0 fuel (app Gen.Church.succ (intoChurch n)) = some (intoChurch (n + 1), c) :=
  (church_succ_hap n).reduce
theorem church_succ_reduce_app (n : Nat) :
    ∃ fuel c, reduce .APP 0 fuel (app Gen.Church.succ (intoChurch n)) = some (intoChurch (n + 1), c) :=
  (church_succ_app n).reduce
theorem church_add_reduce_hap (m n : Nat) :
    ∃ fuel c, reduce .HAP 0 fuel (app2 Gen.Church.add (intoChurch m) (intoChurch n)) = some (intoChurch (m + n), c) :=
  (church_add_hap m n).reduce
theorem church_add_reduce_app (m n : Nat) :
    ∃ fuel c, reduce .APP 0 fuel (app2 Gen.Church.add (intoChurch m) (intoChurch n)) = some (intoChurch (m + n), c) :=
  (church_add_app m n).reduce
theorem church_is_zero_reduce_hap (n : Nat) :
    ∃ fuel c, reduce .HAP 0 fuel (app Gen.Church.is_zero (intoChurch n)) = some (fromBool (n == 0), c) :=
  (church_is_zero_hap n).reduce
theorem church_is_zero_reduce_app (n : Nat) :
    ∃ fuel c, reduce .APP 0 fuel (app Gen.Church.is_zero (intoChurch n)) = some (fromBool (n == 0), c) :=
  (church_is_zero_app n).reduce
theorem church_mul_reduce_hap (m n : Nat) :
    ∃ fuel c, reduce .HAP 0 fuel (app2 Gen.Church.mul (intoChurch m) (intoChurch n)) = some (intoChurch (m * n), c) :=
  (church_mul_hap m n).reduce
theorem church_mul_reduce_app (m n : Nat) :
    ∃ fuel c, reduce .APP 0 fuel (app2 Gen.Church.mul (intoChurch m) (intoChurch n)) = some (intoChurch (m * n), c) :=
  (church_mul_app m n).reduce
theorem church_pred_reduce_hap (n : Nat) :
    ∃ fuel c, reduce .HAP 0 fuel (app Gen.Church.pred (intoChurch n)) = some (intoChurch (n - 1), c) :=
  (church_pred_hap n).reduce
theorem church_pred_reduce_app (n : Nat) :
    ∃ fuel c, reduce .APP 0 fuel (app Gen.Church.pred (intoChurch n)) = some (intoChurch (n - 1), c) :=
  (church_pred_app n).reduce
theorem church_sub_reduce_hap (m n : Nat) :
    ∃ fuel c, reduce .HAP 0 fuel (app2 Gen.Church.sub (intoChurch m) (intoChurch n)) = some (intoChurch (m - n), c) :=
  (church_sub_hap m n).reduce
theorem church_leq_reduce_hap (m n : Nat) :
    ∃ fuel c, reduce .HAP 0 fuel (app2 Gen.Church.leq (intoChurch m) (intoChurch n)) =
      some (fromBool (decide (m ≤ n)), c) :=
  (church_leq_hap m n).reduce

end LC
