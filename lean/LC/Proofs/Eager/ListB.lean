/-
What the instances of the higher-order pair-list functions under HAP (`LC/Proofs/List/HigherHap.lean`) with the Church
operations `SUCC`, `IS_ZERO`, `ADD`, `SUB` as function arguments need (the instances are `C16_*_hap` in
`LC/Props/C16.lean`): in operator position `SUCC`/`ADD`/`PRED`/`SUB` return CLOSURES, not numerals; the invariants `ANum`,
`ONum` say which closures stand for which number and that HAP normalises them to the numeral.
-/
import LC.Proofs.List.HigherHap
import LC.Proofs.Eager.ChurchHapB

namespace LC
open Term Spec Enc Eager C16 HigherHap ChurchHapB

namespace EagerListB

@[simp] theorem isAbs_pairList (ts : List Term) : isAbs (pairList ts) = true := by cases ts <;> rfl

theorem cl_nil : cl [] = abs (abs (var 1)) := rfl

theorem hap_head_cons (n : Nat) (ns : List Nat) :
    EvalHap (app Gen.PList.head (cl (n :: ns))) (intoChurch n) :=
  (pairListEnc_hap.head (forall_map hapValue_church (n :: ns))).toHap

/-- closed CBV values that HAP normalises to the numeral `j`, also when they are applied to the variables of an enclosing
numeral.  `Eager.ONum` (`LC/Proofs/Eager/Church.lean`) differs in the third part only: there it says what the
closure does as an OPERATOR under CBV (applied to weak values `f`, `x` it iterates `f`), `reopen` here says what it does
as an OPERAND that ends up inside the body `λf x. f (v f x)` of a successor.  `ADD m n = n SUCC m` needs `ONum n` and
`ANum m` (`cbv_add_anum`); the numerals are both (`onum_intoChurch`, `anum_intoChurch`). -/
structure ANum (v : Term) (j : Nat) : Prop where
  wnf : isWNF v = true
  closed : Closed v
  reopen : Ev .HAP (app2 v (var 2) (var 1)) (iterApp (var 2) (var 1) j)
  hap : Ev .HAP v (intoChurch j)

theorem anum_intoChurch (j : Nat) : ANum (intoChurch j) j :=
  ⟨rfl, closed_intoChurch j, ev_church_reopen j, Ev.of_isNormal (normal_intoChurch j)⟩

theorem cbv_succ_anum {v : Term} {j : Nat} (h : ANum v j) :
    Ev .CBV (app Gen.Church.succ v) (succC v) ∧ ANum (succC v) (j + 1) := by
  obtain ⟨wv, cv, h2, _⟩ := h
  refine ⟨?_, rfl, by lc_simp [succC], ?_, ?_⟩
  · exact cbv_succC wv cv
  · rw [iterApp_succ]
    exact EagerListA.hap_eta2 (Ev.stop rfl _) (by lc_simp) (Ev.deep rfl (Ev.var _ 2) rfl h2 (Ev.var _ 2))
  · rw [intoChurch_eq, iterApp_succ]
    exact Ev.abs rfl (Ev.abs rfl (Ev.deep rfl (Ev.var _ 2) rfl h2 (Ev.var _ 2)))

def addCv (v : Term) : Nat → Term
  | 0 => v
  | k + 1 => succC (addCv v k)

theorem anum_addCv {v : Term} {j : Nat} (h : ANum v j) (k : Nat) : ANum (addCv v k) (j + k) := by
  induction k with
  | zero => exact h
  | succ k ih => exact (cbv_succ_anum ih).2

theorem cbv_add_anum {v1 v2 : Term} {j1 j2 : Nat} (h1 : ANum v1 j1) (h2 : ONum v2 j2) :
    Ev .CBV (app2 Gen.Church.add v1 v2) (addCv v1 j2) := by
  have w1 := h1.wnf; have c1 := h1.closed
  have h := h2.iterates Gen.Church.succ v1 (addCv v1 j2) rfl w1
    (ev_iterApp (o := .CBV) (w := addCv v1) (Ev.of_isWNF w1)
      (fun k => (cbv_succ_anum (anum_addCv h1 k)).1) j2)
  have hr := anum_addCv h1 j2
  -- placeholders: the two closures, the result; looked up: `n SUCC m`
  exact evR1 .CBV 101 (.weak c1 w1 (.onum h2 (.weak hr.closed hr.wnf .nil)))
    (.cons (.app₂ .ph1 .c .ph0) .ph2 h .nil) 10 (.app₂ .c .ph0 .ph1) .ph2 (by decide +kernel)

end EagerListB

theorem is_zero_nums (ns : List Nat) :
    ∀ a ∈ ns, Ev .CBV (app Gen.Church.is_zero (intoChurch a)) (fromBool (a == 0)) :=
  fun a _ => church_is_zero_cbv (onum_intoChurch a)

theorem plist_foldr_hap_nums {f : Term} (cf : Closed f) (wf : isWNF f = true) (op : Nat → Nat → Nat)
    (hop : ∀ m n, Ev .HAP (app2 f (intoChurch m) (intoChurch n)) (intoChurch (op m n))) (a : Nat) (ns : List Nat) :
    Ev .HAP (app3 Gen.PList.foldr f (intoChurch a) (cl ns)) (intoChurch (ns.foldr op a)) :=
  plist_foldr_hap_chain cf wf (hapValue_church a) _ (forall_map hapValue_church ns)
    (foldrHap_of_steps intoChurch intoChurch op ns a fun m _ n => hop m n)

/-- the HAP normal form of the constant `PRED`, as the evaluator computes it (`junkOK_sub` needs only that it exists) -/
noncomputable def predNF : Term := (evalR 0 .HAP 101 [] [] 40 Gen.Church.pred).getD (var 0)

/-- `SUB m̄` on the junk heads `I`, `TRUE` (the calls `zip_with` makes when the second list is shorter) -/
theorem junkOK_sub (m : Nat) : JunkOK Gen.Church.sub (intoChurch m) := by
  have hp := cbv_predC (v := intoChurch m) rfl (closed_intoChurch m)
  have hpn := (onum_predC (onum_intoChurch m)).hap
  constructor
  · -- `SUB m̄ I = I PRED m̄ = PRED m̄`
    exact ⟨_, .of_ev (evR1 .CBV 101 (.value (hapValue_church m) (.weak (closed_predC (closed_intoChurch m)) rfl .nil))
      (.cons (.app .c .ph0) .ph1 hp .nil) 20 (.app (.app .c .ph0) .c) .ph1 (by decide +kernel)) hpn⟩
  · -- `SUB m̄ TRUE = TRUE PRED m̄` is `PRED` itself, a closed constant with a normal form
    exact ⟨predNF, .of_ev (w := Gen.Church.pred)
      (evR1 .CBV 101 (.value (hapValue_church m) .nil) .nil 10 (.app (.app .c .ph0) .c) .c (by decide +kernel))
      (evR .HAP 101 .nil .nil .nil 40 .c .c (by decide +kernel))⟩

end LC
