/-
Closures that stand for numerals (`ONum`, `Eager/Church.lean`) in the comparisons, and the HAP operations whose tests
stand in operator position (`min`, `max`, `eq`, `quot`).  Church numerals in OPERATOR position under HAP are evaluated by
CBV, which does not normalise under binders; `pred`/`sub` then return CLOSURES, not numerals.  For values `v₁`, `v₂` that
stand for `j₁`, `j₂` the operations `sub`, `is_zero`, `leq`, `lt` give under CBV what they give on the numerals, so that
comparisons in operator position (`eq`, `min`, `max`, the tests inside `div`/`quot`/`rem`) become compositional.
-/
import LC.Proofs.Eager.Church
import LC.Proofs.Num.ChurchB

namespace LC
open Term Spec Enc Eager

namespace Eager

theorem cbv_pred_onum {v : Term} {j : Nat} (h : ONum v j) :
    Ev .CBV (app Gen.Church.pred v) (predC v) ∧ ONum (predC v) (j - 1) :=
  ⟨cbv_predC h.wnf h.closed, onum_predC h⟩

def subCv (v : Term) : Nat → Term
  | 0 => v
  | k + 1 => predC (subCv v k)

theorem onum_subCv {v : Term} {j : Nat} (h : ONum v j) (k : Nat) : ONum (subCv v k) (j - k) := by
  induction k with
  | zero => exact h
  | succ k ih => exact onum_predC ih

theorem cbv_sub_onum {v1 v2 : Term} {j1 j2 : Nat} (h1 : ONum v1 j1) (h2 : ONum v2 j2) :
    Ev .CBV (app2 Gen.Church.sub v1 v2) (subCv v1 j2) := by
  have hs := onum_subCv h1 j2
  have h := h2.iterates Gen.Church.pred v1 (subCv v1 j2) rfl h1.wnf
    (ev_iterApp (o := .CBV) (w := subCv v1) (Ev.of_isWNF h1.wnf)
      (fun k => cbv_predC (onum_subCv h1 k).wnf (onum_subCv h1 k).closed) j2)
  exact evR1 .CBV 101 (.onum h1 (.onum h2 (.onum hs .nil)))
    (.cons (.app₂ .ph1 .c .ph0) .ph2 h .nil) 10 (.app₂ .c .ph0 .ph1) .ph2 (by decide +kernel)

theorem church_is_zero_cbv {v : Term} {j : Nat} (h : ONum v j) :
    Ev .CBV (app Gen.Church.is_zero v) (fromBool (j == 0)) := by
  have h1 := h.iterates (abs Gen.Bool.fls) Gen.Bool.tru (fromBool (j == 0)) rfl rfl (ev_iter_is_zero j)
  exact evR1 .CBV 101 (.bool (j == 0) (.onum h .nil)) (.cons (.app₂ .ph1 .c .c) .ph0 h1 .nil) 10
    (.app .c .ph1) .ph0 (by decide +kernel)

theorem cbv_leq_onum {v1 v2 : Term} {j1 j2 : Nat} (h1 : ONum v1 j1) (h2 : ONum v2 j2) :
    Ev .CBV (app2 Gen.Church.leq v1 v2) (fromBool (decide (j1 ≤ j2))) := by
  have hs := cbv_sub_onum h1 h2
  have hz := church_is_zero_cbv (onum_subCv h1 j2)
  have w := onum_subCv h1 j2
  rw [show decide (j1 ≤ j2) = (j1 - j2 == 0) by rw [Bool.eq_iff_iff]; simp [Nat.sub_eq_zero_iff_le]]
  exact evR1 .CBV 101 (.bool (j1 - j2 == 0) (.onum h1 (.onum h2 (.onum w .nil))))
    (.cons (.app₂ .c .ph1 .ph2) .ph3 hs (.cons (.app .c .ph3) .ph0 hz .nil)) 10
    (.app₂ .c .ph1 .ph2) .ph0 (by decide +kernel)

theorem cbv_lt_onum {v1 v2 : Term} {j1 j2 : Nat} (h1 : ONum v1 j1) (h2 : ONum v2 j2) :
    Ev .CBV (app2 Gen.Church.lt v1 v2) (fromBool (decide (j1 < j2))) := by
  rw [show decide (j1 < j2) = !decide (j2 ≤ j1) by rw [Bool.eq_iff_iff]; simp]
  exact evR1 .CBV 101 (.bool (!decide (j2 ≤ j1)) (.onum h1 (.onum h2 .nil)))
    (.cons (.app .c (.app₂ .c .ph2 .ph1)) .ph0 (ev_not (cbv_leq_onum h2 h1)) .nil) 20
    (.app₂ .c .ph1 .ph2) .ph0 (by decide +kernel)

theorem church_sub_cbv (m n : Nat) :
    Ev .CBV (app2 Gen.Church.sub (intoChurch m) (intoChurch n)) (subCv (intoChurch m) n) :=
  cbv_sub_onum (onum_intoChurch m) (onum_intoChurch n)

theorem church_leq_cbv (m n : Nat) :
    Ev .CBV (app2 Gen.Church.leq (intoChurch m) (intoChurch n)) (fromBool (decide (m ≤ n))) :=
  cbv_leq_onum (onum_intoChurch m) (onum_intoChurch n)

theorem church_lt_cbv (m n : Nat) :
    EvalCbv (app2 Gen.Church.lt (intoChurch m) (intoChurch n)) (fromBool (decide (m < n))) :=
  (cbv_lt_onum (onum_intoChurch m) (onum_intoChurch n)).toCbv

end Eager

theorem church_min_hap (m n : Nat) :
    Ev .HAP (app2 Gen.Church.min (intoChurch m) (intoChurch n)) (intoChurch (min m n)) := by
  have h := ev_ite (o := .HAP) (church_leq_cbv m n) (Ev.of_isWNF (isWNF_intoChurch m))
    (Ev.of_isNormal (normal_intoChurch m)) (Ev.of_isNormal (normal_intoChurch n))
  simp only [decide_eq_true_eq] at h
  rw [← apply_ite intoChurch, ← Nat.min_def] at h
  exact evR .HAP 101 (.church m (.church n (.church (min m n) .nil))) .nil
    (.cons (.app₂ (.app₂ .c .ph0 .ph1) .ph0 .ph1) .ph2 h .nil) 20
    (.app₂ .c .ph0 .ph1) .ph2 (by decide +kernel)

theorem church_max_hap (m n : Nat) :
    Ev .HAP (app2 Gen.Church.max (intoChurch m) (intoChurch n)) (intoChurch (max m n)) := by
  have h := ev_ite (o := .HAP) (church_leq_cbv m n) (Ev.of_isWNF (isWNF_intoChurch n))
    (Ev.of_isNormal (normal_intoChurch n)) (Ev.of_isNormal (normal_intoChurch m))
  simp only [decide_eq_true_eq] at h
  rw [← apply_ite intoChurch, ← Nat.max_def] at h
  exact evR .HAP 101 (.church m (.church n (.church (max m n) .nil))) .nil
    (.cons (.app₂ (.app₂ .c .ph0 .ph1) .ph1 .ph0) .ph2 h .nil) 20
    (.app₂ .c .ph0 .ph1) .ph2 (by decide +kernel)

theorem church_eq_hap (m n : Nat) :
    Ev .HAP (app2 Gen.Church.eq (intoChurch m) (intoChurch n)) (fromBool (m == n)) := by
  have h := hap_and (church_leq_cbv m n) (church_leq_hap n m)
  rw [show (m == n) = (decide (m ≤ n) && decide (n ≤ m)) by rw [Bool.eq_iff_iff]; simp; omega]
  exact evR .HAP 101 (.church m (.church n (.bool (decide (m ≤ n) && decide (n ≤ m)) .nil))) .nil
    (.cons (.app₂ .c (.app₂ .c .ph0 .ph1) (.app₂ .c .ph1 .ph0)) .ph2 h .nil) 20
    (.app₂ .c .ph0 .ph1) .ph2 (by decide +kernel)

/-! ## a `Z`-recursive operation: `quot`

`ZW f = λx. f (λv. x x v)`, `ZF f = ZW f (ZW f)` — what `Z f` contracts to — and `stub f = λv. ZF f v` are defined at the
end of `Num/Toolkit.lean`.  `quot = Z F`; under CBV `Z F` and `ZF F` evaluate to a closed value (the body of `F` with the recursive-call stub
`λv. ZF F v` substituted); a recursive call `stub X y` evaluates `X` by CBV (to a CLOSURE, not a numeral) and continues
as `ZF F v y`.  The branches are thunks `(λx. …) I`, so only the selected one is evaluated.  The core of a `Z`-recursive
operation is stated about `ZF F` (`quot_core`): the recursive call is `ev_stub2`/`stub_hap3`, the operation itself
`hap_Z2`/`hap_Z3`. -/

namespace Eager

theorem cbv_Z {F q : Term} (hF : Closed F) (wF : isWNF F = true) (hq : Ev .CBV (ZF F) q) :
    Ev .CBV (app Gen.Comb.Z F) q := by
  refine Ev.red (Ev.stop rfl _) (Ev.of_isWNF wF) ?_
  lc_simp
  exact hq

variable {o : Order}

theorem ev_app2_args {f X Y x y r : Term} (hX : Ev o.head X x) (hY : Ev o Y y) (h : Ev o (app2 f x y) r)
    (he : o.eager = true := by rfl) : Ev o (app2 f X Y) r :=
  Ev.app_arg hY (Ev.app2_arg1 hX h he) he

/-- a recursive call through the stub, under the orders that evaluate operators by value (CBV, HAP): the stub is an
abstraction in operator position, so it is not entered -/
theorem ev_stub {F X v r : Term} (hF : Closed F) (hX : Ev o X v) (h : Ev o (app (ZF F) v) r)
    (ho : o.head = .CBV := by rfl) : Ev o (app (stub F) X) r := by
  refine Ev.red (by rw [ho]; exact Ev.stop rfl _) hX ?_
  have e : contract (app (ZF F) (var 1)) v = app (ZF F) v := by lc_simp [ZF, ZW]
  rw [e]
  exact h

theorem ev_stub2 {F X v Y y R : Term} (hF : Closed F) (hX : Ev o.head X v) (hY : Ev o Y y)
    (h : Ev o (app2 (ZF F) v y) R) (ho : o.head = .CBV := by rfl) (he : o.eager = true := by rfl) :
    Ev o (app2 (stub F) X Y) R :=
  Ev.app_arg hY (Ev.app_head (fun _ => ev_stub (o := o.head) hF hX (ho := by rw [Order.head_head, ho])) h) he

theorem stub_hap3 {F X1 v1 X2 v2 Y y R : Term} (hF : Closed F) (hX1 : Ev .CBV X1 v1) (hX2 : Ev .CBV X2 v2)
    (hY : Ev .HAP Y y) (h : Ev .HAP (app3 (ZF F) v1 v2 y) R) : Ev .HAP (app3 (stub F) X1 X2 Y) R :=
  Ev.app_arg hY (Ev.app_head (fun _ => ev_stub2 (o := .CBV) hF hX1 hX2) h)

theorem hap_Z1 {F a R : Term} (hF : Closed F) (wF : isWNF F = true) (h : Ev .HAP (app (ZF F) a) R) :
    Ev .HAP (app (app Gen.Comb.Z F) a) R :=
  Ev.app_head (fun _ => cbv_Z hF wF) h

theorem hap_Z2 {F a b R : Term} (hF : Closed F) (wF : isWNF F = true) (h : Ev .HAP (app2 (ZF F) a b) R) :
    Ev .HAP (app2 (app Gen.Comb.Z F) a b) R :=
  Ev.app_head (fun _ => Ev.app_head fun _ => cbv_Z hF wF) h

theorem hap_Z3 {F a b c R : Term} (hF : Closed F) (wF : isWNF F = true) (h : Ev .HAP (app3 (ZF F) a b c) R) :
    Ev .HAP (app3 (app Gen.Comb.Z F) a b c) R :=
  Ev.app_head (fun _ => Ev.app_head fun _ => Ev.app_head fun _ => cbv_Z hF wF) h

/-- the CBV value of `ZF quotF`, the recursion of `quot` unfolded once (computed; only that it is the value matters) -/
noncomputable def quotQ : Term := (evalR 0 .CBV 101 [] [] 10 (ZF ChurchB.quotF)).getD (var 0)

theorem cbv_quotQ : Ev .CBV (ZF ChurchB.quotF) quotQ := evR1 .CBV 101 .nil .nil 10 .c .c (by decide +kernel)

theorem quot_core (j : Nat) : ∀ (v : Term) (n : Nat), ONum v j →
    Ev .HAP (app2 (ZF ChurchB.quotF) v (intoChurch (n + 1))) (intoChurch (j / (n + 1))) := by
  induction j using Nat.strongRecOn with
  | _ j ih =>
    intro v n hv
    have hlt := cbv_lt_onum hv (onum_intoChurch (n + 1))
    by_cases h : j < n + 1
    · simp only [h, decide_true] at hlt
      rw [Nat.div_eq_of_lt h]
      -- placeholders: the divisor, then `v`
      exact evR .HAP 101 (.church (n + 1) (.onum hv .nil))
        (.cons .c .c cbv_quotQ (.cons (.app₂ .c .ph1 .ph0) .c hlt .nil)) .nil 30
        (.app₂ .c .ph1 .ph0) .c (by decide +kernel)
    · simp only [h, decide_false] at hlt
      have hrec := ev_stub2 (o := .HAP) ChurchB.closed_quotF (cbv_sub_onum hv (onum_intoChurch (n + 1)))
        (Ev.of_isNormal (normal_intoChurch (n + 1))) (ih (j - (n + 1)) (by omega) _ n (onum_subCv hv (n + 1)))
      have hs := church_succ_hap ((j - (n + 1)) / (n + 1))
      rw [show j / (n + 1) = (j - (n + 1)) / (n + 1) + 1 by
        rw [Nat.div_eq_sub_div (by omega) (by omega)]]
      -- placeholders: the divisor, the quotient of the recursive call, the result, then `v`
      exact evR .HAP 101
        (.church (n + 1) (.church ((j - (n + 1)) / (n + 1)) (.church ((j - (n + 1)) / (n + 1) + 1) (.onum hv .nil))))
        (.cons .c .c cbv_quotQ (.cons (.app₂ .c .ph3 .ph0) .c hlt .nil))
        (.cons (.app₂ .c (.app₂ .c .ph3 .ph0) .ph0) .ph1 hrec (.cons (.app .c .ph1) .ph2 hs .nil)) 30
        (.app₂ .c .ph3 .ph0) .ph2 (by decide +kernel)

end Eager

/-- `quot` under HAP, for ALL arguments (divisor ≠ 0; with divisor 0 the operation loops under every order) -/
theorem church_quot_hap (m n : Nat) :
    Ev .HAP (app2 Gen.Church.quot (intoChurch m) (intoChurch (n + 1))) (intoChurch (m / (n + 1))) := by
  rw [ChurchB.quot_eq]
  exact hap_Z2 ChurchB.closed_quotF (by decide +kernel) (quot_core m _ n (onum_intoChurch m))

theorem church_quot_reduce_hap (m n : Nat) :
    ∃ fuel c, reduce .HAP 0 fuel (app2 Gen.Church.quot (intoChurch m) (intoChurch (n + 1))) =
      some (intoChurch (m / (n + 1)), c) :=
  (church_quot_hap m n).reduce

end LC
