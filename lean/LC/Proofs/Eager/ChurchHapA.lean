/-
Eager evaluation (HAP), Church numerals: the remaining comparisons (`lt`, `gt`, `geq`, `neq`), parity
(`is_even`, `is_odd`) and the exponentials (`pow`, `shl`) — for ALL arguments.
-/
import LC.Proofs.Eager.ChurchCbv

namespace LC
open Term Spec Enc Eager

namespace ChurchHapA

/-- the HAP normal forms of `aᵏ x` (`a` a numeral for `m`, `x` the variable bound by the enclosing `λx`):
`x` itself for `k = 0`, then `λy. x^(m^k) y` -/
def powW (m : Nat) : Nat → Term
  | 0 => var 1
  | k + 1 => abs (iterApp (var 2) (var 1) (m ^ (k + 1)))

/-- `pow` with a base that is a closed CBV value whose HAP normal form is the numeral `m` (in `shl` the base is the
CLOSURE `λfx. f (ONE f x)`, the CBV value of `SUCC ONE`; it is HAP-normalised to `2` when it becomes an operand) -/
theorem pow_core {a : Term} (m n : Nat) (wa : isWNF a = true) (ca : Closed a) (ha : Ev .HAP a (intoChurch m)) :
    Ev .HAP (app2 Gen.Church.pow a (intoChurch n)) (intoChurch (m ^ n)) := by
  cases n with
  | zero =>
    -- placeholders: `m`, then `a` (only a weak normal form: its HAP value is the table entry)
    rw [Nat.pow_zero]
    exact evR .HAP 101 (.church m (.weak ca wa .nil)) .nil (.cons .ph1 .ph0 ha .nil) 20
      (.app₂ .c .ph1 .c) .c (by decide +kernel)
  | succ n =>
    have hz : Ev .CBV (app Gen.Church.is_zero (intoChurch (n + 1))) (fromBool false) :=
      church_is_zero_cbv (onum_intoChurch (n + 1))
    have hit : Ev .HAP (iterApp (intoChurch m) (var 1) (n + 1)) (powW m (n + 1)) :=
      ev_iterApp (o := .HAP) (powW m) (Ev.var _ 1)
        (fun k => by
          cases k with
          | zero => simp only [powW, Nat.zero_add, Nat.pow_one]; exact ev_num_var m
          | succ k => simp only [powW]; rw [Nat.pow_succ m (k + 1)]; exact ev_num_pw m _) (n + 1)
    have he : Ev .HAP (app (intoChurch (n + 1)) a) (intoChurch (m ^ (n + 1))) := by
      rw [intoChurch_eq (m ^ (n + 1))]
      exact ev_church_app1 (n + 1) ha (closed_intoChurch m) hit
    -- placeholders: the exponent, the result, then `a`
    exact evR .HAP 101 (.church (n + 1) (.church (m ^ (n + 1)) (.weak ca wa .nil)))
      (.cons (.app .c .ph0) .c hz .nil) (.cons (.app .ph0 .ph2) .ph1 he .nil) 20
      (.app₂ .c .ph2 .ph0) .ph1 (by decide +kernel)

/-- the base `SUCC ONE` of `shl`: its CBV value is the closure `succC ONE`, not the numeral `2`; it is HAP-normalised when it
becomes an operand -/
theorem pow_two_hap (n : Nat) :
    Ev .HAP (app2 Gen.Church.pow (app Gen.Church.succ Gen.Church.one) (intoChurch n)) (intoChurch (2 ^ n)) :=
  Ev.app2_arg1 (cbv_succC rfl (by decide))
    (pow_core (a := succC Gen.Church.one) 2 n rfl (by decide +kernel) (ev_succ_body 1))

end ChurchHapA

open ChurchHapA

theorem church_lt_hap (m n : Nat) :
    Ev .HAP (app2 Gen.Church.lt (intoChurch m) (intoChurch n)) (fromBool (decide (m < n))) := by
  rw [show decide (m < n) = !decide (n ≤ m) by rw [Bool.eq_iff_iff]; simp]
  exact evR .HAP 101 (.church m (.church n (.bool (!decide (n ≤ m)) .nil))) .nil
    (.cons (.app .c (.app₂ .c .ph1 .ph0)) .ph2 (ev_not (church_leq_hap n m)) .nil) 20
    (.app₂ .c .ph0 .ph1) .ph2 (by decide +kernel)

theorem church_gt_hap (m n : Nat) :
    Ev .HAP (app2 Gen.Church.gt (intoChurch m) (intoChurch n)) (fromBool (decide (m > n))) := by
  rw [show decide (m > n) = !decide (m ≤ n) by rw [Bool.eq_iff_iff]; simp]
  exact evR .HAP 101 (.church m (.church n (.bool (!decide (m ≤ n)) .nil))) .nil
    (.cons (.app .c (.app₂ .c .ph0 .ph1)) .ph2 (ev_not (church_leq_hap m n)) .nil) 20
    (.app₂ .c .ph0 .ph1) .ph2 (by decide +kernel)

theorem church_geq_hap (m n : Nat) :
    Ev .HAP (app2 Gen.Church.geq (intoChurch m) (intoChurch n)) (fromBool (decide (m ≥ n))) :=
  evR .HAP 101 (.church m (.church n (.bool (decide (n ≤ m)) .nil))) .nil
    (.cons (.app₂ .c .ph1 .ph0) .ph2 (church_leq_hap n m) .nil) 20
    (.app₂ .c .ph0 .ph1) .ph2 (by decide +kernel)

theorem church_neq_hap (m n : Nat) :
    Ev .HAP (app2 Gen.Church.neq (intoChurch m) (intoChurch n)) (fromBool (decide (m ≠ n))) := by
  have h := hap_or (ev_not (church_leq_cbv m n)) (ev_not (church_leq_hap n m))
  rw [show decide (m ≠ n) = (!decide (m ≤ n) || !decide (n ≤ m)) by rw [Bool.eq_iff_iff]; simp; omega]
  exact evR .HAP 101 (.church m (.church n (.bool (!decide (m ≤ n) || !decide (n ≤ m)) .nil))) .nil
    (.cons (.app₂ .c (.app .c (.app₂ .c .ph0 .ph1)) (.app .c (.app₂ .c .ph1 .ph0))) .ph2 h .nil) 20
    (.app₂ .c .ph0 .ph1) .ph2 (by decide +kernel)

theorem succ_mod_two_beq (k r : Nat) (hr : r < 2) : ((k + 1) % 2 == r) = !(k % 2 == r) := by
  rw [Nat.add_mod]
  rcases Nat.mod_two_eq_zero_or_one k with h | h <;> rw [h] <;>
    rcases (show r = 0 ∨ r = 1 by omega) with rfl | rfl <;> rfl

theorem church_is_even_hap (n : Nat) :
    Ev .HAP (app Gen.Church.is_even (intoChurch n)) (fromBool (n % 2 == 0)) := by
  have hit : Ev .HAP (iterApp Gen.Bool.not Gen.Bool.tru n) (fromBool (n % 2 == 0)) :=
    ev_iterApp (o := .HAP) (fun k => fromBool (k % 2 == 0)) (Ev.of_isNormal rfl)
      (fun k => by
        rw [succ_mod_two_beq k 0 (by decide)]
        exact ev_not (Ev.of_isNormal (isNormal_fromBool _))) n
  exact evR .HAP 101 (.church n (.bool (n % 2 == 0) .nil)) .nil
    (.cons (.app₂ .ph0 .c .c) .ph1 (ev_church_elim (o := .HAP) n rfl rfl hit) .nil) 10
    (.app .c .ph0) .ph1 (by decide +kernel)

theorem church_is_odd_hap (n : Nat) :
    Ev .HAP (app Gen.Church.is_odd (intoChurch n)) (fromBool (n % 2 == 1)) := by
  have hit : Ev .HAP (iterApp Gen.Bool.not Gen.Bool.fls n) (fromBool (n % 2 == 1)) :=
    ev_iterApp (o := .HAP) (fun k => fromBool (k % 2 == 1)) (Ev.of_isNormal rfl)
      (fun k => by
        rw [succ_mod_two_beq k 1 (by decide)]
        exact ev_not (Ev.of_isNormal (isNormal_fromBool _))) n
  exact evR .HAP 101 (.church n (.bool (n % 2 == 1) .nil)) .nil
    (.cons (.app₂ .ph0 .c .c) .ph1 (ev_church_elim (o := .HAP) n rfl rfl hit) .nil) 10
    (.app .c .ph0) .ph1 (by decide +kernel)

theorem church_pow_hap (m n : Nat) :
    Ev .HAP (app2 Gen.Church.pow (intoChurch m) (intoChurch n)) (intoChurch (m ^ n)) :=
  pow_core m n rfl (closed_intoChurch m) (Ev.of_isNormal (normal_intoChurch m))

theorem church_shl_hap (m n : Nat) :
    Ev .HAP (app2 Gen.Church.shl (intoChurch m) (intoChurch n)) (intoChurch (m * 2 ^ n)) :=
  evR .HAP 101 (.church m (.church n (.church (2 ^ n) (.church (m * 2 ^ n) .nil)))) .nil
    (.cons (.app₂ .c .c .ph1) .ph2 (pow_two_hap n) (.cons (.app₂ .c .ph0 .ph2) .ph3 (church_mul_hap m (2 ^ n)) .nil)) 20
    (.app₂ .c .ph0 .ph1) .ph3 (by decide +kernel)

theorem church_lt_reduce_hap (m n : Nat) :
    ∃ fuel c, reduce .HAP 0 fuel (app2 Gen.Church.lt (intoChurch m) (intoChurch n)) =
      some (fromBool (decide (m < n)), c) :=
  (church_lt_hap m n).reduce
theorem church_gt_reduce_hap (m n : Nat) :
    ∃ fuel c, reduce .HAP 0 fuel (app2 Gen.Church.gt (intoChurch m) (intoChurch n)) =
      some (fromBool (decide (m > n)), c) :=
  (church_gt_hap m n).reduce
theorem church_geq_reduce_hap (m n : Nat) :
    ∃ fuel c, reduce .HAP 0 fuel (app2 Gen.Church.geq (intoChurch m) (intoChurch n)) =
      some (fromBool (decide (m ≥ n)), c) :=
  (church_geq_hap m n).reduce
theorem church_neq_reduce_hap (m n : Nat) :
    ∃ fuel c, reduce .HAP 0 fuel (app2 Gen.Church.neq (intoChurch m) (intoChurch n)) =
      some (fromBool (decide (m ≠ n)), c) :=
  (church_neq_hap m n).reduce
theorem church_is_even_reduce_hap (n : Nat) :
    ∃ fuel c, reduce .HAP 0 fuel (app Gen.Church.is_even (intoChurch n)) = some (fromBool (n % 2 == 0), c) :=
  (church_is_even_hap n).reduce
theorem church_is_odd_reduce_hap (n : Nat) :
    ∃ fuel c, reduce .HAP 0 fuel (app Gen.Church.is_odd (intoChurch n)) = some (fromBool (n % 2 == 1), c) :=
  (church_is_odd_hap n).reduce
theorem church_pow_reduce_hap (m n : Nat) :
    ∃ fuel c, reduce .HAP 0 fuel (app2 Gen.Church.pow (intoChurch m) (intoChurch n)) = some (intoChurch (m ^ n), c) :=
  (church_pow_hap m n).reduce
theorem church_shl_reduce_hap (m n : Nat) :
    ∃ fuel c, reduce .HAP 0 fuel (app2 Gen.Church.shl (intoChurch m) (intoChurch n)) =
      some (intoChurch (m * 2 ^ n), c) :=
  (church_shl_hap m n).reduce

end LC
