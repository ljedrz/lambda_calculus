/-
Stump-Fu numerals (`/repo/src/data/num/stumpfu.rs`, `church::to_stumpfu`) under the EAGER orders HAP and APP:
unbounded (all arguments) termination-and-result theorems, as big-step derivations (`LC/Proofs/Eager/BigStep.lean`),
with the `_reduce_` corollaries about the model reducer at the end of the file.

All nine operations terminate with the expected numeral under BOTH eager orders.

* HAP: numerals are closed normal forms, operators are evaluated by CBV only (not under binders), so every iteration
  `c F x` is a plain `ev_iterApp (o := .HAP)` over results that are numerals again.
* APP: the operations are typable terms (`Eager/Typed.lean`), so their HAP values are their APP values.  The successor
  eliminates its argument and what the elimination returns is the new numeral: a numeral on which `d` more successors
  follow has a type nested `d` deep (`Cs`).
-/
import LC.Proofs.Eager.ScottParigot

namespace LC
open Term Spec Enc Eager

theorem stumpfu_is_zero_hap (n : Nat) : Ev .HAP (app Gen.StumpFu.is_zero (intoStumpFu n)) (fromBool (n == 0)) := by
  cases n with
  | zero => exact evR .HAP 101 .nil .nil .nil 20 (.app .c .c) .c (by decide +kernel)
  | succ n =>
    -- `.stumpfu_succ` reads the argument `stumpfu (n+1)` over ph0 = `church (n+1)`, ph1 = `stumpfu n` (so in all cases below)
    exact evR .HAP 101 (.church (n + 1) (.stumpfu n .nil)) .nil .nil 20 (.app .c .stumpfu_succ) (.c (t := Gen.Bool.fls))
      (by decide +kernel)

theorem stumpfu_is_zero_app (n : Nat) : Ev .APP (app Gen.StumpFu.is_zero (intoStumpFu n)) (fromBool (n == 0)) := by
  cases n with
  | zero => exact evR1 .APP 101 .nil .nil 20 (.app .c .c) .c (by decide +kernel)
  | succ n =>
    exact evR1 .APP 101 (.church (n + 1) (.stumpfu n .nil)) .nil 20 (.app .c .stumpfu_succ) (.c (t := Gen.Bool.fls))
      (by decide +kernel)

theorem stumpfu_pred_hap (n : Nat) : Ev .HAP (app Gen.StumpFu.pred (intoStumpFu n)) (intoStumpFu (n - 1)) := by
  cases n with
  | zero => exact evR .HAP 101 .nil .nil .nil 20 (.app .c .c) .c (by decide +kernel)
  | succ n =>
    exact evR .HAP 101 (.church (n + 1) (.stumpfu n .nil)) .nil .nil 20 (.app .c .stumpfu_succ) .ph1 (by decide +kernel)

theorem stumpfu_pred_app (n : Nat) : Ev .APP (app Gen.StumpFu.pred (intoStumpFu n)) (intoStumpFu (n - 1)) := by
  cases n with
  | zero => exact evR1 .APP 101 .nil .nil 20 (.app .c .c) .c (by decide +kernel)
  | succ n =>
    exact evR1 .APP 101 (.church (n + 1) (.stumpfu n .nil)) .nil 20 (.app .c .stumpfu_succ) .ph1 (by decide +kernel)

theorem stumpfu_to_church_hap (n : Nat) : Ev .HAP (app Gen.StumpFu.to_church (intoStumpFu n)) (intoChurch n) := by
  cases n with
  | zero => exact evR .HAP 101 .nil .nil .nil 20 (.app .c .c) .c (by decide +kernel)
  | succ n =>
    exact evR .HAP 101 (.church (n + 1) (.stumpfu n .nil)) .nil .nil 20 (.app .c .stumpfu_succ) .ph0 (by decide +kernel)

theorem stumpfu_to_church_app (n : Nat) : Ev .APP (app Gen.StumpFu.to_church (intoStumpFu n)) (intoChurch n) := by
  cases n with
  | zero => exact evR1 .APP 101 .nil .nil 20 (.app .c .c) .c (by decide +kernel)
  | succ n =>
    exact evR1 .APP 101 (.church (n + 1) (.stumpfu n .nil)) .nil 20 (.app .c .stumpfu_succ) .ph0 (by decide +kernel)

theorem stumpfu_succ_hap (n : Nat) : Ev .HAP (app Gen.StumpFu.succ (intoStumpFu n)) (intoStumpFu (n + 1)) := by
  cases n with
  | zero => exact evR .HAP 101 .nil .nil .nil 30 (.app .c .c) .c (by decide +kernel)
  | succ n =>
    -- placeholders: the two components of the argument, the Church successor; looked up: `succC c` for the Church
    -- component `c`, whose normal form is the first component of the result
    exact evR .HAP 101 (.church (n + 1) (.stumpfu n (.church (n + 1 + 1) .nil))) .nil
      (.cons (.succC .ph0) .ph2 (ev_succ_body (n + 1)) .nil) 30
      (.app .c .stumpfu_succ) (.abs (.abs (.app (.app (.fv (by decide)) .ph2) .stumpfu_succ))) (by decide +kernel)

theorem church_to_stumpfu_hap (n : Nat) : Ev .HAP (app Gen.Church.to_stumpfu (intoChurch n)) (intoStumpFu n) := by
  have h := ev_church_elim (o := .HAP) n (f := Gen.StumpFu.succ) (x := intoStumpFu 0) rfl (isNormal_intoStumpFu 0)
    (ev_iterApp (o := .HAP) intoStumpFu (Ev.of_isNormal (isNormal_intoStumpFu 0)) stumpfu_succ_hap n)
  exact evR .HAP 101 (.church n (.stumpfu n .nil)) .nil (.cons (.app (.app .ph0 .c) .c) .ph1 h .nil) 20
    (.app .c .ph0) .ph1 (by decide +kernel)

theorem stumpfu_add_hap (m n : Nat) :
    Ev .HAP (app2 Gen.StumpFu.add (intoStumpFu m) (intoStumpFu n)) (intoStumpFu (m + n)) := by
  cases m with
  | zero =>
    rw [Nat.zero_add]
    exact evR .HAP 101 (.stumpfu n .nil) .nil .nil 30 (.app (.app .c .c) .ph0) .ph0 (by decide +kernel)
  | succ m =>
    -- the Church component of `m + 1` iterates the successor on `n`
    have h : Ev .HAP (app2 (intoChurch (m + 1)) Gen.StumpFu.succ (intoStumpFu n)) (intoStumpFu (m + 1 + n)) := by
      rw [show m + 1 + n = n + (m + 1) by omega]
      exact ev_church_elim (o := .HAP) (m + 1) rfl (isNormal_intoStumpFu n)
        (ev_iterApp (o := .HAP) (fun k => intoStumpFu (n + k)) (Ev.of_isNormal (isNormal_intoStumpFu n))
          (fun k => stumpfu_succ_hap (n + k)) (m + 1))
    exact evR .HAP 101 (.church (m + 1) (.stumpfu m (.stumpfu n (.stumpfu (m + 1 + n) .nil)))) .nil
      (.cons (.app (.app .ph0 .c) .ph2) .ph3 h .nil) 30
      (.app (.app .c .stumpfu_succ) .ph2) .ph3 (by decide +kernel)

theorem stumpfu_mul_hap (m n : Nat) :
    Ev .HAP (app2 Gen.StumpFu.mul (intoStumpFu m) (intoStumpFu n)) (intoStumpFu (m * n)) := by
  cases m with
  | zero =>
    rw [Nat.zero_mul]
    exact evR .HAP 101 (.stumpfu n .nil) .nil .nil 30 (.app (.app .c .c) .ph0) .c (by decide +kernel)
  | succ m =>
    -- the Church component of `m + 1` iterates `λx. ADD n x` on zero
    have hstep : ∀ k, Ev .HAP (app (abs (app2 Gen.StumpFu.add (intoStumpFu n) (var 1))) (intoStumpFu (k * n)))
        (intoStumpFu ((k + 1) * n)) := fun k => by
      have ha := stumpfu_add_hap n (k * n)
      rw [show (k + 1) * n = n + k * n by rw [Nat.succ_mul]; omega]
      exact evR .HAP 101 (.stumpfu n (.stumpfu (k * n) (.stumpfu (n + k * n) .nil))) .nil
        (.cons (.app (.app .c .ph0) .ph1) .ph2 ha .nil) 20
        (.app (.abs (.app (.app .c .ph0) (.fv (by decide)))) .ph1) .ph2 (by decide +kernel)
    have h : Ev .HAP (app2 (intoChurch (m + 1)) (abs (app2 Gen.StumpFu.add (intoStumpFu n) (var 1))) (intoStumpFu 0))
        (intoStumpFu ((m + 1) * n)) :=
      ev_church_elim (o := .HAP) (m + 1) rfl rfl
        (ev_iterApp (o := .HAP) (fun k => intoStumpFu (k * n)) (by rw [Nat.zero_mul]; exact Ev.of_isNormal rfl) hstep (m + 1))
    exact evR .HAP 101 (.church (m + 1) (.stumpfu m (.stumpfu n (.stumpfu ((m + 1) * n) .nil)))) .nil
      (.cons (.app (.app .ph0 (.abs (.app (.app .c .ph2) (.fv (by decide))))) .c) .ph3 h .nil) 30
      (.app (.app .c .stumpfu_succ) .ph2) .ph3 (by decide +kernel)

theorem stumpfu_to_scott_hap (n : Nat) : Ev .HAP (app Gen.StumpFu.to_scott (intoStumpFu n)) (intoScott n) := by
  cases n with
  | zero => exact evR .HAP 101 .nil .nil .nil 30 (.app .c .c) .c (by decide +kernel)
  | succ n =>
    have h := ev_church_elim (o := .HAP) (n + 1) (f := Gen.Scott.succ) (x := intoScott 0) rfl (isNormal_intoScott 0)
      (ev_iterApp (o := .HAP) intoScott (Ev.of_isNormal (isNormal_intoScott 0)) scott_succ_hap (n + 1))
    exact evR .HAP 101 (.church (n + 1) (.stumpfu n (.scott (n + 1) .nil))) .nil
      (.cons (.app (.app .ph0 .c) .c) .ph2 h .nil) 30 (.app .c .stumpfu_succ) .ph2 (by decide +kernel)

theorem stumpfu_to_parigot_hap (n : Nat) : Ev .HAP (app Gen.StumpFu.to_parigot (intoStumpFu n)) (intoParigot n) := by
  cases n with
  | zero => exact evR .HAP 101 .nil .nil .nil 30 (.app .c .c) .c (by decide +kernel)
  | succ n =>
    have h := ev_church_elim (o := .HAP) (n + 1) (f := Gen.Parigot.succ) (x := intoParigot 0) rfl (isNormal_intoParigot 0)
      (ev_iterApp (o := .HAP) intoParigot (Ev.of_isNormal (isNormal_intoParigot 0)) parigot_succ_hap (n + 1))
    exact evR .HAP 101 (.church (n + 1) (.stumpfu n (.parigot (n + 1) .nil))) .nil
      (.cons (.app (.app .ph0 .c) .c) .ph2 h .nil) 30 (.app .c .stumpfu_succ) .ph2 (by decide +kernel)

namespace EagerSF

/-! ## the shape of the APP-normal forms

`succN` is the APP-normal form of `SUCC`; `sT x k` that of `SUCCᵏ x` for a variable `x`; `aC` the step of `ADD`, and `mT m x k`
the APP-normal form of `(λx. ADD m x)ᵏ x`. -/

/-- the step function `λcpfa. f (CHURCH_SUCC c) n` of `SUCC`, APP-normalised, for `n := t` -/
def sA (t : Term) : Term :=
  abs (abs (abs (abs (app2 (var 2) (abs (abs (app (var 2) (app2 (var 6) (var 2) (var 1))))) (shiftFV 4 0 t)))))

def succN : Term := abs (app2 (var 1) (sA (var 1)) (intoStumpFu 1))

theorem succ_norm : EvalApp Gen.StumpFu.succ succN :=
  (evR1 .APP 101 .nil .nil 40 (T' := Gen.StumpFu.succ) (V' := succN) .c .c (by decide +kernel)).toApp

theorem closed_succN : Closed succN := by decide

/-- `SUCCᵏ x` after the `k` outer contractions: `x A₀ ONE A₁ ONE …` (size doubles at every turn) -/
def sT (x : Term) : Nat → Term
  | 0 => x
  | k + 1 => app2 (sT x k) (sA (sT x k)) (intoStumpFu 1)

/-- the step function `λcp. c SUCC x` of `ADD`, APP-normalised, for `x := t` -/
def aC (t : Term) : Term := abs (abs (app2 (var 2) succN (shiftFV 2 0 t)))

/-- `(λx. ADD m x)ᵏ x` after the outer contractions (`m` a variable or a numeral) -/
def mT (m x : Term) : Nat → Term
  | 0 => x
  | k + 1 => app2 m (aC (mT m x k)) (mT m x k)

theorem shiftFV_mT (a o : Nat) (m x : Term) (k : Nat) :
    shiftFV a o (mT m x k) = mT (shiftFV a o m) (shiftFV a o x) k := by
  induction k with
  | zero => rfl
  | succ k ih =>
    have e := shiftFV_comm 2 a 0 o (Nat.zero_le _) (mT m x k)
    have hs := closed_succN
    simp only [mT, aC, shiftFV, ih] at e ⊢
    simp [lc_simp, ← e, hs]
    omega

theorem isAbs_mT_var (i : Nat) (x : Term) (k : Nat) : isAbs (mT (var i) x (k + 1)) = false := rfl

/-! ## APP: typings (`Eager/Typed.lean`)

The numeral `k + 1 = λs z. s (church (k+1)) (stumpfu k)` hands its step the Church numeral and the predecessor, and does not
use `z`; the numeral `0 = λs z. z` does not use `s`. -/

theorem typed_sf_succ (Γ : List (List Ty)) {k : Nat} {c p : Ty} (zs : List Ty) (R : Ty)
    (hc : ∀ Γ', Typed Γ' (intoChurch (k + 1)) c) (hp : ∀ Γ', Typed Γ' (intoStumpFu k) p) :
    Typed Γ (intoStumpFu (k + 1)) (.arr [.arr [c] (.arr [p] R)] (.arr zs R)) :=
  Typed.abs (Typed.abs (Typed.app1 (Typed.app1 (Typed.var1 (i := 1) rfl) (hc _)) (hp _)))

/-- a type of the numeral `k` as a datum -/
def sfd : Nat → Ty
  | 0 => .arr [] (.arr [.o] .o)
  | k + 1 => .arr [.arr [Ty.N .o] (.arr [sfd k] .o)] (.arr [] .o)

theorem typed_sfd (k : Nat) : ∀ Γ, Typed Γ (intoStumpFu k) (sfd k) := by
  induction k with
  | zero => exact fun Γ => Typed.abs (Typed.abs (Typed.var1 (i := 0) rfl))
  | succ k ih => exact fun Γ => typed_sf_succ Γ [] .o (fun Γ' => typed_intoChurch_N Γ' .o (k + 1)) ih

/-- `λa. F (TO_CHURCH a)` with `TO_CHURCH a = a (λc p. c) a`, on a successor: the Church component goes to `F`; the second
`a` stands where the numeral does not look -/
theorem typed_via_church (Γ : List (List Ty)) (k : Nat) {F : Term} {c r : Ty} (hF : ∀ Γ', Typed Γ' F (.arr [c] r))
    (hc : ∀ Γ', Typed Γ' (intoChurch (k + 1)) c) :
    Typed Γ (app (abs (app F (app2 (var 1) (abs (abs (var 2))) (var 1)))) (intoStumpFu (k + 1))) r := by
  have h : Typed Γ (abs (app F (app2 (var 1) (abs (abs (var 2))) (var 1))))
      (.arr [.arr [.arr [c] (.arr [sfd k] c)] (.arr [] c)] r) :=
    Typed.abs (Typed.app1 (hF _) (Typed.app (Typed.app1 (Typed.var1 (i := 0) rfl)
      (Typed.abs (Typed.abs (Typed.var1 (i := 1) rfl)))) (Typed.var1 (i := 0) rfl) (fun _ h => nomatch h)))
  exact Typed.app1 h (typed_sf_succ Γ [] c hc (typed_sfd k))

/-- `Cs i j`: a type of the numeral `j` on which `i` more successors can be taken (`j` says which numeral, `i` how many
successors follow).  `SUCC a = a (λc p s z. s (CHURCH_SUCC c) a) ONE` ELIMINATES its argument, and what the elimination
returns is the new numeral: so the type of `a` is an elimination type whose result is the type of `a + 1`, and if a
successor is to be taken of that too, this result is again such a type: `Cs (i + 1) j` eliminates to `Cs i (j + 1)`.  With
no successor to come the numeral is a datum, `Cs 0 j = sfd j`.  `SUCC` also stores `a` as the predecessor, so it takes `a`
at the two types `Cs (i + 1) j` and `sfd j` (`typed_sfsucc`). -/
def Cs : Nat → Nat → Ty
  | 0, j => sfd j
  | i + 1, 0 => .arr [] (.arr [Cs i 1] (Cs i 1))
  | i + 1, j + 1 => .arr [.arr [Ty.N .o] (.arr [sfd j] (Cs i (j + 2)))] (.arr [] (Cs i (j + 2)))

theorem typed_Cs (i : Nat) : ∀ j Γ, Typed Γ (intoStumpFu j) (Cs i j) := by
  induction i with
  | zero => exact typed_sfd
  | succ i ih =>
    intro j Γ
    cases j with
    | zero => exact Typed.abs (Typed.abs (Typed.var1 (i := 0) rfl))
    | succ j => exact typed_sf_succ Γ [] _ (fun Γ' => typed_intoChurch_N Γ' .o (j + 1)) (typed_sfd j)

/-- `Cs i (j+1)`, `i` arbitrary: a successor whose predecessor is stored at `sfd j` -/
theorem Cs_succ (i j : Nat) : ∃ R, Cs i (j + 1) = .arr [.arr [Ty.N .o] (.arr [sfd j] R)] (.arr [] R) := by
  cases i with
  | zero => exact ⟨.o, rfl⟩
  | succ i => exact ⟨_, rfl⟩

/-- `succ = λa. a (λc p s z. s (CHURCH_SUCC c) a) ONE` -/
theorem typed_sfsucc (Γ : List (List Ty)) (i j : Nat) :
    Typed Γ Gen.StumpFu.succ (.arr [Cs (i + 1) j, sfd j] (Cs i (j + 1))) := by
  obtain ⟨R, e⟩ := Cs_succ i j
  -- the step gives the numeral `λs z. s (CHURCH_SUCC c) a`, whatever the type `P` of the predecessor it is handed
  have hstep : ∀ (P : List Ty), Typed ([Cs (i + 1) j, sfd j] :: Γ)
      (abs (abs (abs (abs (app2 (var 2) (app Gen.Church.succ (var 4)) (var 5))))))
      (.arr [Ty.N .o] (.arr P (Cs i (j + 1)))) := fun P => by
    rw [e]
    exact Typed.abs (Typed.abs (Typed.abs (Typed.abs (Typed.app1 (Typed.app1 (Typed.var1 (i := 1) rfl)
      (Typed.app1 (typed_succ _ .o) (Typed.var1 (i := 3) rfl))) (Typed.var (i := 4) rfl (.tail _ (.head _)))))))
  refine Typed.abs ?_
  cases j with
  | zero =>
    exact Typed.app1 (Typed.app (Typed.var (i := 0) rfl (.head _)) (hstep []) (fun _ h => nomatch h)) (typed_Cs i 1 _)
  | succ j =>
    exact Typed.app (Typed.app1 (Typed.var (i := 0) rfl (.head _)) (hstep [sfd j])) (typed_sfd 1 _)
      (fun _ h => nomatch h)

/-- the types of the numeral `j + k` after `k` of `n` successors, when the last one is wanted at the types `Cs i`, `i ≤ e`:
those at which `n - k` more successors can be taken to that end -/
def Lv (j n e k : Nat) : List Ty := (List.range (e + (n - k) + 1)).map fun i => Cs i (j + k)

/-- the types at which these `n` successors use the successor -/
def Sv (j n e : Nat) : List Ty :=
  (List.range n).flatMap fun k => (List.range (e + (n - k))).map fun i =>
    Ty.arr [Cs (i + 1) (j + k), sfd (j + k)] (Cs i (j + k + 1))

/-- the Church numeral `n` as iterator of the successor from the numeral `j` on, with the result at `Cs i` -/
def SIt (j n e i : Nat) : Ty := .arr (Sv j n e) (.arr (Lv j n e 0) (Cs i (j + n)))

theorem mem_Lv {j n e k i : Nat} (h : i ≤ e + (n - k)) : Cs i (j + k) ∈ Lv j n e k :=
  List.mem_map.mpr ⟨i, List.mem_range.mpr (by omega), rfl⟩

theorem typed_SIt (Γ : List (List Ty)) (j n e : Nat) {i : Nat} (hi : i ≤ e) : Typed Γ (intoChurch n) (SIt j n e i) := by
  refine typed_intoChurch_lists Γ (Lv j n e) (Sv j n e) n (fun k hk X hX => ?_) (Cs i (j + n))
    (mem_Lv (by omega))
  obtain ⟨i, hi, rfl⟩ := List.mem_map.mp hX
  have hi' : i < e + (n - k) := by have := List.mem_range.mp hi; omega
  refine ⟨[Cs (i + 1) (j + k), sfd (j + k)], List.cons_ne_nil _ _, ?_, ?_⟩
  · exact List.mem_flatMap.mpr ⟨k, List.mem_range.mpr hk, List.mem_map.mpr ⟨i, List.mem_range.mpr hi', rfl⟩⟩
  · intro ρ hρ
    simp only [List.mem_cons, List.mem_nil_iff, or_false] at hρ
    rcases hρ with rfl | rfl
    · exact mem_Lv (by omega)
    · exact mem_Lv (i := 0) (by omega)

/-- `c SUCC x` where `c` iterates the successor `n` times from the numeral `j` on and `x` has the types of `j` -/
theorem typed_succ_iter {Γ : List (List Ty)} {c x : Term} {j n e i : Nat} (hc : Typed Γ c (SIt j n e i))
    (hx : ∀ σ ∈ Lv j n e 0, Typed Γ x σ) : Typed Γ (app2 c Gen.StumpFu.succ x) (Cs i (j + n)) := by
  refine Typed.app (Typed.app hc (typed_sfsucc Γ 0 0) (fun σ hσ => ?_)) (hx _ (mem_Lv (i := 0) (by omega))) hx
  obtain ⟨k, _, hσ⟩ := List.mem_flatMap.mp hσ
  obtain ⟨i, _, rfl⟩ := List.mem_map.mp hσ
  exact typed_sfsucc Γ i (j + k)

theorem typed_Lv (Γ : List (List Ty)) (j n e : Nat) : ∀ σ ∈ Lv j n e 0, Typed Γ (intoStumpFu j) σ := by
  intro σ hσ
  obtain ⟨i, _, rfl⟩ := List.mem_map.mp hσ
  exact typed_Cs i j Γ

/-- `add = λa b. a (λc p. c SUCC b) b` on a successor `a = m + 1`: its Church component iterates the successor on `b` -/
theorem typed_sfadd (Γ : List (List Ty)) (j m e i : Nat) :
    Typed Γ Gen.StumpFu.add (.arr [.arr [.arr [SIt j (m + 1) e i] (.arr [sfd m] (Cs i (j + (m + 1))))]
      (.arr [] (Cs i (j + (m + 1))))] (.arr (Lv j (m + 1) e 0) (Cs i (j + (m + 1))))) :=
  Typed.abs (Typed.abs (Typed.app (Typed.app1 (Typed.var1 (i := 1) rfl)
    (Typed.abs (Typed.abs (typed_succ_iter (Typed.var1 (i := 1) rfl) (fun σ hσ => Typed.var (i := 2) rfl hσ)))))
    (Typed.var (i := 0) rfl (mem_Lv (i := 0) (by omega))) (fun _ h => nomatch h)))

/-- the numeral `m + 1` at the type at which `add` takes it, for the second summand `j` -/
theorem typed_summand (Γ : List (List Ty)) (j m e : Nat) {i : Nat} (hi : i ≤ e) :
    Typed Γ (intoStumpFu (m + 1)) (.arr [.arr [SIt j (m + 1) e i] (.arr [sfd m] (Cs i (j + (m + 1))))]
      (.arr [] (Cs i (j + (m + 1))))) :=
  typed_sf_succ Γ [] _ (fun Γ' => typed_SIt Γ' j (m + 1) e hi) (typed_sfd m)

/-- `mul (m+1) (n+1) = λa b. a (λc p. c (λx. ADD b x) ZERO) ZERO`: the Church component of the first factor iterates
`λx. ADD b x` on zero; after `k` turns the numeral is `k * (n+1)`, and `m + 1 - k` more additions follow, that is
`(m + 1 - k) * (n+1)` successors -/
def Mv (n r p : Nat) : List Ty := (List.range (r * (n + 1) + 1)).map fun i => Cs i p

/-- the types of `b` in the `k`-th addition, `r` additions before the end -/
def addTy (n r p i : Nat) : Ty :=
  .arr [.arr [SIt p (n + 1) (r * (n + 1)) i] (.arr [sfd n] (Cs i (p + (n + 1))))] (.arr [] (Cs i (p + (n + 1))))

theorem typed_addStep {Γ : List (List Ty)} {b : Term} (n r p i : Nat)
    (hb : ∀ Xs, Typed (Xs :: Γ) b (addTy n r p i)) :
    Typed Γ (abs (app2 Gen.StumpFu.add b (var 1))) (.arr (Lv p (n + 1) (r * (n + 1)) 0) (Cs i (p + (n + 1)))) :=
  Typed.abs (Typed.app (Typed.app1 (typed_sfadd _ p n _ i) (hb _))
    (Typed.var (i := 0) rfl (mem_Lv (i := 0) (by omega))) (fun σ hσ => Typed.var (i := 0) rfl hσ))

/-- the types of the second factor: one for every addition and every type wanted of its result -/
def Bv (n m : Nat) : List Ty :=
  (List.range m).flatMap fun k => (List.range ((m - k - 1) * (n + 1) + 1)).map fun i =>
    addTy n (m - k - 1) (k * (n + 1)) i

/-- the types at which the Church component of the first factor uses `λx. ADD b x` -/
def Gv (n m : Nat) : List Ty :=
  (List.range m).flatMap fun k => (List.range ((m - k - 1) * (n + 1) + 1)).map fun i =>
    Ty.arr (Lv (k * (n + 1)) (n + 1) ((m - k - 1) * (n + 1)) 0) (Cs i (k * (n + 1) + (n + 1)))

theorem typed_mulIt (Γ : List (List Ty)) (n m : Nat) :
    Typed Γ (intoChurch m) (.arr (Gv n m) (.arr (Mv n (m - 0) (0 * (n + 1))) (Cs 0 (m * (n + 1))))) := by
  refine typed_intoChurch_lists Γ (fun k => Mv n (m - k) (k * (n + 1))) (Gv n m) m (fun k hk X hX => ?_) _
    (by rw [Nat.sub_self]; exact List.mem_map.mpr ⟨0, List.mem_range.mpr (by omega), rfl⟩)
  obtain ⟨i, hi, rfl⟩ := List.mem_map.mp hX
  have hi := List.mem_range.mp hi
  rw [show m - (k + 1) = m - k - 1 by omega] at hi
  refine ⟨Lv (k * (n + 1)) (n + 1) ((m - k - 1) * (n + 1)) 0, ?_, ?_, ?_⟩
  · exact List.ne_nil_of_mem (mem_Lv (i := 0) (by omega))
  · rw [Nat.succ_mul]
    exact List.mem_flatMap.mpr ⟨k, List.mem_range.mpr hk, List.mem_map.mpr ⟨i, List.mem_range.mpr hi, rfl⟩⟩
  · intro ρ hρ
    obtain ⟨i', hi', rfl⟩ := List.mem_map.mp hρ
    have hi' := List.mem_range.mp hi'
    refine List.mem_map.mpr ⟨i', List.mem_range.mpr ?_, rfl⟩
    rw [show m - k = (m - k - 1) + 1 by omega, Nat.succ_mul]
    omega

theorem mem_Bv {n m k i : Nat} (hk : k < m) (hi : i ≤ (m - k - 1) * (n + 1)) :
    addTy n (m - k - 1) (k * (n + 1)) i ∈ Bv n m :=
  List.mem_flatMap.mpr ⟨k, List.mem_range.mpr hk, List.mem_map.mpr ⟨i, List.mem_range.mpr (by omega), rfl⟩⟩

theorem typed_sfmul (n m : Nat) :
    Typed [] (app2 Gen.StumpFu.mul (intoStumpFu (m + 1)) (intoStumpFu (n + 1))) (Cs 0 ((m + 1) * (n + 1))) := by
  let R := Cs 0 ((m + 1) * (n + 1))
  let cT : Ty := .arr (Gv n (m + 1)) (.arr (Mv n (m + 1 - 0) (0 * (n + 1))) R)
  let aT : Ty := .arr [.arr [cT] (.arr [sfd m] R)] (.arr [] R)
  have hg : ∀ σ ∈ Gv n (m + 1), Typed [[sfd m], [cT], Bv n (m + 1), [aT]]
      (abs (app2 Gen.StumpFu.add (var 4) (var 1))) σ := by
    intro σ hσ
    obtain ⟨k, hk, hσ⟩ := List.mem_flatMap.mp hσ
    obtain ⟨i, hi, rfl⟩ := List.mem_map.mp hσ
    have hi := List.mem_range.mp hi
    exact typed_addStep n _ _ i (fun Xs => Typed.var (i := 3) rfl (mem_Bv (List.mem_range.mp hk) (by omega)))
  have hstep : Typed [Bv n (m + 1), [aT]]
      (abs (abs (app2 (var 2) (abs (app2 Gen.StumpFu.add (var 4) (var 1))) Gen.StumpFu.zero)))
      (.arr [cT] (.arr [sfd m] R)) := by
    refine Typed.abs (Typed.abs (Typed.app (Typed.app (Typed.var1 (i := 1) rfl)
      (typed_addStep n (m + 1 - 0 - 1) (0 * (n + 1)) 0
        (fun Xs => Typed.var (i := 3) rfl (mem_Bv (Nat.succ_pos m) (Nat.zero_le _)))) hg)
      (typed_sfd 0 _) (fun σ hσ => ?_)))
    obtain ⟨i, _, rfl⟩ := List.mem_map.mp hσ
    rw [Nat.zero_mul]
    exact typed_Cs i 0 _
  have hmul : Typed [] Gen.StumpFu.mul (.arr [aT] (.arr (Bv n (m + 1)) R)) :=
    Typed.abs (Typed.abs (Typed.app (Typed.app1 (Typed.var1 (i := 1) rfl) hstep) (typed_sfd 0 _)
      (fun _ h => nomatch h)))
  refine Typed.app (Typed.app1 hmul (typed_sf_succ [] [] R (fun Γ' => typed_mulIt Γ' n (m + 1)) (typed_sfd m)))
    (typed_sfd (n + 1) _) (fun σ hσ => ?_)
  obtain ⟨k, _, hσ⟩ := List.mem_flatMap.mp hσ
  obtain ⟨i, hi, rfl⟩ := List.mem_map.mp hσ
  exact typed_summand [] _ n _ (by have := List.mem_range.mp hi; omega)

/-- `mul (m+1) 0`: `λx. ADD b x` gives its argument back -/
theorem typed_sfmul_zero (m : Nat) : Typed [] (app2 Gen.StumpFu.mul (intoStumpFu (m + 1)) (intoStumpFu 0)) (sfd 0) := by
  let Z0 : Ty := .arr [] (.arr [sfd 0] (sfd 0))
  have hadd : ∀ Γ, Typed Γ Gen.StumpFu.add (.arr [Z0] (.arr [sfd 0] (sfd 0))) := fun Γ =>
    Typed.abs (Typed.abs (Typed.app1 (Typed.app (Typed.var1 (i := 1) rfl)
      (Typed.abs (σs := [SIt 0 0 0 0]) (Typed.abs (σs := [.o]) (typed_succ_iter (Typed.var1 (i := 1) rfl) (fun σ hσ => by
        obtain ⟨i, hi, rfl⟩ := List.mem_map.mp hσ
        have : i = 0 := by have := List.mem_range.mp hi; omega
        subst this
        exact Typed.var1 (i := 2) rfl))))
      (fun _ h => nomatch h)) (Typed.var1 (i := 0) rfl)))
  let aT : Ty := .arr [.arr [Ty.Iter (fun _ => sfd 0) (m + 1)] (.arr [sfd m] (sfd 0))] (.arr [] (sfd 0))
  have hg : Typed [[sfd m], [Ty.Iter (fun _ => sfd 0) (m + 1)], [Z0], [aT]]
      (abs (app2 Gen.StumpFu.add (var 4) (var 1))) (.arr [sfd 0] (sfd 0)) :=
    Typed.abs (Typed.app1 (Typed.app1 (hadd _) (Typed.var1 (i := 3) rfl)) (Typed.var1 (i := 0) rfl))
  have hmul : Typed [] Gen.StumpFu.mul (.arr [aT] (.arr [Z0] (sfd 0))) :=
    Typed.abs (Typed.abs (Typed.app (Typed.app1 (Typed.var1 (i := 1) rfl)
      (Typed.abs (Typed.abs (typed_iter_app (τ := fun _ => sfd 0) (Typed.var1 (i := 1) rfl) hg (fun _ _ => hg)
        (typed_sfd 0 _))))) (typed_sfd 0 _) (fun _ h => nomatch h)))
  exact Typed.app1 (Typed.app1 hmul (typed_sf_succ [] [] _ (fun Γ' => typed_Iter Γ' _ (m + 1)) (typed_sfd m)))
    (Typed.abs (Typed.abs (Typed.var1 (i := 0) rfl)))

end EagerSF
open EagerSF

theorem stumpfu_succ_app (n : Nat) : Ev .APP (app Gen.StumpFu.succ (intoStumpFu n)) (intoStumpFu (n + 1)) :=
  (stumpfu_succ_hap n).app_of_typed (Typed.appAt2 (typed_sfsucc [] 0 n) (typed_Cs 1 n _) (typed_sfd n _))

theorem church_to_stumpfu_app (n : Nat) : Ev .APP (app Gen.Church.to_stumpfu (intoChurch n)) (intoStumpFu n) := by
  -- `to_stumpfu = λc. c SUCC ZERO`
  have h : Typed [] Gen.Church.to_stumpfu (.arr [SIt 0 n 0 0] (Cs 0 (0 + n))) :=
    Typed.abs (typed_succ_iter (Typed.var1 (i := 0) rfl) (typed_Lv _ 0 n 0))
  exact (church_to_stumpfu_hap n).app_of_typed (Typed.app1 h (typed_SIt [] 0 n 0 (Nat.le_refl 0)))

theorem stumpfu_add_app (m n : Nat) :
    Ev .APP (app2 Gen.StumpFu.add (intoStumpFu m) (intoStumpFu n)) (intoStumpFu (m + n)) := by
  cases m with
  | zero =>
    rw [Nat.zero_add]
    exact evR1 .APP 101 (.stumpfu n .nil) .nil 60 (.app (.app .c .c) .ph0) .ph0 (by decide +kernel)
  | succ m =>
    exact (stumpfu_add_hap (m + 1) n).app_of_typed (Typed.app
      (Typed.app1 (typed_sfadd [] n m 0 0) (typed_summand [] n m 0 (Nat.le_refl 0)))
      (typed_sfd n _) (typed_Lv [] n (m + 1) 0))

theorem stumpfu_to_scott_app (n : Nat) : Ev .APP (app Gen.StumpFu.to_scott (intoStumpFu n)) (intoScott n) := by
  cases n with
  | zero => exact evR1 .APP 101 .nil .nil 40 (.app .c .c) .c (by decide +kernel)
  | succ n =>
    exact (stumpfu_to_scott_hap (n + 1)).app_of_typed
      (typed_via_church [] n (fun Γ' => EagerSP.typed_to_scott Γ' (n + 1)) (fun Γ' => typed_Iter Γ' _ (n + 1)))

theorem stumpfu_to_parigot_app (n : Nat) : Ev .APP (app Gen.StumpFu.to_parigot (intoStumpFu n)) (intoParigot n) := by
  cases n with
  | zero => exact evR1 .APP 101 .nil .nil 40 (.app .c .c) .c (by decide +kernel)
  | succ n =>
    exact (stumpfu_to_parigot_hap (n + 1)).app_of_typed
      (typed_via_church [] n (fun Γ' => EagerSP.typed_to_parigot Γ' (n + 1)) (fun Γ' => typed_Iter Γ' _ (n + 1)))

theorem stumpfu_mul_app (m n : Nat) :
    Ev .APP (app2 Gen.StumpFu.mul (intoStumpFu m) (intoStumpFu n)) (intoStumpFu (m * n)) := by
  cases m with
  | zero =>
    rw [Nat.zero_mul]
    exact evR1 .APP 101 (.stumpfu n .nil) .nil 80 (.app (.app .c .c) .ph0) .c (by decide +kernel)
  | succ m =>
    cases n with
    | zero => exact (stumpfu_mul_hap (m + 1) 0).app_of_typed (typed_sfmul_zero m)
    | succ n => exact (stumpfu_mul_hap (m + 1) (n + 1)).app_of_typed (typed_sfmul n m)

theorem stumpfu_succ_reduce_hap (n : Nat) :
    ∃ fuel c, reduce .HAP 0 fuel (app Gen.StumpFu.succ (intoStumpFu n)) = some (intoStumpFu (n + 1), c) :=
  (stumpfu_succ_hap n).reduce
theorem stumpfu_succ_reduce_app (n : Nat) :
    ∃ fuel c, reduce .APP 0 fuel (app Gen.StumpFu.succ (intoStumpFu n)) = some (intoStumpFu (n + 1), c) :=
  (stumpfu_succ_app n).reduce
theorem stumpfu_pred_reduce_hap (n : Nat) :
    ∃ fuel c, reduce .HAP 0 fuel (app Gen.StumpFu.pred (intoStumpFu n)) = some (intoStumpFu (n - 1), c) :=
  (stumpfu_pred_hap n).reduce
theorem stumpfu_pred_reduce_app (n : Nat) :
    ∃ fuel c, reduce .APP 0 fuel (app Gen.StumpFu.pred (intoStumpFu n)) = some (intoStumpFu (n - 1), c) :=
  (stumpfu_pred_app n).reduce
theorem stumpfu_is_zero_reduce_hap (n : Nat) :
    ∃ fuel c, reduce .HAP 0 fuel (app Gen.StumpFu.is_zero (intoStumpFu n)) = some (fromBool (n == 0), c) :=
  (stumpfu_is_zero_hap n).reduce
theorem stumpfu_is_zero_reduce_app (n : Nat) :
    ∃ fuel c, reduce .APP 0 fuel (app Gen.StumpFu.is_zero (intoStumpFu n)) = some (fromBool (n == 0), c) :=
  (stumpfu_is_zero_app n).reduce
theorem stumpfu_to_church_reduce_hap (n : Nat) :
    ∃ fuel c, reduce .HAP 0 fuel (app Gen.StumpFu.to_church (intoStumpFu n)) = some (intoChurch n, c) :=
  (stumpfu_to_church_hap n).reduce
theorem stumpfu_to_church_reduce_app (n : Nat) :
    ∃ fuel c, reduce .APP 0 fuel (app Gen.StumpFu.to_church (intoStumpFu n)) = some (intoChurch n, c) :=
  (stumpfu_to_church_app n).reduce
theorem stumpfu_to_scott_reduce_hap (n : Nat) :
    ∃ fuel c, reduce .HAP 0 fuel (app Gen.StumpFu.to_scott (intoStumpFu n)) = some (intoScott n, c) :=
  (stumpfu_to_scott_hap n).reduce
theorem stumpfu_to_scott_reduce_app (n : Nat) :
    ∃ fuel c, reduce .APP 0 fuel (app Gen.StumpFu.to_scott (intoStumpFu n)) = some (intoScott n, c) :=
  (stumpfu_to_scott_app n).reduce
theorem stumpfu_to_parigot_reduce_hap (n : Nat) :
    ∃ fuel c, reduce .HAP 0 fuel (app Gen.StumpFu.to_parigot (intoStumpFu n)) = some (intoParigot n, c) :=
  (stumpfu_to_parigot_hap n).reduce
theorem stumpfu_to_parigot_reduce_app (n : Nat) :
    ∃ fuel c, reduce .APP 0 fuel (app Gen.StumpFu.to_parigot (intoStumpFu n)) = some (intoParigot n, c) :=
  (stumpfu_to_parigot_app n).reduce
theorem church_to_stumpfu_reduce_hap (n : Nat) :
    ∃ fuel c, reduce .HAP 0 fuel (app Gen.Church.to_stumpfu (intoChurch n)) = some (intoStumpFu n, c) :=
  (church_to_stumpfu_hap n).reduce
theorem church_to_stumpfu_reduce_app (n : Nat) :
    ∃ fuel c, reduce .APP 0 fuel (app Gen.Church.to_stumpfu (intoChurch n)) = some (intoStumpFu n, c) :=
  (church_to_stumpfu_app n).reduce
theorem stumpfu_add_reduce_hap (m n : Nat) :
    ∃ fuel c, reduce .HAP 0 fuel (app2 Gen.StumpFu.add (intoStumpFu m) (intoStumpFu n)) =
      some (intoStumpFu (m + n), c) :=
  (stumpfu_add_hap m n).reduce
theorem stumpfu_add_reduce_app (m n : Nat) :
    ∃ fuel c, reduce .APP 0 fuel (app2 Gen.StumpFu.add (intoStumpFu m) (intoStumpFu n)) =
      some (intoStumpFu (m + n), c) :=
  (stumpfu_add_app m n).reduce
theorem stumpfu_mul_reduce_hap (m n : Nat) :
    ∃ fuel c, reduce .HAP 0 fuel (app2 Gen.StumpFu.mul (intoStumpFu m) (intoStumpFu n)) =
      some (intoStumpFu (m * n), c) :=
  (stumpfu_mul_hap m n).reduce
theorem stumpfu_mul_reduce_app (m n : Nat) :
    ∃ fuel c, reduce .APP 0 fuel (app2 Gen.StumpFu.mul (intoStumpFu m) (intoStumpFu n)) =
      some (intoStumpFu (m * n), c) :=
  (stumpfu_mul_app m n).reduce

end LC
