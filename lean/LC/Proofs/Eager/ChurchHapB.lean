/-
Eager evaluation (HAP), Church numerals: the `Z`-recursive `rem`, `div`, `shr`, and `fac`, for ALL arguments.

`rem` and `div` RETURN closures produced by `pred`/`sub` chains under CBV (operator position); HAP afterwards normalises
these closures under their binders, where the closure meets OPEN arguments (the bound variables `f`, `x`): this is why
`ONum v j` (`Eager/Church.lean`) asks for the behaviour of a numeral on arbitrary CBV values and for the HAP-normal form.
-/
import LC.Proofs.Eager.ChurchHapA
import LC.Proofs.Num.ChurchB

namespace LC
open Term Spec Enc Eager

namespace ChurchHapB

/-- the CBV value of `ZF remF`, the recursion of `rem` unfolded once (computed; only that it is the value matters) -/
noncomputable def remQ : Term := (evalR 0 .CBV 101 [] [] 10 (ZF ChurchB.remF)).getD (var 0)

theorem cbv_remQ : Ev .CBV (ZF ChurchB.remF) remQ := evR1 .CBV 101 .nil .nil 10 .c .c (by decide +kernel)

theorem rem_core (j : Nat) : ∀ (v : Term) (n : Nat), ONum v j →
    Ev .HAP (app2 (ZF ChurchB.remF) v (intoChurch (n + 1))) (intoChurch (j % (n + 1))) := by
  induction j using Nat.strongRecOn with
  | _ j ih =>
    intro v n hv
    have hlt := cbv_lt_onum hv (onum_intoChurch (n + 1))
    by_cases h : j < n + 1
    · simp only [h, decide_true] at hlt
      rw [Nat.mod_eq_of_lt h]
      -- placeholders: the divisor, the numeral of `v`, then `v`
      exact evR .HAP 101 (.church (n + 1) (.church j (.onum hv .nil)))
        (.cons .c .c cbv_remQ (.cons (.app₂ .c .ph2 .ph0) .c hlt .nil)) (.cons .ph2 .ph1 hv.hap .nil) 30
        (.app₂ .c .ph2 .ph0) .ph1 (by decide +kernel)
    · simp only [h, decide_false] at hlt
      have hrec := ev_stub2 (o := .HAP) ChurchB.closed_remF (cbv_sub_onum hv (onum_intoChurch (n + 1)))
        (Ev.of_isNormal (normal_intoChurch (n + 1))) (ih (j - (n + 1)) (by omega) _ n (onum_subCv hv (n + 1)))
      rw [Nat.mod_eq_sub_mod (by omega : j ≥ n + 1)]
      -- placeholders: the divisor, the result, then `v`
      exact evR .HAP 101 (.church (n + 1) (.church ((j - (n + 1)) % (n + 1)) (.onum hv .nil)))
        (.cons .c .c cbv_remQ (.cons (.app₂ .c .ph2 .ph0) .c hlt .nil))
        (.cons (.app₂ .c (.app₂ .c .ph2 .ph0) .ph0) .ph1 hrec .nil) 30
        (.app₂ .c .ph2 .ph0) .ph1 (by decide +kernel)

/-- the quotient accumulator of `div`: `SUCCᵏ ZERO` under CBV -/
def sq : Nat → Term
  | 0 => Gen.Church.zero
  | k + 1 => succC (sq k)

@[simp] theorem isWNF_sq (k : Nat) : isWNF (sq k) = true := by cases k <;> rfl

theorem closed_sq (k : Nat) : Closed (sq k) := by
  induction k with
  | zero => decide
  | succ k ih => lc_simp [sq, succC]

theorem cbv_succ_sq (k : Nat) : Ev .CBV (app Gen.Church.succ (sq k)) (sq (k + 1)) :=
  cbv_succC (isWNF_sq k) (closed_sq k)

theorem hap_sq_app (k : Nat) : Ev .HAP (app2 (sq k) (var 2) (var 1)) (iterApp (var 2) (var 1) k) := by
  induction k with
  | zero => exact ev_church_reopen 0
  | succ k ih =>
    have hc := closed_sq k
    rw [iterApp_succ]
    refine Ev.red (Ev.beta (o := .CBV) rfl rfl (.stop rfl _)) (.var _ 1) ?_
    simp [lc_simp, hc]
    exact .deep rfl (.var _ 2) rfl ih (.var _ 2)

theorem hap_sq (k : Nat) : Ev .HAP (sq k) (intoChurch k) := by
  cases k with
  | zero => exact Ev.of_isNormal (by decide)
  | succ k =>
    rw [intoChurch_eq (k + 1), iterApp_succ]
    exact .abs rfl (.abs rfl (.deep rfl (.var _ 2) rfl (hap_sq_app k) (.var _ 2)))

noncomputable def divQ : Term := (evalR 0 .CBV 101 [] [] 10 (ZF ChurchB.divF)).getD (var 0)

theorem cbv_divQ : Ev .CBV (ZF ChurchB.divF) divQ := evR1 .CBV 101 .nil .nil 10 .c .c (by decide +kernel)

theorem div_core (j : Nat) : ∀ (v : Term) (n k : Nat), ONum v j →
    Ev .HAP (app3 (ZF ChurchB.divF) (sq k) v (intoChurch (n + 1)))
      (tuple2 (intoChurch (k + j / (n + 1))) (intoChurch (j % (n + 1)))) := by
  induction j using Nat.strongRecOn with
  | _ j ih =>
    intro v n k hv
    have hlt := cbv_lt_onum hv (onum_intoChurch (n + 1))
    by_cases h : j < n + 1
    · simp only [h, decide_true] at hlt
      rw [Nat.mod_eq_of_lt h, Nat.div_eq_of_lt h, Nat.add_zero]
      -- placeholders: the divisor, the numerals of the accumulator and of `v`, then the accumulator and `v`; the pair
      -- is normalised below its binder, where the table gives the numerals
      exact evR .HAP 101
        (.church (n + 1) (.church k (.church j (.weak (closed_sq k) (isWNF_sq k) (.onum hv .nil)))))
        (.cons .c .c cbv_divQ (.cons (.app₂ .c .ph4 .ph0) .c hlt .nil))
        (.cons .ph3 .ph1 (hap_sq k) (.cons .ph4 .ph2 hv.hap .nil)) 30
        (.app₃ .c .ph3 .ph4 .ph0) (.tuple2 .ph1 .ph2)
        (by decide +kernel)
    · simp only [h, decide_false] at hlt
      have ih' := ih (j - (n + 1)) (by omega) _ n (k + 1) (onum_subCv hv (n + 1))
      have hrec := stub_hap3 ChurchB.closed_divF (cbv_succ_sq k) (cbv_sub_onum hv (onum_intoChurch (n + 1)))
        (Ev.of_isNormal (normal_intoChurch (n + 1))) ih'
      rw [Nat.mod_eq_sub_mod (by omega : j ≥ n + 1),
        show k + j / (n + 1) = (k + 1) + (j - (n + 1)) / (n + 1) by
          rw [Nat.div_eq_sub_div (by omega) (by omega)]; omega]
      -- placeholders: the divisor, the two numerals of the result, then the accumulator and `v`
      exact evR .HAP 101
        (.church (n + 1) (.church (k + 1 + (j - (n + 1)) / (n + 1)) (.church ((j - (n + 1)) % (n + 1))
          (.weak (closed_sq k) (isWNF_sq k) (.onum hv .nil)))))
        (.cons .c .c cbv_divQ (.cons (.app₂ .c .ph4 .ph0) .c hlt .nil))
        (.cons (.app₃ .c (.app .c .ph3) (.app₂ .c .ph4 .ph0) .ph0)
          (.tuple2 .ph1 .ph2) hrec .nil) 30
        (.app₃ .c .ph3 .ph4 .ph0) (.tuple2 .ph1 .ph2)
        (by decide +kernel)

/-- `λx. fʲ x` for the variable `f = var 1` -/
def fpow (j : Nat) : Term := abs (iterApp (var 2) (var 1) j)

/-- the product accumulator of `fac` under CBV: `MUL (… (MUL ONE 1) …) k` -/
def facA : Nat → Term
  | 0 => Gen.Church.one
  | k + 1 => abs (app (facA k) (app (intoChurch (k + 1)) (var 1)))

@[simp] theorem isWNF_facA (k : Nat) : isWNF (facA k) = true := by cases k <;> rfl

theorem closed_facA (k : Nat) : Closed (facA k) := by
  induction k with
  | zero => decide
  | succ k ih => lc_simp [facA]

theorem cbv_mul_facA (k : Nat) :
    Ev .CBV (app2 Gen.Church.mul (facA k) (intoChurch (k + 1))) (facA (k + 1)) := by
  exact evR1 .CBV 101 (.church (k + 1) (.weak (closed_facA k) (isWNF_facA k) .nil)) .nil 10
    (.app₂ .c .ph1 .ph0) (.abs (.app .ph1 (.app .ph0 (.fv (by decide))))) (by decide +kernel)

theorem hap_facA_app (k : Nat) : ∀ j, Ev .HAP (app (facA k) (fpow j)) (fpow (j * ChurchB.fact k)) := by
  induction k with
  | zero =>
    intro j
    exact ev_num_pw 1 j
  | succ k ih =>
    intro j
    have hc := closed_facA k
    have h1 : Ev .HAP (app (intoChurch (k + 1)) (fpow j)) (fpow ((k + 1) * j)) := by
      rw [Nat.mul_comm]; exact ev_num_pw (k + 1) j
    have h2 := ih ((k + 1) * j)
    rw [show (k + 1) * j * ChurchB.fact k = j * ChurchB.fact (k + 1) by
      rw [ChurchB.fact_succ, Nat.mul_comm (k + 1) j, Nat.mul_assoc]] at h2
    have h3 := Ev.app_arg h1 h2
    have wn : isNormal (fpow j) = true := by simp [fpow, isNormal, isNormal_iterApp_var']
    simp only [facA]
    refine Ev.beta rfl wn ?_
    simp [lc_simp, hc]
    exact h3

theorem hap_facA (k : Nat) : Ev .HAP (facA k) (intoChurch (ChurchB.fact k)) := by
  cases k with
  | zero => exact Ev.of_isNormal (by decide)
  | succ k =>
    have h := hap_facA_app k (k + 1)
    rw [← ChurchB.fact_succ] at h
    rw [intoChurch_eq]
    exact .abs rfl (Ev.app_arg (ev_num_var (k + 1)) h)

/-- CBV values of `(λfab. f (MUL a b) (SUCC b))ᵏ K` -/
def fc : Nat → Term
  | 0 => Gen.Comb.K
  | k + 1 => abs (abs (app2 (fc k) (app2 Gen.Church.mul (var 2) (var 1)) (app Gen.Church.succ (var 1))))

@[simp] theorem isWNF_fc (k : Nat) : isWNF (fc k) = true := by cases k <;> rfl

theorem closed_fc (k : Nat) : Closed (fc k) := by
  induction k with
  | zero => decide
  | succ k ih => lc_simp [fc]

theorem cbv_iter_fc (n : Nat) : Ev .CBV (iterApp ChurchB.facStep Gen.Comb.K n) (fc n) := by
  refine ev_iterApp (o := .CBV) fc (.stop rfl _) (fun k => ?_) n
  exact evR1 .CBV 101 (.weak (closed_fc k) (isWNF_fc k) .nil) .nil 10 (.app .c .ph0)
    (.abs (.abs (.app₂ .ph0 (.app₂ .c (.fv (by decide)) (.fv (by decide))) (.app .c (.fv (by decide))))))
    (by decide +kernel)

theorem hap_fc (k : Nat) : ∀ i, Ev .HAP (app2 (fc k) (facA i) (intoChurch (i + 1))) (intoChurch (ChurchB.fact (i + k))) := by
  induction k with
  | zero =>
    intro i
    simp only [fc, Nat.add_zero]
    exact evR .HAP 101 (.church (i + 1) (.church (ChurchB.fact i) (.weak (closed_facA i) (isWNF_facA i) .nil))) .nil
      (.cons .ph2 .ph1 (hap_facA i) .nil) 10 (.app₂ .c .ph2 .ph0) .ph1 (by decide +kernel)
  | succ k ih =>
    intro i
    have h := ih (i + 1)
    rw [show i + 1 + k = i + (k + 1) by omega] at h
    have h2 := ev_app2_args (o := .HAP) (f := fc k) (cbv_mul_facA i) (church_succ_hap (i + 1)) h
    -- placeholders: the counter, the result, then `fc k` and the accumulator
    exact evR .HAP 101
      (.church (i + 1) (.church (ChurchB.fact (i + (k + 1))) (.weak (closed_fc k) (isWNF_fc k)
        (.weak (closed_facA i) (isWNF_facA i) .nil)))) .nil
      (.cons (.app₂ .ph2 (.app₂ .c .ph3 .ph0) (.app .c .ph0)) .ph1 h2 .nil) 10
      (.app₂ (.abs (.abs (.app₂ .ph2 (.app₂ .c (.fv (by decide)) (.fv (by decide))) (.app .c (.fv (by decide)))))) .ph3 .ph0) .ph1 (by decide +kernel)

end ChurchHapB

theorem church_rem_hap (m n : Nat) :
    Ev .HAP (app2 Gen.Church.rem (intoChurch m) (intoChurch (n + 1))) (intoChurch (m % (n + 1))) := by
  rw [ChurchB.rem_eq]
  exact hap_Z2 ChurchB.closed_remF (by decide +kernel) (ChurchHapB.rem_core m _ n (onum_intoChurch m))

theorem church_rem_reduce_hap (m n : Nat) :
    ∃ fuel c, reduce .HAP 0 fuel (app2 Gen.Church.rem (intoChurch m) (intoChurch (n + 1))) =
      some (intoChurch (m % (n + 1)), c) :=
  (church_rem_hap m n).reduce

theorem church_div_hap (m n : Nat) :
    Ev .HAP (app2 Gen.Church.div (intoChurch m) (intoChurch (n + 1)))
      (tuple2 (intoChurch (m / (n + 1))) (intoChurch (m % (n + 1)))) := by
  have h := ChurchHapB.div_core m _ n 0 (onum_intoChurch m)
  rw [Nat.zero_add] at h
  rw [ChurchB.div_eq]
  exact hap_Z3 ChurchB.closed_divF (by decide +kernel) h

theorem church_div_reduce_hap (m n : Nat) :
    ∃ fuel c, reduce .HAP 0 fuel (app2 Gen.Church.div (intoChurch m) (intoChurch (n + 1))) =
      some (tuple2 (intoChurch (m / (n + 1))) (intoChurch (m % (n + 1))), c) :=
  (church_div_hap m n).reduce

theorem church_shr_hap (m n : Nat) :
    Ev .HAP (app2 Gen.Church.shr (intoChurch m) (intoChurch n)) (intoChurch (m / 2 ^ n)) := by
  have hz := church_is_zero_cbv (onum_intoChurch n)
  have hp := ChurchHapA.pow_two_hap n
  have hq := church_quot_hap m (2 ^ n - 1)
  rw [show 2 ^ n - 1 + 1 = 2 ^ n from Nat.sub_add_cancel (Nat.two_pow_pos n)] at hq
  have h := ev_ite (o := .HAP) hz (Ev.of_isWNF (isWNF_intoChurch m)) (Ev.of_isNormal (normal_intoChurch m))
    (Ev.app_arg hp hq)
  rw [show (if (n == 0) = true then intoChurch m else intoChurch (m / 2 ^ n)) = intoChurch (m / 2 ^ n) by
    cases n <;> simp] at h
  exact evR .HAP 101 (.church m (.church n (.church (m / 2 ^ n) .nil))) .nil
    (.cons (.app₂ (.app .c .ph1) .ph0 (.app₂ .c .ph0 (.app₂ .c (.app .c .c) .ph1))) .ph2 h .nil) 10
    (.app₂ .c .ph0 .ph1) .ph2 (by decide +kernel)

theorem church_shr_reduce_hap (m n : Nat) :
    ∃ fuel c, reduce .HAP 0 fuel (app2 Gen.Church.shr (intoChurch m) (intoChurch n)) =
      some (intoChurch (m / 2 ^ n), c) :=
  (church_shr_hap m n).reduce

theorem church_fac_hap (n : Nat) :
    Ev .HAP (app Gen.Church.fac (intoChurch n)) (intoChurch (ChurchB.fact n)) := by
  have h1 := ChurchHapB.cbv_iter_fc n
  have h2 := ChurchHapB.hap_fc n 0
  rw [Nat.zero_add n] at h2
  simp only [ChurchB.facStep] at h1
  refine Ev.beta rfl (normal_intoChurch n) ?_
  simp [lc_simp]
  refine Ev.app2_fn (g := ChurchHapB.fc n) ?_ h2
  exact ev_church_elim (o := .CBV) n rfl rfl h1

theorem church_fac_reduce_hap (n : Nat) :
    ∃ fuel c, reduce .HAP 0 fuel (app Gen.Church.fac (intoChurch n)) = some (intoChurch (ChurchB.fact n), c) :=
  (church_fac_hap n).reduce

end LC
