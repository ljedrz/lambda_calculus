/-
Scott, Parigot and Stump-Fu numerals as values of the eager orders: their shapes (`simp` lemmas), and the
numerals as closed normal values behind the placeholders of the evaluators of `Reflect.lean` (`Vals.*`), with the reading
rules for successor numerals (`Inst.scott_succ`, `Inst.stumpfu_succ`; the rule for pairs, `Inst.tuple2`, is in
`Eager/Church.lean`).
-/
import LC.Proofs.Eager.Church
import LC.Props.C12

namespace LC
open Term Spec Enc

namespace EagerSF
@[simp] theorem isWNF_intoScott (n : Nat) : isWNF (intoScott n) = true := by cases n <;> rfl
@[simp] theorem isWNF_intoStumpFu (n : Nat) : isWNF (intoStumpFu n) = true := by cases n <;> rfl
@[simp] theorem isAbs_intoStumpFu (n : Nat) : isAbs (intoStumpFu n) = true := by cases n <;> rfl
end EagerSF

namespace EagerSP
@[simp] theorem isAbs_intoScott (n : Nat) : isAbs (intoScott n) = true := by cases n <;> rfl
@[simp] theorem isAbs_intoParigot (n : Nat) : isAbs (intoParigot n) = true := by cases n <;> rfl
end EagerSP

namespace Eager

@[simp] theorem isNormal_intoScott (n : Nat) : isNormal (intoScott n) = true := C12_normal_scott n
@[simp] theorem isNormal_intoParigot (n : Nat) : isNormal (intoParigot n) = true := C12_normal_parigot n
@[simp] theorem isWNF_intoParigot (n : Nat) : isWNF (intoParigot n) = true := by cases n <;> rfl
@[simp] theorem isNormal_intoStumpFu (n : Nat) : isNormal (intoStumpFu n) = true := C12_normal_stumpfu n

theorem Vals.scott (n : Nat) {nv : Nat} {xs : List Term} (h : Vals nv xs) : Vals (nv + 1) (intoScott n :: xs) :=
  .normal (closed_intoScott n) (isNormal_intoScott n) h

theorem Vals.parigot (n : Nat) {nv : Nat} {xs : List Term} (h : Vals nv xs) : Vals (nv + 1) (intoParigot n :: xs) :=
  .normal (closed_intoParigot n) (isNormal_intoParigot n) h

theorem Vals.stumpfu (n : Nat) {nv : Nat} {xs : List Term} (h : Vals nv xs) : Vals (nv + 1) (intoStumpFu n :: xs) :=
  .normal (closed_intoStumpFu n) (isNormal_intoStumpFu n) h

/-- the successor numeral `stumpfu (n+1) = λsz. s (church (n+1)) (stumpfu n)` read as a tree over its two components;
the rule FIXES the first two placeholders: `ph0` is `church (n+1)`, `ph1` is `stumpfu n` (further values follow them) -/
theorem Inst.stumpfu_succ {P : Nat} {n : Nat} {xs : List Term} (hP : 0 < P := by decide) :
    Inst P (intoChurch (n + 1) :: intoStumpFu n :: xs)
      (Term.abs (Term.abs (app2 (var 2) (var (P + 1 + 1)) (var (P + 1 + 1 + 1))))) (intoStumpFu (n + 1)) :=
  Inst.abs (Inst.abs (Inst.app (Inst.app (Inst.fv (by omega)) Inst.ph0) Inst.ph1))

/-- `scott (n+1) = λzs. s (scott n)` read as a tree; the rule FIXES the first placeholder: `ph0` is `scott n` -/
theorem Inst.scott_succ {P : Nat} {n : Nat} {xs : List Term} (hP : 0 < P := by decide) :
    Inst P (intoScott n :: xs) (Term.abs (Term.abs (Term.app (var 1) (var (P + 1 + 1))))) (intoScott (n + 1)) :=
  Inst.abs (Inst.abs (Inst.app (Inst.fv (by omega)) Inst.ph0))

end Eager
end LC
