/-
Eager evaluation (order HAP) of the Church (fold) and Parigot lists on lists `ts` of closed normal terms, as big-step
derivations (`LC/Proofs/Eager/BigStep.lean`).  Their bodies are folds, not cells.  Three facts have symbolic length and
are derived by hand: a CBV value `λλ.b` applied to the two innermost variables continues as `b` (`hap_eta2`), hence the cell
`λλ. 1 a (h 2 1)` that `cons` and the step of `TAIL` build normalises to the conversion (`hap_ccell`, `hap_pcell`), and
`l n c` continues as the fold of the values of `c` and `n` (`hap_chl_elim`, `hap_pgl_elim`).  Everything else is a run of the
evaluator of `Reflect.lean` in which the list, `l n c` and the new cell stand behind placeholders AS WHOLE CLOSED TERMS and
are looked up as they stand (a closed key survives the binders).
(The cells of the pair and Scott lists are in `LC/Proofs/List/MoreHap.lean`.)
-/
import LC.Proofs.Eager.ChurchCbv
import LC.Proofs.Eager.Reflect
import LC.Props.C16Base

namespace LC
open Term Spec Enc RL Eager C16

namespace Eager

/-- the head of an application may be replaced by its value (the orders are deterministic) -/
theorem ev_app_of_fn_value {o : Order} {f g x r : Term} (hf : Ev o.head f g) (h : Ev o (app f x) r)
    (he : o.eager = true := by rfl) : Ev o (app g x) r := by
  have he' := Ev.head_eager he
  have hg : Ev o.head g g := Ev.of_nf (hf.nf he') he'
  cases h with
  | red hl hr hn =>
    have e := hl.det hf he'; subst e
    exact Ev.red hg hr hn
  | neu hd hl hna hr =>
    have e := hl.det hf he'; subst e
    exact Ev.neu hd hg hna hr
  | deep hd hl hna hr hl' =>
    have e := hl.det hf he'; subst e
    exact Ev.deep hd hg hna hr hl'

end Eager

namespace EagerListA

@[simp] theorem isAbs_cl (ns : List Nat) : isAbs (pairList (ns.map intoChurch)) = true := by
  cases ns <;> rfl

theorem cl_nil : cl [] = abs (abs (var 1)) := rfl

/-- CBV value of `SUCCᵏ ZERO`: `λf x. f (… f x)` with the inner numeral NOT normalised (the same clauses as
`ChurchHapB.sq`, where the evaluation lemmas are) -/
def sc : Nat → Term
  | 0 => intoChurch 0
  | k + 1 => abs (abs (app (var 2) (app2 (sc k) (var 2) (var 1))))

@[simp] theorem isAbs_sc (k : Nat) : isAbs (sc k) = true := by cases k <;> rfl

/-! ## the Church (fold) list -/

/-- lists of closed normal terms; elementwise `C16.HapValue` (`cn_of_hapValue`, `LC/Proofs/List/MoreHap.lean`) -/
def CN (ts : List Term) : Prop := ∀ t ∈ ts, Closed t ∧ isNormal t = true

theorem CN.tail {t : Term} {ts : List Term} (h : CN (t :: ts)) : CN ts := forall_tail h
theorem CN.closed {ts : List Term} (h : CN ts) : ∀ t ∈ ts, Closed t := fun t ht => (h t ht).1
theorem CN.normal {ts : List Term} (h : CN ts) : ∀ t ∈ ts, isNormal t = true := fun t ht => (h t ht).2
theorem Vals.el {a : Term} {ts : List Term} (h : CN (a :: ts)) {nv : Nat} {xs : List Term} (hxs : Vals nv xs) :
    Vals (nv + 1) (a :: xs) := .normal (h a List.mem_cons_self).1 (h a List.mem_cons_self).2 hxs

theorem Vals.chl {ts : List Term} (h : CN ts) {nv : Nat} {xs : List Term} (hxs : Vals nv xs) :
    Vals (nv + 1) (churchList ts :: xs) := .normal (closed_churchList h.closed) (normal_churchList _ h.normal) hxs

theorem Vals.pgl {ts : List Term} (h : CN ts) {nv : Nat} {xs : List Term} (hxs : Vals nv xs) :
    Vals (nv + 1) (parigotList ts :: xs) := .normal (closed_parigotList h.closed) (C12.parigotList_normal _ h.normal) hxs

/-- η under HAP: a CBV value `λλ.b`, with `b` closed under its two binders, applied to the two innermost variables
continues as `b` itself (the two contractions substitute the variables for themselves) -/
theorem hap_eta2 {h b b' : Term} (hh : Ev .CBV h (abs (abs b))) (cb : closedAt 2 b = true) (hb : Ev .HAP b b') :
    Ev .HAP (app2 h (var 2) (var 1)) b' := by
  have e : applyAux (var 1) 1 (applyAux (var 2) 2 b) = b := by
    have := ListMore.applyAux_self 0 b
    rwa [shiftFV_closedAt 2 2 2 (Nat.le_refl 2) cb] at this
  refine Ev.red (b := applyAux (var 2) 2 b) (Ev.red hh (Ev.var _ 2) (Ev.stop rfl _)) (Ev.var _ 1) ?_
  show Ev .HAP (applyAux (var 1) 1 (applyAux (var 2) 2 b)) b'
  rw [e]; exact hb

/-- the cell that `cons` and the step of `TAIL` leave after their contractions, `λλ. 1 a (h 2 1)` with `h` evaluating to the
list, normalises to the conversion of the longer list -/
theorem hap_ccell {ts : List Term} (hts : CN ts) {h a : Term} (hh : Ev .CBV h (churchList ts)) (na : isNormal a = true) :
    Ev .HAP (abs (abs (app2 (var 1) a (app2 h (var 2) (var 1))))) (churchList (a :: ts)) :=
  Ev.abs rfl (Ev.abs rfl (Ev.deep rfl (Ev.neu rfl (Ev.var _ 1) rfl (Ev.of_isWNF (isNormal_isWNF na))) rfl
    (hap_eta2 hh (closedAt_churchListBody hts.closed 0) (Ev.of_isNormal (C12.churchListBody_normal _ hts.normal)))
    (Ev.deep rfl (Ev.var _ 1) rfl (Ev.of_isNormal na) (Ev.var _ 1))))

/-- `l n c` contracts to the body of the list with `n`, `c` evaluated and put in: the right fold -/
theorem hap_chl_elim {ts : List Term} (hts : CN ts) {n n' c c' v : Term} (h1 : Ev .CBV n n') (h2 : Ev .HAP c c')
    (h : Ev .HAP (ts.foldr (fun t acc => app2 c' t acc) n') v) : Ev .HAP (app2 (churchList ts) n c) v := by
  refine Ev.red (b := applyAux n' 2 (churchListBody ts)) (Ev.red (Ev.stop rfl _) h1 (Ev.stop rfl _)) h2 ?_
  show Ev .HAP (applyAux c' 1 (applyAux n' 2 (churchListBody ts))) v
  rw [churchListBody_inst hts.closed]; exact h

/-- a fold over a list is evaluated from the END of the list under HAP (the operand first) -/
theorem hap_cfold {c n : Term} (w : List Term → Term) (h0 : Ev .HAP n (w []))
    (hs : ∀ a ts, CN (a :: ts) → Ev .HAP (app2 c a (w ts)) (w (a :: ts))) {ts : List Term} (hts : CN ts) :
    Ev .HAP (ts.foldr (fun t acc => app2 c t acc) n) (w ts) := by
  induction ts with
  | nil => exact h0
  | cons a ts ih => exact Ev.app_arg (ih hts.tail) (hs a ts hts)

theorem is_nil_chl {ts : List Term} (hts : CN ts) :
    Ev .HAP (app Gen.CList.is_nil (churchList ts)) (fromBool ts.isEmpty) := by
  have fold := hap_cfold (c := abs (abs (abs (abs (var 1))))) (n := abs (abs (var 2))) (fun ts => fromBool ts.isEmpty)
    (Ev.of_isNormal rfl) (fun a ts h => by
      show Ev .HAP _ Gen.Bool.fls
      exact evR .HAP 101 (Vals.el h (.bool ts.isEmpty .nil)) .nil .nil 10
        (.app₂ .c .ph0 .ph1) .c (by decide +kernel)) hts
  -- placeholders: the list, the answer; looked up: `l TRUE (λap.FALSE)` as it stands
  exact evR .HAP 101 (Vals.chl hts (.bool ts.isEmpty .nil)) .nil
    (.cons (.app₂ .ph0 .c .c) .ph1 (hap_chl_elim hts (Ev.stop rfl _) (Ev.of_isNormal rfl) fold) .nil) 10
    (.app .c .ph0) .ph1 (by decide +kernel)

/-- the head of a list, `UD` (= `var 0`) for the empty list -/
def hd : List Term → Term
  | [] => var 0
  | a :: _ => a

theorem Vals.hd {ts : List Term} (h : CN ts) {nv : Nat} {xs : List Term} (hxs : Vals nv xs) :
    Vals (nv + 1) (hd ts :: xs) := by
  cases ts with
  | nil => exact .normal rfl rfl hxs
  | cons t ts => exact .normal (h t List.mem_cons_self).1 (h t List.mem_cons_self).2 hxs

theorem head_chl {ts : List Term} (hts : CN ts) : Ev .HAP (app Gen.CList.head (churchList ts)) (hd ts) := by
  have fold := hap_cfold (c := abs (abs (var 2))) (n := var 0) hd (Ev.var _ 0) (fun a ts h =>
      evR .HAP 101 (Vals.el h (Vals.hd h.tail .nil)) .nil .nil 10
        (.app₂ .c .ph0 .ph1) .ph0 (by decide +kernel)) hts
  -- placeholders: the list, its head; looked up: `l UD (λap.a)` as it stands
  exact evR .HAP 101 (Vals.chl hts (Vals.hd hts .nil)) .nil
    (.cons (.app₂ .ph0 (.fv (by decide)) .c) .ph1 (hap_chl_elim hts (Ev.var _ 0) (Ev.of_isNormal rfl) fold) .nil) 10
    (.app .c .ph0) .ph1 (by decide +kernel)

theorem cons_chl {a : Term} {ts : List Term} (h : CN (a :: ts)) :
    Ev .HAP (app2 Gen.CList.cons a (churchList ts)) (churchList (a :: ts)) := by
  -- placeholders: the element, the list, the new list; looked up: the new cell `λλ. 1 a (I l 2 1)` as it stands
  exact evR .HAP 101 (Vals.el h (Vals.chl h.tail (Vals.chl h .nil))) .nil
    (.cons (.abs (.abs (.app₂ (.fv (by decide)) .ph0 (.app₂ (.app .c .ph1) (.fv (by decide)) (.fv (by decide)))))) .ph2
      (hap_ccell h.tail (h := app (abs (var 1)) (churchList ts))
        (evR1 .CBV 101 (Vals.chl h.tail .nil) .nil 10 (.app .c .ph0) .ph0 (by decide +kernel)) (h a List.mem_cons_self).2) .nil) 10
    (.app₂ .c .ph0 .ph1) .ph2 (by decide +kernel)

/-- the tail of a list, `UD` (= `var 0`) for the empty list -/
def tlc : List Term → Term
  | [] => var 0
  | _ :: ts => churchList ts

theorem Vals.tlc {ts : List Term} (h : CN ts) {nv : Nat} {xs : List Term} (hxs : Vals nv xs) :
    Vals (nv + 1) (tlc ts :: xs) := by
  cases ts with
  | nil => exact .normal rfl rfl hxs
  | cons t ts => exact Vals.chl h.tail hxs

/-- the HAP-normal form of the step function of the fold in `TAIL` (computed) -/
noncomputable def tailStepNF : Term := (evalR 0 .HAP 101 [] [] 40 ListBasic.tailStep).getD (var 0)

theorem hap_tailStep : Ev .HAP ListBasic.tailStep tailStepNF := evR .HAP 101 .nil .nil .nil 40 .c .c (by decide +kernel)

/-- Church `tail`: the step function is HAP-normalised first, then the fold runs from the end of the list with the
invariant (tail of the list seen so far, the list seen so far) -/
theorem tail_chl {ts : List Term} (hts : CN ts) : Ev .HAP (app Gen.CList.tail (churchList ts)) (tlc ts) := by
  have fold := hap_cfold (c := tailStepNF) (n := tuple2 (var 0) Gen.CList.nil) (fun ts => tuple2 (tlc ts) (churchList ts))
    (Ev.of_isNormal rfl) (fun a ts h => by
      -- placeholders: the element, the tail seen so far, the list seen so far, the new list;
      -- looked up: the new cell `λλ. 1 a (p FALSE 2 1)` as it stands
      exact evR .HAP 101 (Vals.el h (Vals.tlc h.tail (Vals.chl h.tail (Vals.chl h .nil)))) .nil
        (.cons (.abs (.abs (.app₂ (.fv (by decide)) .ph0
            (.app₂ (.app (.tuple2 .ph1 .ph2) .c) (.fv (by decide)) (.fv (by decide)))))) .ph3
          (hap_ccell h.tail (h := app (tuple2 (tlc ts) (churchList ts)) (abs (abs (var 1))))
            (evR1 .CBV 101 (Vals.tlc h.tail (Vals.chl h.tail .nil)) .nil 10 (.app (.tuple2 .ph0 .ph1) .c) .ph1
              (by decide +kernel)) (h a List.mem_cons_self).2) .nil) 20
        (.app₂ .c .ph0 (.tuple2 .ph1 .ph2)) (.tuple2 .ph2 .ph3) (by decide +kernel)) hts
  have hfold := hap_chl_elim hts (n := ListBasic.tailNil) (c := ListBasic.tailStep)
    (evR1 .CBV 101 .nil .nil 10 .c (.tuple2 (.fv (by decide)) .c) (by decide +kernel)) hap_tailStep fold
  -- placeholders: the list, its tail; looked up: `l (PAIR UD NIL) step` as it stands
  exact evR .HAP 101 (Vals.chl hts (Vals.tlc hts .nil)) .nil
    (.cons (.app₂ .ph0 .c .c) (.tuple2 .ph1 .ph0) hfold .nil) 20 (.app .c .ph0) .ph1 (by decide +kernel)

/-! ## the Parigot list: the same, for a cell that holds its tail twice -/

theorem hap_pcell {ts : List Term} (hts : CN ts) {h a : Term} (hh : Ev .CBV h (parigotList ts)) (na : isNormal a = true) :
    Ev .HAP (abs (abs (app3 (var 1) a (parigotList ts) (app2 h (var 2) (var 1))))) (parigotList (a :: ts)) := by
  have nL := C12.parigotList_normal _ hts.normal
  have nb : isNormal (parigotListBody ts) = true := by
    have := nL; rw [parigotList_eq] at this; simpa [isNormal] using this
  rw [parigotList_eq] at hh
  show Ev .HAP _ (abs (abs (app3 (var 1) a (parigotList ts) (unabs2 (parigotList ts)))))
  rw [ListBasic.unabs2_parigotList]
  exact Ev.abs rfl (Ev.abs rfl (Ev.deep rfl
    (Ev.neu rfl (Ev.neu rfl (Ev.var _ 1) rfl (Ev.of_isWNF (isNormal_isWNF na))) rfl
      (Ev.of_isWNF (isNormal_isWNF nL))) rfl
    (hap_eta2 hh (closedAt_parigotListBody hts.closed 0) (Ev.of_isNormal nb))
    (Ev.deep rfl (Ev.neu rfl (Ev.var _ 1) rfl (Ev.of_isWNF (isNormal_isWNF na))) rfl
      (Ev.of_isNormal nL) (Ev.deep rfl (Ev.var _ 1) rfl (Ev.of_isNormal na) (Ev.var _ 1)))))

theorem hap_pgl_elim {ts : List Term} (hts : CN ts) {n n' c c' v : Term} (h1 : Ev .CBV n n')
    (h2 : Ev .HAP c c') (h : Ev .HAP (parigotListRec n' c' ts) v) : Ev .HAP (app2 (parigotList ts) n c) v := by
  rw [parigotList_eq]
  refine Ev.red (b := applyAux n' 2 (parigotListBody ts)) (Ev.red (Ev.stop rfl _) h1 (Ev.stop rfl _)) h2 ?_
  show Ev .HAP (applyAux c' 1 (applyAux n' 2 (parigotListBody ts))) v
  rw [parigotListBody_inst hts.closed]; exact h

/-- the recursor of a Parigot list is evaluated from the END of the list under HAP (the operand first) -/
theorem hap_prec {c n : Term} (w : List Term → Term) (h0 : Ev .HAP n (w []))
    (hs : ∀ a ts, CN (a :: ts) → Ev .HAP (app3 c a (parigotList ts) (w ts)) (w (a :: ts))) {ts : List Term} (hts : CN ts) :
    Ev .HAP (parigotListRec n c ts) (w ts) := by
  induction ts with
  | nil => exact h0
  | cons a ts ih => exact Ev.app_arg (ih hts.tail) (hs a ts hts)

theorem is_nil_pgl {ts : List Term} (hts : CN ts) :
    Ev .HAP (app Gen.GList.is_nil (parigotList ts)) (fromBool ts.isEmpty) := by
  have fold := hap_prec (c := abs (abs (abs (abs (abs (var 1)))))) (n := abs (abs (var 2))) (fun ts => fromBool ts.isEmpty)
    (Ev.of_isNormal rfl) (fun a ts h => by
      show Ev .HAP _ Gen.Bool.fls
      exact evR .HAP 101 (Vals.el h (Vals.pgl h.tail (.bool ts.isEmpty .nil)))
        .nil .nil 10 (.app₃ .c .ph0 .ph1 .ph2) .c (by decide +kernel)) hts
  exact evR .HAP 101 (Vals.pgl hts (.bool ts.isEmpty .nil)) .nil
    (.cons (.app₂ .ph0 .c .c) .ph1 (hap_pgl_elim hts (Ev.stop rfl _) (Ev.of_isNormal rfl) fold) .nil) 10
    (.app .c .ph0) .ph1 (by decide +kernel)

theorem head_pgl {ts : List Term} (hts : CN ts) : Ev .HAP (app Gen.GList.head (parigotList ts)) (hd ts) := by
  have fold := hap_prec (c := abs (abs (abs (var 3)))) (n := var 0) hd (Ev.var _ 0) (fun a ts h =>
      evR .HAP 101 (Vals.el h (Vals.pgl h.tail (Vals.hd h.tail .nil)))
        .nil .nil 10 (.app₃ .c .ph0 .ph1 .ph2) .ph0 (by decide +kernel)) hts
  exact evR .HAP 101 (Vals.pgl hts (Vals.hd hts .nil)) .nil
    (.cons (.app₂ .ph0 (.fv (by decide)) .c) .ph1 (hap_pgl_elim hts (Ev.var _ 0) (Ev.of_isNormal rfl) fold) .nil) 10
    (.app .c .ph0) .ph1 (by decide +kernel)

def tlp : List Term → Term
  | [] => var 0
  | _ :: ts => parigotList ts

theorem Vals.tlp {ts : List Term} (h : CN ts) {nv : Nat} {xs : List Term} (hxs : Vals nv xs) :
    Vals (nv + 1) (tlp ts :: xs) := by
  cases ts with
  | nil => exact .normal rfl rfl hxs
  | cons t ts => exact Vals.pgl h.tail hxs

theorem tail_pgl {ts : List Term} (hts : CN ts) : Ev .HAP (app Gen.GList.tail (parigotList ts)) (tlp ts) := by
  have fold := hap_prec (c := abs (abs (abs (var 2)))) (n := var 0) tlp (Ev.var _ 0) (fun a ts h =>
      evR .HAP 101 (Vals.el h (Vals.pgl h.tail (Vals.tlp h.tail .nil)))
        .nil .nil 10 (.app₃ .c .ph0 .ph1 .ph2) .ph1 (by decide +kernel)) hts
  exact evR .HAP 101 (Vals.pgl hts (Vals.tlp hts .nil)) .nil
    (.cons (.app₂ .ph0 (.fv (by decide)) .c) .ph1 (hap_pgl_elim hts (Ev.var _ 0) (Ev.of_isNormal rfl) fold) .nil) 10
    (.app .c .ph0) .ph1 (by decide +kernel)

theorem cons_pgl {a : Term} {ts : List Term} (h : CN (a :: ts)) :
    Ev .HAP (app2 Gen.GList.cons a (parigotList ts)) (parigotList (a :: ts)) := by
  -- placeholders: the element, the list, the new list; looked up: the new cell `λλ. 1 a l (I l 2 1)` as it stands
  exact evR .HAP 101 (Vals.el h (Vals.pgl h.tail (Vals.pgl h .nil))) .nil
    (.cons (.abs (.abs (.app₃ (.fv (by decide)) .ph0 .ph1 (.app₂ (.app .c .ph1) (.fv (by decide)) (.fv (by decide)))))) .ph2
      (hap_pcell h.tail (h := app (abs (var 1)) (parigotList ts))
        (evR1 .CBV 101 (Vals.pgl h.tail .nil) .nil 10 (.app .c .ph0) .ph0 (by decide +kernel)) (h a List.mem_cons_self).2) .nil) 10
    (.app₂ .c .ph0 .ph1) .ph2 (by decide +kernel)

end EagerListA

end LC
