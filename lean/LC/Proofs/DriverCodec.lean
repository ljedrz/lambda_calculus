/-
The line protocol of the driver carries values faithfully, part 1: numbers, lines and words, terms.

`LC/Drv/Codec.lean` holds the pure codec of the correspondence check (DESIGN §3.2).  For every kind of value there is a
printer, a decoder and (in `LC/Drv/Wire.lean`) the list of words the printer is specified to print.  What is proved per
kind is always the same, so the shared part is proved once, here: a printer with a left inverse is injective
(`inj_of_dec`), a list is read back element by element (`mapM_dec_enc`), a printer that prints a line of injectively
chosen words is injective (`inj_of_words`), and the `Words` lemmas.  Then terms: the fuel-indexed `decTermF` accepts, with
any fuel covering the line, exactly the spellings (`Spells`) of a term; its fuel-free equations, the round trip of the
words and their prefix-freeness follow.
Part 2 (`DriverCodecMore.lean`): tokens, names, characters, code-point strings, orders, encodings, result lines.
Part 3 (`DriverCodecExpr.lean`): expression trees.
These three files hold what several proofs share.  The statements about the protocol itself (`TIE_codec_…`: the round
trip through a printed line, the injectivity of each printer, what each decoder accepts and how much it reads) stand with
their proofs in `LC/Props/TieCodec.lean`.
-/
import LC.Drv.Codec
import LC.Drv.Wire
import Std.Data.String.ToNat

open LC LC.Term LC.Parser

namespace Drv

theorem toString_nat (n : Nat) : toString n = n.repr := rfl

theorem toNat?_toString (n : Nat) : (toString n).toNat? = some n := Nat.toNat?_repr n

theorem toString_nat_inj {n m : Nat} (h : toString n = toString m) : n = m := Nat.repr_injective h

theorem isDigit_of_mem_toString {n : Nat} {c : Char} (h : c ∈ (toString n).toList) : c.isDigit = true := by
  rw [toString_nat, Nat.toList_repr] at h
  exact Nat.isDigit_of_mem_toDigits (by omega) (by omega) h

theorem toNat?_empty : "".toNat? = none :=
  String.toNat?_eq_none_iff.2 (Bool.eq_false_iff.2 (fun h => (String.isNat_iff.1 h).1 rfl))

theorem toString_nat_ne_empty (n : Nat) : toString n ≠ "" := by
  intro h
  have := toNat?_toString n
  rw [h, toNat?_empty] at this
  exact absurd this (by simp)

/-- the characters of a word that reads as a number are decimal digits or `_` (the separator Lean's
`String.toNat?` accepts: `"1_0".toNat? = some 10`), and there is at least one -/
theorem chars_of_toNat? {w : String} {k : Nat} (h : w.toNat? = some k) :
    w ≠ "" ∧ ∀ c ∈ w.toList, c.isDigit = true ∨ c = '_' := by
  have := String.isNat_of_toNat?_eq_some h
  rw [String.isNat_iff] at this
  exact ⟨this.1, this.2.1⟩

theorem toNat?_eq_none_of_head {w : String} {c : Char} {cs : List Char} (hw : w.toList = c :: cs)
    (hc : c.isDigit = false) (hu : c ≠ '_') : w.toNat? = none := by
  cases h : w.toNat? with
  | none => rfl
  | some k =>
    have := (chars_of_toNat? h).2 c (by simp [hw])
    simp [hc, hu] at this

theorem not_mem_toString {n : Nat} {c : Char} (hc : c.isDigit = false) : c ∉ (toString n).toList :=
  fun h => by simp [isDigit_of_mem_toString h] at hc

/-- `toNat_some` closes `"lit".toNat? = some k`, `toNat_none` closes `"lit".toNat? = none`, for a literal word -/
macro "toNat_some" : tactic =>
  `(tactic| (rw [String.toNat?_eq_some_ofDigitChars (by rw [String.isNat_iff]; decide)]; decide))

macro "toNat_none" : tactic =>
  `(tactic| (rw [String.toNat?_eq_none_iff, Bool.eq_false_iff, ne_eq, String.isNat_iff]; decide))

theorem splitChar_eq (c : Char) (s : String) :
    splitChar c s = (s.toList.splitOn c).map String.ofList := by
  simp [splitChar, ← String.toList_split_char]

theorem splitChar_intercalate {c : Char} {l : List String} (hl : ∀ s ∈ l, c ∉ s.toList) (hne : l ≠ []) :
    splitChar c ((String.singleton c).intercalate l) = l := by
  have := String.toList_split_intercalate hl
  simpa [splitChar, hne] using this

theorem singleton_space : String.singleton ' ' = " " := by decide

/-! ## words

A single word `w` is spoken of as the one-word list: `Words [w]`. -/

theorem Words.nil : Words [] := by simp [Words]

theorem Words.append {l m : List String} (hl : Words l) (hm : Words m) : Words (l ++ m) := by
  intro x hx
  rcases List.mem_append.1 hx with hx | hx
  · exact hl x hx
  · exact hm x hx

theorem Words.cons {w : String} {l : List String} (hw : Words [w]) (hl : Words l) : Words (w :: l) :=
  hw.append hl

theorem Words.singleton {w : String} (h1 : w ≠ "") (h2 : ' ' ∉ w.toList) : Words [w] := by
  intro x hx
  rw [List.mem_singleton.1 hx]
  exact ⟨h1, h2⟩

/-- A string literal is `String.ofList` of its characters, for the unifier and for the kernel alike: that it is a word is a
fact about that list, and `String.toList` of the literal (which the kernel is slow at: it decodes the UTF-8 bytes) is
never run. -/
theorem Words.ofList {cs : List Char} (h1 : cs ≠ []) (h2 : ' ' ∉ cs) : Words [String.ofList cs] :=
  Words.singleton (fun h => h1 (by simpa using congrArg String.toList h)) (by simpa using h2)

/-- `Words` of a literal word.  Use it where the goal fixes the literal: left to itself the unifier puts the
`String.ofList […]` form of the word into the goal, and later comparisons with the literal are dear. -/
macro "lit_words" : term => `(Words.ofList (by decide +kernel) (by decide +kernel))

theorem Words.map {α : Type} {f : α → String} (h : ∀ a, Words [f a]) (l : List α) : Words (l.map f) := by
  intro w hw
  obtain ⟨a, -, rfl⟩ := List.mem_map.1 hw
  exact h a _ (List.mem_singleton_self _)

theorem Words.flatten_map {α : Type} {f : α → List String} (h : ∀ a, Words (f a)) (l : List α) :
    Words (l.map f).flatten := by
  intro w hw
  obtain ⟨ws, hws, hw⟩ := List.mem_flatten.1 hw
  obtain ⟨a, -, rfl⟩ := List.mem_map.1 hws
  exact h a w hw

theorem Words.append_right {p s : String} (hp : Words [p]) (hs : ' ' ∉ s.toList) : Words [p ++ s] := by
  obtain ⟨h1, h2⟩ := hp p (List.mem_singleton_self _)
  refine Words.singleton (fun h => h1 ?_) (by simp [h2, hs])
  have := congrArg String.toList h
  simp only [String.toList_append, String.toList_empty, List.append_eq_nil_iff] at this
  exact String.toList_inj.1 this.1

theorem nat_words (n : Nat) : Words [toString n] :=
  Words.singleton (toString_nat_ne_empty n) (not_mem_toString (by decide))

theorem tokenize_intercalate {l : List String} (hl : Words l) : tokenize (" ".intercalate l) = l := by
  by_cases hne : l = []
  · subst hne
    simp [tokenize, splitChar_eq]
  · rw [tokenize, ← singleton_space, splitChar_intercalate (fun s hs => (hl s hs).2) hne]
    exact List.filter_eq_self.2 (fun w hw => by simpa using (hl w hw).1)

theorem intercalate_inj {l m : List String} (hl : Words l) (hm : Words m)
    (h : " ".intercalate l = " ".intercalate m) : l = m := by
  rw [← tokenize_intercalate hl, ← tokenize_intercalate hm, h]

theorem intercalate_flatten {ls : List (List String)} (h : ∀ l ∈ ls, l ≠ []) :
    " ".intercalate (ls.map (" ".intercalate ·)) = " ".intercalate ls.flatten := by
  induction ls with
  | nil => simp
  | cons l ls ih =>
    by_cases hls : ls = []
    · subst hls; simp
    · have hl : l ≠ [] := h l (by simp)
      have hfl : ls.flatten ≠ [] := by
        cases ls with
        | nil => exact absurd rfl hls
        | cons a as =>
          have : a ≠ [] := h a (by simp)
          simp [this]
      rw [List.map_cons, String.intercalate_cons_of_ne_nil (by simpa using hls),
        ih (fun x hx => h x (by simp [hx])), List.flatten_cons,
        String.intercalate_append_of_ne_nil hl hfl]

theorem inj_of_dec {α β : Type} {enc : α → β} {dec : β → Option α} (h : ∀ a, dec (enc a) = some a)
    {a b : α} (e : enc a = enc b) : a = b :=
  Option.some.inj (by rw [← h a, e, h b])

theorem mapM_dec_enc {α β : Type} {enc : α → β} {dec : β → Option α} (h : ∀ a, dec (enc a) = some a)
    (l : List α) : (l.map enc).mapM dec = some l := by
  induction l with
  | nil => rfl
  | cons a l ih =>
    rw [List.map_cons, List.mapM_cons, h a, ih]
    rfl

theorem mapM_take_dec_enc {α β : Type} {enc : α → β} {dec : β → Option α} (h : ∀ a, dec (enc a) = some a)
    (l : List α) (rest : List β) : ((l.map enc ++ rest).take l.length).mapM dec = some l := by
  rw [List.take_left' (List.length_map enc), mapM_dec_enc h]

theorem mapM_option_length {α β : Type} {f : α → Option β} {l : List α} {r : List β}
    (h : l.mapM f = some r) : r.length = l.length := by
  induction l generalizing r with
  | nil => simp at h; simp [← h]
  | cons a l ih =>
    simp only [List.mapM_cons, Option.bind_eq_bind, Option.bind_eq_some_iff] at h
    obtain ⟨b, -, bs, h2, h3⟩ := h
    cases h3
    simp [ih h2]

theorem inj_of_words {α : Type} {f : α → String} {w : α → List String}
    (hf : ∀ a, f a = " ".intercalate (w a)) (hw : ∀ a, Words (w a)) (hinj : ∀ a b, w a = w b → a = b)
    {a b : α} (h : f a = f b) : a = b := by
  rw [hf, hf] at h
  exact hinj a b (intercalate_inj (hw a) (hw b) h)

theorem decTermF_zero (ws : List String) : decTermF 0 ws = none := by
  unfold decTermF; rfl

theorem decTermF_nil (f : Nat) : decTermF f [] = none := by
  cases f <;> simp [decTermF]

theorem decTermF_L (f : Nat) (rest : List String) : decTermF (f+1) ("L" :: rest) =
    (do let (b, rest') ← decTermF f rest; pure (.abs b, rest')) := by
  simp [decTermF]

theorem decTermF_A (f : Nat) (rest : List String) : decTermF (f+1) ("A" :: rest) =
    (do let (l, r1) ← decTermF f rest
        let (r, r2) ← decTermF f r1
        pure (.app l r, r2)) := by
  simp [decTermF]

theorem decTermF_num (f : Nat) (w : String) (rest : List String) (hL : w ≠ "L") (hA : w ≠ "A") :
    decTermF (f+1) (w :: rest) = (do let k ← w.toNat?; pure (.var k, rest)) := by
  simp [decTermF]

theorem toNat?_L : "L".toNat? = none := by toNat_none
theorem toNat?_A : "A".toNat? = none := by toNat_none

theorem Spells.ne_nil {ws : List String} {t : Term} (h : Spells ws t) : ws ≠ [] := by
  cases h <;> simp

theorem Spells.decTermF {ws : List String} {t : Term} (h : Spells ws t) {f : Nat} (hf : ws.length ≤ f)
    (rest : List String) : decTermF f (ws ++ rest) = some (t, rest) := by
  induction h generalizing f rest with
  | @var w k hk =>
    cases f with
    | zero => simp at hf
    | succ f =>
      have hL : w ≠ "L" := by rintro rfl; simp [toNat?_L] at hk
      have hA : w ≠ "A" := by rintro rfl; simp [toNat?_A] at hk
      simp [decTermF_num _ _ _ hL hA, hk]
  | abs _ ih =>
    cases f with
    | zero => simp at hf
    | succ f => simp [decTermF_L, ih (Nat.le_of_succ_le_succ hf)]
  | app _ _ ihl ihr =>
    cases f with
    | zero => simp at hf
    | succ f =>
      simp only [List.length_cons, List.length_append] at hf
      simp [decTermF_A, List.append_assoc, ihl (f := f) (by omega), ihr (f := f) (by omega)]

theorem decTermF_spells {f : Nat} {ws : List String} {t : Term} {rest : List String}
    (h : decTermF f ws = some (t, rest)) : ∃ pre, ws = pre ++ rest ∧ Spells pre t := by
  induction f generalizing ws t rest with
  | zero => simp [decTermF_zero] at h
  | succ f ih =>
    match ws with
    | [] => simp [decTermF_nil] at h
    | w :: tl =>
      by_cases hL : w = "L"
      · subst hL
        simp only [decTermF_L, Option.bind_eq_bind, Option.bind_eq_some_iff] at h
        obtain ⟨⟨b, r⟩, h1, h2⟩ := h
        cases h2
        obtain ⟨pre, rfl, hs⟩ := ih h1
        exact ⟨"L" :: pre, rfl, .abs hs⟩
      · by_cases hA : w = "A"
        · subst hA
          simp only [decTermF_A, Option.bind_eq_bind, Option.bind_eq_some_iff] at h
          obtain ⟨⟨l, r1⟩, h1, ⟨r, r2⟩, h2, h3⟩ := h
          cases h3
          obtain ⟨pre1, rfl, hs1⟩ := ih h1
          obtain ⟨pre2, rfl, hs2⟩ := ih h2
          exact ⟨"A" :: (pre1 ++ pre2), by simp, .app hs1 hs2⟩
        · simp only [decTermF_num _ _ _ hL hA, Option.bind_eq_bind, Option.bind_eq_some_iff] at h
          obtain ⟨k, hk, h2⟩ := h
          cases h2
          exact ⟨[w], rfl, .var hk⟩

/-- TOTALITY: with enough fuel, `decTermF` succeeds exactly on a spelling of one term followed by the returned rest -/
theorem decTermF_eq_some_iff {f : Nat} {ws : List String} {t : Term} {rest : List String} (hf : ws.length ≤ f) :
    decTermF f ws = some (t, rest) ↔ ∃ pre, ws = pre ++ rest ∧ Spells pre t := by
  refine ⟨decTermF_spells, ?_⟩
  rintro ⟨pre, rfl, hs⟩
  exact hs.decTermF (by simp at hf; omega) rest

theorem decTermF_length {f : Nat} {ws : List String} {t : Term} {r : List String}
    (h : decTermF f ws = some (t, r)) : r.length < ws.length := by
  obtain ⟨pre, rfl, hs⟩ := decTermF_spells h
  have := List.length_pos_iff.2 hs.ne_nil
  simp only [List.length_append]
  omega

theorem decTermF_stable {f f' : Nat} {ws : List String} (h : ws.length ≤ f) (h' : ws.length ≤ f') :
    decTermF f' ws = decTermF f ws :=
  Option.ext fun ⟨t, rest⟩ => by rw [decTermF_eq_some_iff h, decTermF_eq_some_iff h']

theorem decTerm_nil : decTerm [] = none := by
  simp [decTerm, decTermF_nil]

theorem decTerm_L (rest : List String) : decTerm ("L" :: rest) =
    (do let (b, rest') ← decTerm rest; pure (.abs b, rest')) := by
  simp only [decTerm, List.length_cons, decTermF_L]

theorem decTerm_A (rest : List String) : decTerm ("A" :: rest) =
    (do let (l, r1) ← decTerm rest
        let (r, r2) ← decTerm r1
        pure (.app l r, r2)) := by
  simp only [decTerm, List.length_cons, decTermF_A]
  cases h1 : decTermF rest.length rest with
  | none => rfl
  | some p =>
    have := decTermF_length h1
    simp only [Option.bind_eq_bind, Option.bind_some]
    rw [decTermF_stable (Nat.le_refl p.2.length) (by omega)]

theorem decTerm_num (w : String) (rest : List String) (hL : w ≠ "L") (hA : w ≠ "A") :
    decTerm (w :: rest) = (do let k ← w.toNat?; pure (.var k, rest)) := by
  simp only [decTerm, List.length_cons, decTermF_num _ _ _ hL hA]

theorem Spells.decTerm {ws : List String} {t : Term} (h : Spells ws t) (rest : List String) :
    decTerm (ws ++ rest) = some (t, rest) :=
  h.decTermF (by simp) rest

/-- a spelling determines its term, and no proper prefix or extension of a spelling is a spelling of anything -/
theorem Spells.unique {ws vs r s : List String} {t u : Term} (h1 : Spells ws t) (h2 : Spells vs u)
    (h : ws ++ r = vs ++ s) : t = u ∧ ws = vs ∧ r = s := by
  -- the decoder reads the same line twice
  have e := h1.decTerm r
  rw [h, h2.decTerm s] at e
  obtain ⟨rfl, rfl⟩ : u = t ∧ s = r := by simpa using e
  exact ⟨rfl, List.append_cancel_right h, rfl⟩

theorem termWords_ne_nil (t : Term) : termWords t ≠ [] := by
  cases t <;> simp [termWords]

theorem termWords_words (t : Term) : Words (termWords t) := by
  induction t with
  | var n => exact nat_words n
  | abs b ih => exact Words.cons lit_words ih
  | app l r ihl ihr => exact Words.cons lit_words (ihl.append ihr)

theorem encTerm_eq (t : Term) (acc : String) :
    encTerm t acc = acc ++ " ".intercalate (termWords t) := by
  induction t generalizing acc with
  | var n => simp [encTerm, termWords]
  | abs b ih =>
    simp only [encTerm, termWords, ih]
    rw [String.intercalate_cons_of_ne_nil (termWords_ne_nil b)]
    simp [String.append_assoc]
  | app l r ihl ihr =>
    simp only [encTerm, termWords, ihl, ihr]
    rw [String.intercalate_cons_of_ne_nil (by simp [termWords_ne_nil]),
      String.intercalate_append_of_ne_nil (termWords_ne_nil l) (termWords_ne_nil r)]
    simp [String.append_assoc]

theorem showTerm_eq (t : Term) : showTerm t = " ".intercalate (termWords t) := by
  simp [showTerm, encTerm_eq]

theorem Spells.termWords (t : Term) : Spells (termWords t) t := by
  induction t with
  | var n => exact .var (toNat?_toString n)
  | abs b ih => exact .abs ih
  | app l r ihl ihr => exact .app ihl ihr

theorem decTerm_termWords (t : Term) (rest : List String) :
    decTerm (termWords t ++ rest) = some (t, rest) :=
  (Spells.termWords t).decTerm rest

theorem termWords_append_inj {t u : Term} {r s : List String}
    (h : termWords t ++ r = termWords u ++ s) : t = u ∧ r = s :=
  let ⟨h1, _, h3⟩ := (Spells.termWords t).unique (Spells.termWords u) h
  ⟨h1, h3⟩

theorem termWords_inj {t u : Term} (h : termWords t = termWords u) : t = u :=
  (termWords_append_inj (r := []) (s := []) (by rw [h])).1

theorem decTerms_zero (ws : List String) : decTerms 0 ws = some ([], ws) := rfl

theorem decTerms_succ (n : Nat) (ws : List String) : decTerms (n+1) ws =
    (do let (t, r) ← decTerm ws
        let (more, r') ← decTerms n r
        pure (t :: more, r')) := rfl

theorem decTerms_termWords (ts : List Term) (rest : List String) :
    decTerms ts.length ((ts.map termWords).flatten ++ rest) = some (ts, rest) := by
  induction ts with
  | nil => simp [decTerms_zero]
  | cons t ts ih =>
    simp [decTerms_succ, List.append_assoc, decTerm_termWords, ih]

end Drv
