/-
Refinement, completeness direction (DESIGN §6.3), for all seven orders at once, with the fuel made
explicit: a run of `k` strategy steps that the limit admits, that ends at the limit or in a
strategy-normal form, and all of whose terms have height ≤ `H` (`height`, `Iter.All`), is returned by the
traversal with any fuel ≥ `k + H + 1` (`betaOrd_run`).  From it: `betaOrd_complete`, `reduce_complete`
(some fuel suffices), `reduce_total` (limited calls return).

On the way: more fuel does not change an answer (`betaOrd_mono`), a call at the limit returns at once
(`betaOrd_gate`), a strategy-normal term is returned unchanged (`betaOrd_nf`; conversely
`betaOrd_nf_eq_some`).

The proof of `betaOrd_run` goes along the run.  A traversal absorbs one strategy step in front of it at
the cost of one unit of fuel (`betaOrd_absorb`): on `t → u` the traversal of `t` does what the
traversal of `u` does, except in the one sub-call whose subterm contains the step, where the same
holds by induction.
-/
import LC.Proofs.Refine.All

namespace LC
namespace Term

/-- the depth of the calls a traversal that visits all of `t` makes below the first: a variable is returned by the call
that meets it, an abstraction and an application hand their parts to calls one level down; a strategy-normal `t` is
returned with fuel `height t + 1` (`betaOrd_nf`), and an order that visits the whole term needs that much
(`betaOrd_nf_needs`) -/
def height : Term → Nat
  | var _ => 0
  | abs b => height b + 1
  | app l r => max (height l) (height r) + 1

theorem Iter.All.exists_height (f : Term → Option Term) (k : Nat) (t : Term) :
    ∃ H, Iter.All (height · ≤ H) f k t := by
  induction k generalizing t with
  | zero => exact ⟨height t, .zero (Nat.le_refl _)⟩
  | succ k ih =>
    cases hs : f t with
    | none => exact ⟨height t, .of_none (Nat.le_refl _) hs⟩
    | some v =>
      obtain ⟨H, hb⟩ := ih v
      exact ⟨max (height t) H, .succ (Nat.le_max_left _ _) hs
        (hb.imp fun u h => Nat.le_trans h (Nat.le_max_right _ _))⟩

section
variable {L : Nat} {self self' : Order → Term → Nat → Option (Term × Nat)}

theorem callIf_mono {b : Bool} {f f' : Term → Nat → Option (Term × Nat)}
    (hm : ∀ t c p, f t c = some p → f' t c = some p) {t : Term} {c : Nat} {p : Term × Nat}
    (h : callIf b f t c = some p) : callIf b f' t c = some p := by
  cases b with
  | false => exact h
  | true => exact hm _ _ _ h

theorem finish_mono (hm : ∀ o t c p, self o t c = some p → self' o t c = some p) {o : Order}
    {l r : Term} {c : Nat} {p : Term × Nat} (h : finish L self o l r c = some p) :
    finish L self' o l r c = some p := by
  rcases finish_eq_some h with ⟨b, rfl, hb, hs⟩ | ⟨hred, ⟨hd, rfl⟩ | ⟨hd, l', c1, r', c2, hl, hr, rfl⟩⟩
  · rw [finish_red hb]; exact hm _ _ _ _ hs
  · exact finish_shallow hred hd
  · exact finish_deep hred hd (hm _ _ _ _ hl) (callIf_mono (hm o) hr)

theorem visit_mono (hm : ∀ o t c p, self o t c = some p → self' o t c = some p) {o : Order}
    {t : Term} {c : Nat} {p : Term × Nat} (h : visit L self o t c = some p) :
    visit L self' o t c = some p := by
  cases hg : gate L c with
  | true => rw [visit_gate hg] at h ⊢; exact h
  | false =>
    cases t with
    | var i => rw [visit_var] at h ⊢; exact h
    | abs b =>
      cases hu : o.under with
      | false => rw [visit_abs_stop hu] at h ⊢; exact h
      | true =>
        obtain ⟨b', c', hb, rfl⟩ := visit_abs_eq_some hg hu h
        exact visit_abs hg hu (hm _ _ _ _ hb)
    | app l r =>
      obtain ⟨l', c1, r', c2, hl, hr, hf⟩ := visit_app_eq_some hg h
      rw [visit_app hg (hm _ _ _ _ hl) (callIf_mono (hm o) hr)]
      exact finish_mono hm hf

end

theorem betaOrd_mono1 (L : Nat) {fuel : Nat} : ∀ {o : Order} {t : Term} {c : Nat} {p : Term × Nat},
    betaOrd o L fuel t c = some p → betaOrd o L (fuel + 1) t c = some p := by
  induction fuel with
  | zero => intro o t c p h; rw [betaOrd_zero] at h; cases h
  | succ fuel ih =>
    intro o t c p h
    rw [betaOrd_succ] at h ⊢
    exact visit_mono (fun _ _ _ _ => ih) h

theorem betaOrd_mono (o : Order) (L : Nat) {f f' : Nat} {t : Term} {c : Nat} {r : Term × Nat}
    (h : betaOrd o L f t c = some r) (hle : f ≤ f') : betaOrd o L f' t c = some r := by
  induction hle with
  | refl => exact h
  | step _ ih => exact betaOrd_mono1 L ih

theorem betaOrd_gate {L c : Nat} (hg : gate L c = true) {fuel : Nat} (hf : 0 < fuel) (o : Order)
    (t : Term) : betaOrd o L fuel t c = some (t, c) := by
  obtain ⟨f, rfl⟩ : ∃ f, fuel = f + 1 := ⟨fuel - 1, by omega⟩
  rw [betaOrd_succ, visit_gate hg]

theorem callIf_gate {L c : Nat} (hg : gate L c = true) {fuel : Nat} (hf : 0 < fuel) (b : Bool)
    (o : Order) (t : Term) : callIf b (betaOrd o L fuel) t c = some (t, c) := by
  cases b with
  | false => rfl
  | true => exact betaOrd_gate hg hf o t

theorem finish_gate {L c : Nat} (hg : gate L c = true) {fuel : Nat} (hf : 0 < fuel) (o : Order)
    (l r : Term) : finish L (fun o' => betaOrd o' L fuel) o l r c = some (app l r, c) := by
  have hred : (isAbs l && budget L c) = false := by
    rw [gate_eq_true] at hg
    rw [Bool.and_eq_false_iff, budget_eq_false]
    exact Or.inr ⟨hg.1, by omega⟩
  cases hd : o.deep with
  | false => exact finish_shallow hred hd
  | true => exact finish_deep hred hd (betaOrd_gate hg hf o l) (callIf_gate hg hf _ o r)

/-- the sub-calls of a returning call under an abstraction or on an application, as in
`visit_abs_eq_some` and `visit_app_eq_some`; but also at the limit, where the call returns at once and
makes no sub-call: the sub-calls would have returned at once as well, if they have fuel -/
theorem betaOrd_abs_eq_some {o : Order} {L g : Nat} (hg : 0 < g) (hu : o.under = true) {b : Term}
    {c : Nat} {p : Term × Nat} (h : betaOrd o L (g + 1) (abs b) c = some p) :
    ∃ b' c', betaOrd o L g b c = some (b', c') ∧ p = (abs b', c') := by
  rw [betaOrd_succ] at h
  cases hgate : gate L c with
  | true =>
    rw [visit_gate hgate] at h; cases h
    exact ⟨b, c, betaOrd_gate hgate hg o b, rfl⟩
  | false => exact visit_abs_eq_some hgate hu h

theorem betaOrd_app_eq_some {o : Order} {L g : Nat} (hg : 0 < g) {l r : Term} {c : Nat}
    {p : Term × Nat} (h : betaOrd o L (g + 1) (app l r) c = some p) :
    ∃ l' c1 r' c2, betaOrd o.head L g l c = some (l', c1) ∧
      callIf o.eager (betaOrd o L g) r c1 = some (r', c2) ∧
      finish L (fun o' => betaOrd o' L g) o l' r' c2 = some p := by
  rw [betaOrd_succ] at h
  cases hgate : gate L c with
  | true =>
    rw [visit_gate hgate] at h; cases h
    exact ⟨l, c, r, c, betaOrd_gate hgate hg _ l, callIf_gate hgate hg _ o r, finish_gate hgate hg o l r⟩
  | false => exact visit_app_eq_some hgate h

theorem betaOrd_nf {o : Order} {t : Term} (hn : stepOrd o t = none) {fuel : Nat}
    (hf : height t < fuel) (L c : Nat) : betaOrd o L fuel t c = some (t, c) := by
  induction t generalizing o fuel with
  | var i =>
    obtain ⟨f, rfl⟩ : ∃ f, fuel = f + 1 := ⟨fuel - 1, by omega⟩
    rw [betaOrd_succ, visit_var]
  | abs b ihb =>
    obtain ⟨f, rfl⟩ : ∃ f, fuel = f + 1 := ⟨fuel - 1, by omega⟩
    simp only [height] at hf
    cases hg : gate L c with
    | true => exact betaOrd_gate hg (Nat.succ_pos _) o _
    | false =>
      rw [betaOrd_succ]
      cases hu : o.under with
      | false => exact visit_abs_stop hu
      | true =>
        rw [stepOrd_abs, hu, if_pos rfl, Option.map_eq_none_iff] at hn
        exact visit_abs hg hu (ihb hn (by omega))
  | app l r ihl ihr =>
    obtain ⟨f, rfl⟩ : ∃ f, fuel = f + 1 := ⟨fuel - 1, by omega⟩
    simp only [height] at hf
    cases hg : gate L c with
    | true => exact betaOrd_gate hg (Nat.succ_pos _) o _
    | false =>
      obtain ⟨hl, hr, hna, hdeep⟩ := stepOrd_app_eq_none.1 hn
      have hr1 : callIf o.eager (betaOrd o L f) r c = some (r, c) := by
        cases he : o.eager with
        | false => rfl
        | true => exact ihr (hr he) (by omega)
      rw [betaOrd_succ, visit_app hg (ihl hl (by omega)) hr1]
      have hred : (isAbs l && budget L c) = false := by rw [hna]; rfl
      cases hd : o.deep with
      | false => exact finish_shallow hred hd
      | true =>
        refine finish_deep hred hd (ihl (hdeep hd).1 (by omega)) ?_
        cases he : o.eager with
        | true => rfl
        | false => exact ihr ((hdeep hd).2 he) (by omega)

/-- conversely, a traversal that returns on a strategy-normal term did nothing, whatever the fuel -/
theorem betaOrd_nf_eq_some {o : Order} {L fuel : Nat} {t : Term} {c : Nat} {t' : Term} {c' : Nat}
    (h : betaOrd o L fuel t c = some (t', c')) (hc : L = 0 ∨ c ≤ L) (hn : stepOrd o t = none) :
    t' = t ∧ c' = c := by
  obtain ⟨k, rfl, it, _, _⟩ := betaOrd_sound o L fuel t c t' c' h hc
  obtain ⟨rfl, rfl⟩ := it.of_none hn
  exact ⟨rfl, rfl⟩

theorem callIf_nf_eq_some {b : Bool} {o : Order} {L fuel : Nat} {t : Term} {c : Nat} {t' : Term}
    {c' : Nat} (h : callIf b (betaOrd o L fuel) t c = some (t', c')) (hc : L = 0 ∨ c ≤ L)
    (hn : b = true → stepOrd o t = none) : t' = t ∧ c' = c := by
  cases b with
  | false => cases h; exact ⟨rfl, rfl⟩
  | true => exact betaOrd_nf_eq_some h hc (hn rfl)

theorem height_pos_of_step {o : Order} {t u : Term} (h : stepOrd o t = some u) : 0 < height t := by
  cases t with
  | var i => rw [stepOrd_var] at h; cases h
  | abs b => exact Nat.succ_pos _
  | app l r => exact Nat.succ_pos _

/-- the traversal of `t` with one more unit of fuel does one strategy step and then what the
traversal of the reduct does -/
theorem betaOrd_absorb {L c : Nat} (hb : L = 0 ∨ c < L) {o : Order} {t u : Term}
    (hs : stepOrd o t = some u) {g : Nat} (hh : height t ≤ g) {p : Term × Nat}
    (H : betaOrd o L g u (c + 1) = some p) : betaOrd o L (g + 1) t c = some p := by
  have hgate : gate L c = false := gate_eq_false.2 (by omega)
  have hc1 : L = 0 ∨ c + 1 ≤ L := by omega
  induction t generalizing o u g p with
  | var i => rw [stepOrd_var] at hs; cases hs
  | abs b ih =>
    rw [stepOrd_abs] at hs
    cases hu : o.under with
    | false => rw [hu] at hs; cases hs
    | true =>
      rw [hu, if_pos rfl, Option.map_eq_some_iff] at hs
      obtain ⟨b1, hb1, rfl⟩ := hs
      have hpos := height_pos_of_step hb1
      simp only [height] at hh
      obtain ⟨g, rfl⟩ : ∃ g', g = g' + 1 := ⟨g - 1, by omega⟩
      obtain ⟨b', c', hb', rfl⟩ := betaOrd_abs_eq_some (by omega) hu H
      rw [betaOrd_succ]
      exact visit_abs hgate hu (ih hb1 (by omega) hb')
  | app l r ihl ihr =>
    simp only [height] at hh
    obtain ⟨g, rfl⟩ : ∃ g', g = g' + 1 := ⟨g - 1, by omega⟩
    have mono : ∀ o t c p, betaOrd o L g t c = some p → betaOrd o L (g + 1) t c = some p :=
      fun _ _ _ _ => betaOrd_mono1 L
    have nfArg : (o.eager = true → stepOrd o r = none) →
        callIf o.eager (betaOrd o L (g + 1)) r c = some (r, c) := by
      intro hr
      cases he : o.eager with
      | false => rfl
      | true => exact betaOrd_nf (hr he) (by omega) L c
    rw [betaOrd_succ]
    rcases stepOrd_app_cases hs with ⟨l1, hl1, rfl⟩ | ⟨hln, ⟨r1, he, hr1, rfl⟩ |
      ⟨hrn, ⟨b, rfl, rfl⟩ | ⟨hna, hd, ⟨l1, hl1, rfl⟩ | ⟨hln2, he, r1, hr1, rfl⟩⟩⟩⟩
    · -- the step is in the operator, by the `head` order
      have hpos := height_pos_of_step hl1
      obtain ⟨l', c1, r', c2, h1, h2, h3⟩ := betaOrd_app_eq_some (by omega) H
      rw [visit_app hgate (ihl hl1 (by omega) h1) (callIf_mono (mono o) h2)]
      exact finish_mono mono h3
    · -- the step is in the operand, visited before the application
      have hpos := height_pos_of_step hr1
      obtain ⟨l', c1, r', c2, h1, h2, h3⟩ := betaOrd_app_eq_some (by omega) H
      obtain ⟨rfl, rfl⟩ := betaOrd_nf_eq_some h1 hc1 hln
      rw [he] at h2
      have h2' : callIf o.eager (betaOrd o L (g + 1)) r c = some (r', c2) := by
        rw [he]; exact ihr hr1 (by omega) h2
      rw [visit_app hgate (betaOrd_nf hln (by omega) L c) h2']
      exact finish_mono mono h3
    · -- the step is the contraction
      rw [visit_app hgate (betaOrd_nf hln (show height (abs b) < g + 1 by omega) L c) (nfArg hrn),
        finish_red (budget_eq_true.2 hb)]
      exact H
    · -- the step is in the operator, by the order itself
      have hpos := height_pos_of_step hl1
      have hk := stepOrd_keeps_head_nf hln hl1
      have hred : (isAbs l && budget L c) = false := by rw [hna]; rfl
      rw [visit_app hgate (betaOrd_nf hln (by omega) L c) (nfArg hrn)]
      obtain ⟨l', c1, r', c2, h1, h2, h3⟩ := betaOrd_app_eq_some (by omega) H
      obtain ⟨rfl, rfl⟩ := betaOrd_nf_eq_some h1 hc1 hk.1
      obtain ⟨rfl, rfl⟩ := callIf_nf_eq_some h2 hc1 hrn
      rcases finish_eq_some h3 with ⟨b, rfl, _⟩ | ⟨_, ⟨hd', _⟩ | ⟨_, l2, c3, r2, c4, h4, h5, rfl⟩⟩
      · rw [← hk.2] at hna; cases hna
      · rw [hd] at hd'; cases hd'
      · exact finish_deep hred hd (ihl hl1 (by omega) h4) (callIf_mono (mono o) h5)
    · -- the step is in the operand, visited after the operator
      have hpos := height_pos_of_step hr1
      have hred : (isAbs l && budget L c) = false := by rw [hna]; rfl
      rw [visit_app hgate (betaOrd_nf hln (by omega) L c) (nfArg hrn)]
      obtain ⟨l', c1, r', c2, h1, h2, h3⟩ := betaOrd_app_eq_some (by omega) H
      obtain ⟨rfl, rfl⟩ := betaOrd_nf_eq_some h1 hc1 hln
      rw [he] at h2; cases h2
      rcases finish_eq_some h3 with ⟨b, rfl, _⟩ | ⟨_, ⟨hd', _⟩ | ⟨_, l2, c3, r2, c4, h4, h5, rfl⟩⟩
      · cases hna
      · rw [hd] at hd'; cases hd'
      · obtain ⟨rfl, rfl⟩ := betaOrd_nf_eq_some h4 hc1 hln2
        refine finish_deep hred hd (betaOrd_nf hln2 (by omega) L c) ?_
        rw [he] at h5 ⊢
        exact ihr hr1 (by omega) h5

/-- a run of `k` steps that the limit admits, that ends at the limit or in a strategy-normal form
and whose terms have height ≤ `H`, is what the traversal returns with any fuel ≥ `k + H + 1` -/
theorem betaOrd_run {o : Order} {L k : Nat} {t t' : Term} (it : Iter (stepOrd o) k t t') :
    ∀ {c : Nat}, (L = 0 ∨ c + k ≤ L) → ((L = 0 ∨ c + k < L) → stepOrd o t' = none) →
    ∀ {H : Nat}, Iter.All (height · ≤ H) (stepOrd o) k t → ∀ {g : Nat}, k + H + 1 ≤ g →
    betaOrd o L g t c = some (t', c + k) := by
  induction it with
  | zero t =>
    intro c _ hnf H hb g hg
    cases hgate : gate L c with
    | true => exact betaOrd_gate hgate (by omega) o t
    | false =>
      rw [gate_eq_false] at hgate
      exact betaOrd_nf (hnf (by omega)) (by have := hb.start; omega) L c
  | @succ k t u v hs rest ih =>
    intro c hle hnf H hb g hg
    obtain ⟨g, rfl⟩ : ∃ g', g = g' + 1 := ⟨g - 1, by omega⟩
    have := ih (c := c + 1) (by omega) (fun h => hnf (by omega)) (hb.tail hs) (g := g) (by omega)
    rw [show c + 1 + k = c + (k + 1) by omega] at this
    exact betaOrd_absorb (by omega) hs (by have := hb.start; omega) this

theorem betaOrd_complete (o : Order) (L k : Nat) (t t' : Term) (c : Nat)
    (it : Iter (stepOrd o) k t t') (h0 : L = 0 → stepOrd o t' = none)
    (hL : L ≠ 0 → c + k ≤ L ∧ (c + k < L → stepOrd o t' = none)) :
    ∃ fuel, betaOrd o L fuel t c = some (t', c + k) := by
  obtain ⟨H, hb⟩ := Iter.All.exists_height (stepOrd o) k t
  by_cases h' : L = 0
  · exact ⟨_, betaOrd_run it (Or.inl h') (fun _ => h0 h') hb (Nat.le_refl _)⟩
  · exact ⟨_, betaOrd_run it (Or.inr (hL h').1) (fun h => (hL h').2 (by omega)) hb (Nat.le_refl _)⟩

theorem betaNor_complete (L : Nat) : ∀ k t t' c, Iter stepNor k t t' → (L = 0 → stepNor t' = none) →
    (L ≠ 0 → c + k ≤ L ∧ (c + k < L → stepNor t' = none)) → ∃ fuel, betaNor L fuel t c = some (t', c + k) :=
  fun k t t' c => betaOrd_complete .NOR L k t t' c

theorem reduce_complete (o : Order) (L k : Nat) (t t' : Term)
    (it : Iter (stepOrd o) k t t') (h0 : L = 0 → stepOrd o t' = none)
    (hL : L ≠ 0 → k ≤ L ∧ (k < L → stepOrd o t' = none)) :
    ∃ fuel, reduce o L fuel t = some (t', k) := by
  have := betaOrd_complete o L k t t' 0 it h0 (by simpa using hL)
  simpa [reduce] using this

/-- for every term and every bound `L` there is a run of at most `L` steps that ends in a normal form
of `f` or has exactly `L` steps (an `RL.BRun` of `Proofs/ReduceLemmas.lean`) -/
theorem bounded_run_exists (f : Term → Option Term) (L : Nat) (t : Term) :
    ∃ k t', Iter f k t t' ∧ k ≤ L ∧ (k < L → f t' = none) := by
  induction L generalizing t with
  | zero => exact ⟨0, t, Iter.zero _, Nat.le_refl _, fun h => absurd h (Nat.lt_irrefl _)⟩
  | succ L ih =>
    cases hs : f t with
    | none => exact ⟨0, t, Iter.zero _, Nat.zero_le _, fun _ => hs⟩
    | some u =>
      obtain ⟨k, t', it, hk, hn⟩ := ih u
      exact ⟨k + 1, t', Iter.succ hs it, by omega, fun h => hn (by omega)⟩

theorem reduce_total (o : Order) (L : Nat) (hL : L ≠ 0) (t : Term) :
    ∃ fuel r, reduce o L fuel t = some r := by
  obtain ⟨k, t', it, hk, hn⟩ := bounded_run_exists (stepOrd o) L t
  obtain ⟨fuel, h⟩ := reduce_complete o L k t t' it (fun h => absurd h hL) (fun _ => ⟨hk, hn⟩)
  exact ⟨fuel, _, h⟩

end Term
end LC
