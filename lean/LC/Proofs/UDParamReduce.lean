/-
The seven small-step strategies of `LC/Spec/Strategy.lean` and the fuel-indexed reducers of `LC/Model/Reduce.lean`
commute with `udToFree k d` (UD renamed to the outer reference number `k + 1`): a strategy selects the same redex and
the contractum is the renamed contractum; a reducer, for every limit, fuel and start count, gives the same
`none`/`some`, the same count and the renamed term.  Both are shown once, over the common scheme of the seven orders.
-/
import LC.Proofs.UDParam
import LC.Proofs.Scheme

namespace LC
namespace Term

theorem udToFree_stepOrd (o : Order) (k d : Nat) (t : Term) :
    stepOrd o (udToFree k d t) = (stepOrd o t).map (udToFree k d) := by
  induction t generalizing o d with
  | var i => rw [udToFree_var, stepOrd_var, stepOrd_var]; rfl
  | abs b ih =>
    rw [udToFree_abs, stepOrd_abs, stepOrd_abs, ih]
    cases o.under <;> cases stepOrd o b <;> rfl
  | app l r ihl ihr =>
    simp only [udToFree_app, stepOrd_app, ihl, ihr]
    cases stepOrd o.head l with
    | some l' => rfl
    | none =>
      cases l with
      | abs b =>
        -- the operator is an abstraction: if no operand step comes first, the renamed redex is contracted
        cases o.eager <;> cases stepOrd o r <;> first | rfl | exact congrArg some (udToFree_contract k d b r).symm
      | var i =>
        simp only [stepOrd_var]
        cases i <;> cases o.eager <;> cases stepOrd o r <;> cases o.deep <;> rfl
      | app l1 l2 =>
        cases o.eager <;> cases stepOrd o r <;> cases o.deep <;> cases stepOrd o (app l1 l2) <;> rfl

/-- the property statements write `fun r => (udToFree k d r.1, r.2)` out -/
def udP (k d : Nat) (r : Term × Nat) : Term × Nat := (udToFree k d r.1, r.2)

section
variable {L k : Nat} {self : Order → Term → Nat → Option (Term × Nat)}
  (h : ∀ o d t c, self o (udToFree k d t) c = (self o t c).map (udP k d))
include h

theorem udToFree_callIf (b : Bool) (o : Order) (d : Nat) (t : Term) (c : Nat) :
    callIf b (self o) (udToFree k d t) c = (callIf b (self o) t c).map (udP k d) := by
  cases b
  · rfl
  · exact h o d t c

theorem udToFree_finish (o : Order) (d : Nat) (l r : Term) (c : Nat) :
    finish L self o (udToFree k d l) (udToFree k d r) c = (finish L self o l r c).map (udP k d) := by
  rcases redex_cases l L c with ⟨b, rfl, hb⟩ | hb
  · rw [udToFree_abs, finish_red hb, finish_red hb, ← udToFree_contract, h]
  · have hb' : (isAbs (udToFree k d l) && budget L c) = false := by rw [isAbs_udToFree, hb]
    cases hd : o.deep with
    | false => rw [finish_shallow hb' hd, finish_shallow hb hd]; rfl
    | true =>
      rw [finish_deep_bind hb' hd, finish_deep_bind hb hd, h]
      cases self o l c with
      | none => rfl
      | some p =>
        simp only [Option.map_some, Option.bind_some, udP, udToFree_callIf h]
        cases callIf (!o.eager) (self o) r p.2 <;> rfl

theorem udToFree_visit (o : Order) (d : Nat) (t : Term) (c : Nat) :
    visit L self o (udToFree k d t) c = (visit L self o t c).map (udP k d) := by
  cases hg : gate L c with
  | true => rw [visit_gate hg, visit_gate hg]; rfl
  | false =>
    cases t with
    | var i => rw [udToFree_var, visit_var, visit_var, ← udToFree_var]; rfl
    | abs b =>
      rw [udToFree_abs]
      cases hu : o.under with
      | false => rw [visit_abs_stop hu, visit_abs_stop hu]; rfl
      | true =>
        rw [visit_abs_bind hg hu, visit_abs_bind hg hu, h]
        cases self o b c <;> rfl
    | app l r =>
      rw [udToFree_app, visit_app_bind hg, visit_app_bind hg, h]
      cases self o.head l c with
      | none => rfl
      | some p =>
        simp only [Option.map_some, Option.bind_some, udP, udToFree_callIf h]
        cases callIf o.eager (self o) r p.2 with
        | none => rfl
        | some q => exact udToFree_finish h o d p.1 q.1 q.2

end

theorem udToFree_betaOrd (o : Order) (L fuel k d : Nat) (t : Term) (c : Nat) :
    betaOrd o L fuel (udToFree k d t) c = (betaOrd o L fuel t c).map (udP k d) := by
  induction fuel generalizing o d t c with
  | zero => rw [betaOrd_zero, betaOrd_zero]; rfl
  | succ fuel ih =>
    rw [betaOrd_succ, betaOrd_succ]
    exact udToFree_visit (fun o d t c => ih o d t c) o d t c

theorem udToFree_reduce (o : Order) (L fuel k d : Nat) (t : Term) :
    reduce o L fuel (udToFree k d t) = (reduce o L fuel t).map (udP k d) :=
  udToFree_betaOrd o L fuel k d t 0

end Term
end LC
