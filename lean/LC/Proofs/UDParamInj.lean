/-
Freshness for `udToFree k d`: when the outer reference number `k + 1` does not occur in a term
(`freeInAux d (k+1) t = false`: no `var i` under `m` binders of `t` has `i = k + 1 + d + m`), renaming UD to that
reference loses nothing: `freeToUD k d` undoes it (`freeToUD_udToFree`; injectivity is read off in
`Props/C08Param.lean`).  Freshness is preserved by β-reduction, hence by `reduce`.

So UD is a free variable that nobody else uses, and what β-reduction does to free variables (`Proofs/FreeVars.lean`) it
does to UD: it creates none (`hasUD_beta`, `hasUD_star`), and closed terms stay closed (`closed_star`).
-/
import LC.Proofs.UDParamReduce
import LC.Proofs.FreeVars
import LC.Proofs.ReduceLemmas

namespace LC
namespace Term
open Spec

/-- the inverse renaming: the outer reference number `k + 1` (`var (k + d + 1)` under `d` binders) becomes UD -/
def freeToUD (k : Nat) (d : Nat) : Term → Term
  | var i => if i = k + d + 1 then var 0 else var i
  | abs b => abs (freeToUD k (d + 1) b)
  | app l r => app (freeToUD k d l) (freeToUD k d r)

/-- a `maxIndex`-style bound: every `var i` under `e` binders (counted from `e` outside) has `i ≤ e + k`, i.e. every
outer reference number of the term is at most `k` -/
def udBound (k : Nat) (e : Nat) : Term → Bool
  | var i => decide (i ≤ e + k)
  | abs b => udBound k (e + 1) b
  | app l r => udBound k e l && udBound k e r

theorem fresh_of_udBound (k e : Nat) (t : Term) (h : udBound k e t = true) : freeInAux e (k + 1) t = false := by
  induction t generalizing e with
  | var i => simp only [udBound, decide_eq_true_eq] at h; simp only [freeInAux, beq_eq_false_iff_ne, ne_eq]; omega
  | abs b ih => exact ih (e + 1) h
  | app l r ihl ihr =>
    simp only [udBound, Bool.and_eq_true] at h
    simp only [freeInAux, Bool.or_eq_false_iff]
    exact ⟨ihl e h.1, ihr e h.2⟩

theorem udBound_of_maxIndex (k e : Nat) (t : Term) (h : maxIndex t ≤ k + e) : udBound k e t = true := by
  induction t generalizing e with
  | var i => simp only [maxIndex] at h; simp only [udBound, decide_eq_true_eq]; omega
  | abs b ih => exact ih (e + 1) (by simp only [maxIndex] at h; omega)
  | app l r ihl ihr =>
    simp only [maxIndex] at h
    simp only [udBound, Bool.and_eq_true]
    exact ⟨ihl e (by omega), ihr e (by omega)⟩

theorem fresh_of_maxIndex (k e : Nat) (t : Term) (h : maxIndex t ≤ k + e) : freeInAux e (k + 1) t = false :=
  fresh_of_udBound k e t (udBound_of_maxIndex k e t h)

theorem freeToUD_udToFree (k d : Nat) (t : Term) (h : freeInAux d (k + 1) t = false) :
    freeToUD k d (udToFree k d t) = t := by
  induction t generalizing d with
  | var i =>
    cases i with
    | zero => simp [udToFree, freeToUD]
    | succ i =>
      simp only [freeInAux, beq_eq_false_iff_ne, ne_eq] at h
      have : ¬ (i + 1 = k + d + 1) := by omega
      simp only [udToFree, freeToUD, this, if_false]
  | abs b ih => simp only [udToFree, freeToUD]; rw [ih (d + 1) h]
  | app l r ihl ihr =>
    simp only [freeInAux, Bool.or_eq_false_iff] at h
    simp only [udToFree, freeToUD]; rw [ihl d h.1, ihr d h.2]

theorem hasUD_udToFree (k d : Nat) (t : Term) : hasUD (udToFree k d t) = false := by
  induction t generalizing d with
  | var i => cases i <;> simp [udToFree, hasUD]
  | abs b ih => simp [hasUD, ih]
  | app l r ihl ihr => simp [hasUD, ihl, ihr]

/-- the renamed term mentions reference `k + 1` exactly when the original mentions UD (given freshness) -/
theorem freeInAux_udToFree (k d : Nat) (t : Term) (h : freeInAux d (k + 1) t = false) :
    freeInAux d (k + 1) (udToFree k d t) = hasUD t := by
  induction t generalizing d with
  | var i =>
    cases i with
    | zero => simp [udToFree, freeInAux, hasUD]; omega
    | succ i => simpa [udToFree, hasUD] using h
  | abs b ih => simp only [udToFree, freeInAux, hasUD]; exact ih (d + 1) h
  | app l r ihl ihr =>
    simp only [freeInAux, Bool.or_eq_false_iff] at h
    simp only [udToFree, freeInAux, hasUD, ihl d h.1, ihr d h.2]

theorem fresh_star {t u : Term} (hs : Star t u) (d j : Nat) (hj : 1 ≤ j) (h : freeInAux d j t = false) :
    freeInAux d j u = false := by
  cases hx : freeInAux d j u with
  | false => rfl
  | true => rw [freeInAux_star hs d j hj hx] at h; cases h

theorem fresh_reduce {o : Order} {L fuel : Nat} {t t' : Term} {c : Nat} (h : reduce o L fuel t = some (t', c))
    (d k : Nat) (hk : freeInAux d (k + 1) t = false) : freeInAux d (k + 1) t' = false :=
  fresh_star (RL.reduce_star h) d (k + 1) (by omega) hk

end Term

namespace Spec
open Term

theorem hasUD_beta {t u : Term} (hb : Beta t u) (h : hasUD u = true) : hasUD t = true := by
  -- rename UD to a reference above every index of `t` and `u`
  have ft := fresh_of_maxIndex (max (maxIndex t) (maxIndex u)) 0 t (by omega)
  have fu := fresh_of_maxIndex (max (maxIndex t) (maxIndex u)) 0 u (by omega)
  rw [← freeInAux_udToFree _ 0 u fu] at h
  rw [← freeInAux_udToFree _ 0 t ft]
  exact freeInAux_beta (udToFree_beta hb _ 0) 0 _ (by omega) h

theorem hasUD_substTop {b a : Term} (h : hasUD (substTop b a) = true) :
    hasUD b = true ∨ hasUD a = true := by
  simpa [hasUD] using hasUD_beta (Beta.red b a) h

theorem hasUD_star {t u : Term} (hs : Star t u) (h : hasUD u = true) : hasUD t = true := by
  induction hs with
  | refl _ => exact h
  | head hb _ ih => exact hasUD_beta hb (ih h)

theorem closed_star {t u : Term} (hs : Star t u) (h : hasFreeVariables t = false) :
    hasFreeVariables u = false := by
  cases hu : hasFreeVariables u with
  | false => rfl
  | true =>
    have ht : hasFreeVariables t = true := by
      rw [hasFreeVariables_iff] at hu ⊢
      rcases hu with ⟨j, hj⟩ | hu
      · exact Or.inl ⟨j, freeIn_star hs hj⟩
      · exact Or.inr (hasUD_star hs hu)
    rw [h] at ht; cases ht

end Spec
end LC
