/-
The representation boundary of De Bruijn indices: the exact characterisation of the checked traversals, all seven
orders, every limit, fuel and starting count (from `betaOrdChk_sim` and `betaOrdChk_ex`).

* `betaOrdChk_rel`: the checked and the unbounded answer of a call on a representable term are related by `ChkRel`.
  With limit 1 (what `reduceb` uses) this decides the checked answer completely (`Props/C01BoundedTraversal.lean`);
* `betaOrdChk_ret_iff`: the checked call returns `(t', c')` iff the unbounded call returns `(t', c')` and all iterates of
  the strategy up to the `(c' - c)`-th are representable;
* `betaOrdChk_panic`: a panic (any fuel, whether or not the unbounded call returns with that fuel) exhibits an iterate
  within the limit that is not representable;
* `betaOrdChk_panic_iff`: when the unbounded call returns `(t', c')`, the checked call panics iff some iterate up to the
  `(c' - c)`-th is not representable, iff some iterate within the limit is not representable;
* `betaOrdChk_not_ret_of_bad`: with a non-representable iterate within the limit the checked call returns for no fuel.
-/
import LC.Proofs.BoundedTraversalExact

namespace LC
namespace Term

/-- the checked answer `x` against the unbounded answer `y` of the same call started at count `c`:
* `x = fuel`  → `y = none`;
* `x = ret t' c'` → `y = some (t', c')` and `t'` is representable;
* `x = panic` → if the unbounded call returns `(t', c')` then it made at least one contraction, and if it made exactly
  one, `t'` is NOT representable. -/
def ChkRel (M c : Nat) (x : ChkRes) (y : Option (Term × Nat)) : Prop :=
  match x with
  | .fuel => y = none
  | .ret t' c' => y = some (t', c') ∧ maxIndex t' ≤ M
  | .panic => ∀ t' c', y = some (t', c') → c < c' ∧ (c' = c + 1 → M < maxIndex t')

theorem betaOrdChk_rel (M : Nat) (o : Order) (L fuel : Nat) (t : Term) (c : Nat) (ht : maxIndex t ≤ M)
    (hc : L = 0 ∨ c ≤ L) : ChkRel M c (betaOrdChk M o L fuel t c) (betaOrd o L fuel t c) := by
  have hsim := betaOrdChk_sim M o L fuel t c
  have hex := betaOrdChk_ex M o L fuel t c ht hc
  cases hx : betaOrdChk M o L fuel t c with
  | fuel => rw [hx] at hsim; exact hsim
  | ret t' c' =>
    rw [hx] at hsim hex
    obtain ⟨k, e, r⟩ := hex
    exact ⟨hsim, r _ t' (by omega) (betaOrd_sound o L fuel t c t' c' hsim hc).iter⟩
  | panic =>
    rw [hx] at hex
    intro t' c' hy
    have P := betaOrd_sound o L fuel t c t' c' hy hc
    obtain ⟨j, u, hj, itu, hu⟩ := P.bad_within hex
    have hj0 := itu.ne_zero_of_maxIndex_lt ht hu
    refine ⟨by omega, fun e => ?_⟩
    obtain rfl : j = 1 := by omega
    rw [Iter.det (P.iter.cast (by omega)) itu]
    exact hu

theorem reduceChk_rel (M : Nat) (o : Order) (L fuel : Nat) (t : Term) (ht : maxIndex t ≤ M) :
    ChkRel M 0 (reduceChk M o L fuel t) (reduce o L fuel t) :=
  betaOrdChk_rel M o L fuel t 0 ht (by omega)

theorem betaOrdChk_ret_iff (M : Nat) (o : Order) (L fuel : Nat) (t : Term) (c : Nat) (t' : Term) (c' : Nat)
    (ht : maxIndex t ≤ M) (hc : L = 0 ∨ c ≤ L) :
    betaOrdChk M o L fuel t c = .ret t' c' ↔
      (betaOrd o L fuel t c = some (t', c') ∧
        ∀ j u, c + j ≤ c' → Iter (stepOrd o) j t u → maxIndex u ≤ M) := by
  have hrel := betaOrdChk_rel M o L fuel t c ht hc
  have hex := betaOrdChk_ex M o L fuel t c ht hc
  constructor
  · intro h
    rw [h] at hrel hex
    obtain ⟨k, e, r⟩ := hex
    exact ⟨hrel.1, fun j u hj it => r j u (by omega) it⟩
  · rintro ⟨hy, hall⟩
    cases hx : betaOrdChk M o L fuel t c with
    | fuel =>
      rw [hx, hy] at hrel
      cases hrel
    | ret t2 c2 =>
      rw [hx, hy] at hrel
      obtain ⟨e, _⟩ := hrel
      cases e
      rfl
    | panic =>
      rw [hx] at hex
      obtain ⟨j, u, hj, it, hu⟩ := (betaOrd_sound o L fuel t c t' c' hy hc).bad_within hex
      have := hall j u hj it
      omega

theorem betaOrdChk_panic (M : Nat) (o : Order) (L fuel : Nat) (t : Term) (c : Nat)
    (ht : maxIndex t ≤ M) (hc : L = 0 ∨ c ≤ L) (h : betaOrdChk M o L fuel t c = .panic) :
    ∃ j u, (L = 0 ∨ c + j ≤ L) ∧ Iter (stepOrd o) j t u ∧ M < maxIndex u := by
  have hex := betaOrdChk_ex M o L fuel t c ht hc
  rw [h] at hex
  obtain ⟨k, u, it, hu, hb⟩ := hex
  exact ⟨k, u, hb, it, hu⟩

theorem betaOrdChk_panic_iff (M : Nat) (o : Order) (L fuel : Nat) (t : Term) (c : Nat) (t' : Term) (c' : Nat)
    (ht : maxIndex t ≤ M) (hc : L = 0 ∨ c ≤ L) (hy : betaOrd o L fuel t c = some (t', c')) :
    (betaOrdChk M o L fuel t c = .panic ↔ ∃ j u, c + j ≤ c' ∧ Iter (stepOrd o) j t u ∧ M < maxIndex u) ∧
    (betaOrdChk M o L fuel t c = .panic ↔
      ∃ j u, (L = 0 ∨ c + j ≤ L) ∧ Iter (stepOrd o) j t u ∧ M < maxIndex u) := by
  have hrel := betaOrdChk_rel M o L fuel t c ht hc
  have P := betaOrd_sound o L fuel t c t' c' hy hc
  have key : betaOrdChk M o L fuel t c = .panic ↔
      ∃ j u, c + j ≤ c' ∧ Iter (stepOrd o) j t u ∧ M < maxIndex u := by
    constructor
    · intro h
      have hex := betaOrdChk_ex M o L fuel t c ht hc
      rw [h] at hex
      exact P.bad_within hex
    · rintro ⟨j, u, hj, it, hu⟩
      cases hx : betaOrdChk M o L fuel t c with
      | fuel =>
        rw [hx, hy] at hrel
        cases hrel
      | panic => rfl
      | ret t2 c2 =>
        have h2 := (betaOrdChk_ret_iff M o L fuel t c t2 c2 ht hc).1 hx
        rw [hy] at h2
        obtain ⟨e, hall⟩ := h2
        cases e
        have := hall j u hj it
        omega
  refine ⟨key, key.trans ⟨fun h => ?_, fun h => ?_⟩⟩
  · obtain ⟨k, u, it, hu, hb⟩ := P.bad_of_within (M := M) h
    exact ⟨k, u, hb, it, hu⟩
  · obtain ⟨j, u, hb, it, hu⟩ := h
    exact P.bad_within ⟨j, u, it, hu, hb⟩

theorem betaOrdChk_not_ret_of_bad (M : Nat) (o : Order) (L fuel : Nat) (t : Term) (c : Nat)
    (ht : maxIndex t ≤ M) (hc : L = 0 ∨ c ≤ L)
    (h : ∃ j u, (L = 0 ∨ c + j ≤ L) ∧ Iter (stepOrd o) j t u ∧ M < maxIndex u) (t' : Term) (c' : Nat) :
    betaOrdChk M o L fuel t c ≠ .ret t' c' := by
  intro hx
  obtain ⟨hy, hall⟩ := (betaOrdChk_ret_iff M o L fuel t c t' c' ht hc).1 hx
  obtain ⟨j, u, hb, it, hu⟩ := h
  obtain ⟨j', u', hj', it', hu'⟩ := (betaOrd_sound o L fuel t c t' c' hy hc).bad_within ⟨j, u, it, hu, hb⟩
  have := hall j' u' hj' it'
  omega

end Term
end LC
