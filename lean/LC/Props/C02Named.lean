/-
C02 — adequacy of `Term::apply` against a NAMED λ-calculus with capture-avoiding substitution

"For every abstraction and every argument term, apply leaves exactly the abstraction body with the argument
substituted for the bound variable: the argument's free variables still refer to the same outer binders at every
occurrence, other outer references of the body are renumbered to account for the removed binder …"
The property asks for agreement with two reference substitutions, "a De Bruijn shift/subst oracle" (`Props/C02.lean`)
and "a named-variable alpha-renaming oracle": this file is the second, as a theorem.

`LC/Props/C02.lean` ties the model's `apply` to the De Bruijn specification `substTop`.  This file ties `substTop`
(hence `apply`) to the textbook NAMED presentation: named terms `NTerm` (names are naturals, `ud` is the placeholder),
the translation `toDB Γ` under a context of binder names, and the capture-avoiding substitution `csubst`, which renames
a binder that would capture a free name of the argument to a fresh name (definitions in `LC/Proofs/Named.lean`).
α-equivalence of named terms under `Γ` is `toDB Γ M = toDB Γ M'`.

    toDB Γ (csubst M x N) = substTop (toDB (x :: Γ) M) (toDB Γ N)          for ALL M, N, x, Γ

and `toDB []` is onto the De Bruijn terms (`fromDB`), so the statement covers every receiver and argument the crate
can be handed.
-/
import LC.Props.C02
import LC.Proofs.Named
import LC.Proofs.NamedInv

namespace LC
open Spec Named

/-- a name bound by the context translates to the position of its FIRST (innermost) occurrence, plus one -/
theorem C02_named_toDB_bound (Γ : List Nat) (x : Nat) (h : x ∈ Γ) :
    toDB Γ (.var x) = Term.var (Γ.idxOf x + 1) ∧ Γ.idxOf x < Γ.length ∧ Γ[Γ.idxOf x]? = some x ∧
      ∀ j, j < Γ.idxOf x → Γ[j]? ≠ some x := by
  have hlt : Γ.idxOf x < Γ.length := List.idxOf_lt_length_iff.mpr h
  refine ⟨by simp [toDB, ix, h], hlt, ?_, fun j hj => ?_⟩
  · rw [List.getElem?_eq_getElem hlt, List.getElem_idxOf hlt]
  · have hjl : j < Γ.length := Nat.lt_trans hj hlt
    have := List.not_of_lt_findIdx (p := (· == x)) hj
    rw [List.getElem?_eq_getElem hjl]
    simpa using this

/-- a name that the context does not bind is the outer reference `Γ.length + x + 1`: it points above all of `Γ`, and
distinct free names are distinct references -/
theorem C02_named_toDB_free (Γ : List Nat) (x : Nat) (h : x ∉ Γ) :
    toDB Γ (.var x) = Term.var (Γ.length + x + 1) := by
  simp [toDB, ix, h]

theorem C02_named_toDB_struct (Γ : List Nat) (x : Nat) (b l r : NTerm) :
    toDB Γ .ud = Term.var 0 ∧ toDB Γ (.lam x b) = Term.abs (toDB (x :: Γ) b) ∧
      toDB Γ (.app l r) = Term.app (toDB Γ l) (toDB Γ r) := ⟨rfl, rfl, rfl⟩

example : toDB [7, 5, 7] (.app (.app (.var 7) (.var 5)) (.var 2)) = Term.app (Term.app (Term.var 1) (Term.var 2)) (Term.var 6) := by
  decide +kernel

theorem C02_named_csubst_var (y x : Nat) (N : NTerm) : csubst (.var y) x N = if y = x then N else .var y := rfl

theorem C02_named_csubst_ud (x : Nat) (N : NTerm) : csubst .ud x N = .ud := rfl

theorem C02_named_csubst_app (l r : NTerm) (x : Nat) (N : NTerm) :
    csubst (.app l r) x N = .app (csubst l x N) (csubst r x N) := by
  simp only [csubst, size, csubstF]
  rw [csubstF_fuel (size l + size r) (size l) l N x (by omega) (Nat.le_refl _),
    csubstF_fuel (size l + size r) (size r) r N x (by omega) (Nat.le_refl _)]

/-- the binder case: stop at a binder of `x`; rename a binder that is free in `N` to the fresh name
`fresh x N b` (larger than `x` and every name of `N` and `b`) before going on; otherwise just go on -/
theorem C02_named_csubst_lam (y : Nat) (b : NTerm) (x : Nat) (N : NTerm) :
    csubst (.lam y b) x N =
      if y = x then .lam y b
      else if y ∈ fv N then .lam (fresh x N b) (csubst (nsubst b y (.var (fresh x N b))) x N)
      else .lam y (csubst b x N) := by
  simp only [csubst, size, csubstF, size_rename]

/-- the fresh name is different from `x` and occurs neither in `N` (free) nor in `b` (free or binding) -/
theorem C02_named_fresh (x : Nat) (N b : NTerm) :
    fresh x N b ≠ x ∧ fresh x N b ∉ fv N ∧ fresh x N b ∉ fv b ∧ fresh x N b ∉ bv b :=
  ⟨fresh_ne x N b, fresh_not_fv_arg x N b, fresh_not_fv_body x N b, fresh_not_bv_body x N b⟩

example : csubst (.lam 1 (.app (.var 0) (.var 1))) 0 (.var 1) = .lam 2 (.app (.var 1) (.var 2)) := by decide +kernel

/-- renaming a bound variable to a name that does not occur in the body preserves the translation, under every
context: `λy. b` and `λz. b[y := z]` are α-equivalent -/
theorem C02_named_alpha_rename (Γ : List Nat) (y z : Nat) (b : NTerm) (hzf : z ∉ fv b) (hzb : z ∉ bv b) :
    toDB Γ (.lam z (nsubst b y (.var z))) = toDB Γ (.lam y b) := by
  simp only [toDB]; congr 1
  exact toDB_rename b y z [] Γ (by simp) (by simp) hzf hzb

example : toDB [4] (.lam 9 (nsubst (.app (.var 3) (.lam 3 (.app (.var 3) (.var 4)))) 3 (.var 9)))
    = toDB [4] (.lam 3 (.app (.var 3) (.lam 3 (.app (.var 3) (.var 4))))) := by decide +kernel

/-- without freshness the renaming is NOT an α-equivalence (so the hypotheses above are not idle) -/
example : toDB [] (.lam 4 (nsubst (.app (.var 3) (.var 4)) 3 (.var 4))) ≠ toDB [] (.lam 3 (.app (.var 3) (.var 4))) := by
  decide +kernel

/-- the translation depends only on the indices of the FREE names -/
theorem C02_named_toDB_congr (M : NTerm) (Γ₁ Γ₂ : List Nat)
    (h : ∀ v ∈ fv M, toDB Γ₁ (.var v) = toDB Γ₂ (.var v)) : toDB Γ₁ M = toDB Γ₂ M := by
  apply toDB_congr
  intro v hv
  have := h v hv
  simpa [toDB] using this

example : toDB [1, 2] (.lam 2 (.app (.var 1) (.var 2))) = toDB [1, 3] (.lam 2 (.app (.var 1) (.var 2))) :=
  C02_named_toDB_congr _ _ _ (by decide +kernel)

/-- C02, named adequacy: capture-avoiding substitution of the named calculus, translated, IS the De Bruijn
`substTop` of the translations — for all named terms `M`, `N` (open, with shadowing, with `ud`), names `x` and
contexts `Γ`.  The body lives under `x :: Γ`: its references to `Γ` and beyond are one higher than in the result,
which is the renumbering `apply` undoes; the argument lives under `Γ` and is raised at each occurrence by the
number of binders of `M` passed. -/
theorem C02_named_adequacy (Γ : List Nat) (M : NTerm) (x : Nat) (N : NTerm) :
    toDB Γ (csubst M x N) = substTop (toDB (x :: Γ) M) (toDB Γ N) := by
  rw [← contract_eq_substTop]
  have := csubstF_adequate_aux (size M) M N x [] Γ (Nat.le_refl _) (by simp) (by simp)
  simpa [Term.contract, csubst] using this.symm

/-- C02, named adequacy for the crate's operation: applying the translation of `λx. M` to the translation of `N`
succeeds and leaves the translation of `M[x := N]` -/
theorem C02_named_apply (Γ : List Nat) (M : NTerm) (x : Nat) (N : NTerm) :
    Term.apply (toDB Γ (.lam x M)) (toDB Γ N) = .ok (toDB Γ (csubst M x N)) := by
  rw [C02_named_adequacy]; exact C02_apply_abs _ _

theorem C02_named_applyMut (Γ : List Nat) (M : NTerm) (x : Nat) (N : NTerm) :
    Term.applyMut (toDB Γ (.lam x M)) (toDB Γ N) = (toDB Γ (csubst M x N), .ok ()) := by
  rw [C02_named_adequacy]; exact C02_applyMut_abs _ _

/-- substitution respects α-equivalence in both arguments (a consequence of adequacy) -/
theorem C02_named_csubst_alpha (Γ : List Nat) (M M' : NTerm) (x x' : Nat) (N N' : NTerm)
    (hM : toDB Γ (.lam x M) = toDB Γ (.lam x' M')) (hN : toDB Γ N = toDB Γ N') :
    toDB Γ (csubst M x N) = toDB Γ (csubst M' x' N') := by
  simp only [toDB, Term.abs.injEq] at hM
  rw [C02_named_adequacy, C02_named_adequacy, hM, hN]

/-! non-vacuity: the capture situation `(λy. x y z)[x := y]` with `x = 0, y = 1, z = 2`: the binder `y` is renamed to
the fresh name `3`; the translation of the result, the specification and the model's `apply` on the translations
agree; NAIVE substitution captures `y` and gives a different (not α-equivalent) term. -/
example : csubst (.lam 1 (.app (.app (.var 0) (.var 1)) (.var 2))) 0 (.var 1)
    = .lam 3 (.app (.app (.var 1) (.var 3)) (.var 2)) := by decide +kernel
example : toDB [] (csubst (.lam 1 (.app (.app (.var 0) (.var 1)) (.var 2))) 0 (.var 1))
    = Term.abs (Term.app (Term.app (Term.var 3) (Term.var 1)) (Term.var 4)) := by decide +kernel
example : toDB [] (.lam 0 (.lam 1 (.app (.app (.var 0) (.var 1)) (.var 2))))
    = Term.abs (Term.abs (Term.app (Term.app (Term.var 2) (Term.var 1)) (Term.var 5))) ∧
    toDB [] (.var 1) = Term.var 2 := by decide +kernel
example : Term.apply (Term.abs (Term.abs (Term.app (Term.app (Term.var 2) (Term.var 1)) (Term.var 5)))) (Term.var 2)
    = .ok (Term.abs (Term.app (Term.app (Term.var 3) (Term.var 1)) (Term.var 4))) := by rfl
example : nsubst (.lam 1 (.app (.app (.var 0) (.var 1)) (.var 2))) 0 (.var 1)
    = .lam 1 (.app (.app (.var 1) (.var 1)) (.var 2)) ∧
    toDB [] (nsubst (.lam 1 (.app (.app (.var 0) (.var 1)) (.var 2))) 0 (.var 1))
      ≠ toDB [] (csubst (.lam 1 (.app (.app (.var 0) (.var 1)) (.var 2))) 0 (.var 1)) := by decide +kernel
/-- an instance with a non-empty context, shadowing (`λ0` inside a body that substitutes for `0`), a nested capture
and `ud`: `(λ5. (λ0. 0) (λ6. 0 5 6 ud 9))[0 := 5 6]` under `Γ = [6, 5]` -/
example : Term.apply (toDB [6, 5] (.lam 0 (.lam 5 (.app (.lam 0 (.var 0))
      (.lam 6 (.app (.app (.app (.app (.var 0) (.var 5)) (.var 6)) .ud) (.var 9)))))))
      (toDB [6, 5] (.app (.var 5) (.var 6)))
    = .ok (toDB [6, 5] (.lam 10 (.app (.lam 0 (.var 0))
      (.lam 11 (.app (.app (.app (.app (.app (.var 5) (.var 6)) (.var 10)) (.var 11)) .ud) (.var 9)))))) ∧
    csubst (.lam 5 (.app (.lam 0 (.var 0)) (.lam 6 (.app (.app (.app (.app (.var 0) (.var 5)) (.var 6)) .ud) (.var 9)))))
      0 (.app (.var 5) (.var 6))
    = .lam 10 (.app (.lam 0 (.var 0))
      (.lam 11 (.app (.app (.app (.app (.app (.var 5) (.var 6)) (.var 10)) (.var 11)) .ud) (.var 9)))) :=
  ⟨by rfl, by decide +kernel⟩

/-- under the variable convention `bv M ∩ fv N = ∅` capture-avoiding substitution renames nothing … -/
theorem C02_named_csubst_eq_nsubst (M : NTerm) (x : Nat) (N : NTerm) (h : ∀ v ∈ fv N, v ∉ bv M) :
    csubst M x N = nsubst M x N :=
  csubstF_eq_nsubst (size M) M N x (Nat.le_refl _) h

/-- … so naive substitution is adequate there (and only there in general: see the example above) -/
theorem C02_named_naive_adequacy (Γ : List Nat) (M : NTerm) (x : Nat) (N : NTerm) (h : ∀ v ∈ fv N, v ∉ bv M) :
    toDB Γ (nsubst M x N) = substTop (toDB (x :: Γ) M) (toDB Γ N) := by
  rw [← C02_named_csubst_eq_nsubst M x N h]; exact C02_named_adequacy Γ M x N

example : toDB [] (nsubst (.lam 1 (.app (.var 0) (.var 1))) 0 (.var 2))
    = substTop (toDB [0] (.lam 1 (.app (.var 0) (.var 1)))) (toDB [] (.var 2)) :=
  C02_named_naive_adequacy _ _ _ _ (by decide +kernel)

/-- `fromDB Γ` is a right inverse of `toDB Γ` on every term that is representable under `Γ`: `Γ` repeats no name (the
outer one of two equal names could not be referred to) and no outer reference of `t` stands for a name bound by `Γ`
(the reference `Γ.length + x + 1` is the FREE name `x`, which must not be caught by `Γ`). -/
theorem C02_named_surjective (Γ : List Nat) (t : Term) (hn : Γ.Nodup)
    (ho : ∀ v ∈ outerNames Γ.length t, v ∉ Γ) : toDB Γ (fromDB Γ t) = t :=
  toDB_fromDB Γ t hn ho

/-- the second side condition is necessary: every translated term satisfies it -/
theorem C02_named_surjective_side_condition_necessary (Γ : List Nat) (M : NTerm) :
    ∀ v ∈ outerNames Γ.length (toDB Γ M), v ∉ Γ :=
  fun v hv => (outerNames_toDB M Γ v hv).2

/-- with the empty context there is no side condition: EVERY De Bruijn term is the translation of a named term -/
theorem C02_named_surjective_closed (t : Term) : toDB [] (fromDB [] t) = t :=
  toDB_fromDB [] t List.nodup_nil (by simp)

/-- for any number `n` of enclosing binders there is a context of `n` distinct (large) names under which a given
De Bruijn term is the translation of a named term -/
theorem C02_named_surjective_fresh_context (t : Term) (n : Nat) :
    ∃ Γ : List Nat, Γ.length = n ∧ Γ.Nodup ∧ toDB Γ (fromDB Γ t) = t :=
  ⟨_, length_upFrom _ n, nodup_upFrom _ n, toDB_fromDB_upFrom t n⟩

/-- hence the adequacy theorem speaks about every call `apply` can succeed on, also for a redex met under `n` enclosing
binders (this is how the reducers call `apply`): any abstraction `λb` and any argument `a` are, under a context of `n`
names, translations of a named abstraction `λx. M` and a named term `N`, and the result is the translation of
`M[x := N]` -/
theorem C02_named_apply_covers_in_context (n : Nat) (b a : Term) :
    ∃ (Γ : List Nat) (x : Nat) (M N : NTerm), Γ.length = n ∧ toDB Γ (.lam x M) = Term.abs b ∧ toDB Γ N = a ∧
      Term.apply (Term.abs b) a = .ok (toDB Γ (csubst M x N)) := by
  -- the whole redex is read back at once, so that body and argument get one context and one `base` of binder names;
  -- what the context is, is then forgotten
  have h := toDB_fromDB_upFrom (Term.app (Term.abs b) a) n
  have hl := length_upFrom (listMax (outerNames n (Term.app (Term.abs b) a)) + 1) n
  generalize upFrom (listMax (outerNames n (Term.app (Term.abs b) a)) + 1) n = Γ at h hl
  simp only [fromDB, fromDBAux, toDB, Term.app.injEq, Term.abs.injEq] at h
  refine ⟨Γ, base Γ (Term.app (Term.abs b) a) + Γ.length,
    fromDBAux (base Γ (Term.app (Term.abs b) a)) ((base Γ (Term.app (Term.abs b) a) + Γ.length) :: Γ) b,
    fromDBAux (base Γ (Term.app (Term.abs b) a)) Γ a, hl, ?_, h.2, ?_⟩
  · simp only [toDB]; rw [h.1]
  · rw [C02_named_adequacy, h.1, h.2]; exact C02_apply_abs b a

/-- at the top level: the context is empty -/
theorem C02_named_apply_covers (b a : Term) :
    ∃ (x : Nat) (M N : NTerm), toDB [] (.lam x M) = Term.abs b ∧ toDB [] N = a ∧
      Term.apply (Term.abs b) a = .ok (toDB [] (csubst M x N)) := by
  obtain ⟨Γ, x, M, N, hl, h1, h2, h3⟩ := C02_named_apply_covers_in_context 0 b a
  obtain rfl := List.eq_nil_of_length_eq_zero hl
  exact ⟨x, M, N, h1, h2, h3⟩

/-- a redex body with an outer reference (index 4 = two above the two context binders and its own) and a reference
into the context (index 2), read back under a fresh context of length 2 -/
example : upFrom 2 2 = [3, 2] ∧
    fromDB [3, 2] (Term.abs (Term.app (Term.app (Term.var 1) (Term.var 2)) (Term.var 4)))
      = .lam 6 (.app (.app (.var 6) (.var 3)) (.var 0)) ∧
    toDB [3, 2] (.lam 6 (.app (.app (.var 6) (.var 3)) (.var 0)))
      = Term.abs (Term.app (Term.app (Term.var 1) (Term.var 2)) (Term.var 4)) := by decide +kernel

example : fromDB [] (Term.abs (Term.app (Term.app (Term.var 1) (Term.var 3)) (Term.abs (Term.app (Term.var 2) (Term.var 0)))))
    = .lam 2 (.app (.app (.var 2) (.var 1)) (.lam 3 (.app (.var 2) .ud))) := by decide +kernel
example : toDB [8, 3] (fromDB [8, 3] (Term.abs (Term.app (Term.app (Term.var 2) (Term.var 3)) (Term.var 9))))
    = Term.abs (Term.app (Term.app (Term.var 2) (Term.var 3)) (Term.var 9)) :=
  C02_named_surjective _ _ (by decide +kernel) (by decide +kernel)
/-- an unrepresentable reference: under `Γ = [0]` the index 2 would be the free name `0`, which `Γ` binds -/
example : ∀ M : NTerm, toDB [0] M ≠ Term.var 2 := by
  intro M h
  have := C02_named_surjective_side_condition_necessary [0] M
  rw [h] at this
  exact this 0 (by decide +kernel) (by decide +kernel)

end LC
