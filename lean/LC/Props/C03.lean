/-
C03 — Each order stops exactly at the normal form it documents

"Whenever reduce stops without exhausting its limit (or returns at all with limit 0), the term
is in the normal form documented for the order: beta-normal form for NOR, HNO, APP and HAP, weak
head normal form for CBN, weak normal form (no redex outside an abstraction) for CBV, head
normal form for HSP. Conversely a term already in that form is left unchanged with count 0, so
CBN and CBV never reduce inside abstractions and CBN/HSP never reduce arguments of a head
variable."

The normal forms `Spec.NF o` (`isNormal`, `isWHNF`, `isWNF`, `isHNF`) are defined by shape in
`LC/Spec/NormalForms.lean`, without reference to the reducer or the step functions;
`C03_normal_is_beta_normal` ties the shape `isNormal` to "no β-step is possible".
-/
import LC.Proofs.ReduceLemmas

namespace LC
open Term Spec

/-- C03: stopping with limit left (or with limit 0) happens only in the documented normal form -/
theorem C03_stops_in_nf (o : Order) (L fuel : Nat) (t t' : Term) (c : Nat)
    (h : reduce o L fuel t = some (t', c)) (hl : L = 0 ∨ c < L) : NF o t' = true :=
  (RL.stepOrd_none_iff o t').1 ((reduce_sound o L fuel t t' c h).2.2 hl)

-- (λx. (λy.y) x) : CBN stops at once (weak head normal), NOR goes on to λx.x
example : reduce .CBN 0 10 (abs (app (abs (var 1)) (var 1))) = some (abs (app (abs (var 1)) (var 1)), 0)
    ∧ NF .CBN (abs (app (abs (var 1)) (var 1))) = true := by decide
example : reduce .NOR 0 10 (abs (app (abs (var 1)) (var 1))) = some (abs (var 1), 1)
    ∧ NF .NOR (abs (var 1)) = true := by decide
-- with the limit exhausted the result need not be normal
example : reduce .NOR 1 10 (app (abs (var 1)) (app (abs (var 1)) (var 7)))
      = some (app (abs (var 1)) (var 7), 1)
    ∧ NF .NOR (app (abs (var 1)) (var 7)) = false := by decide

/-- C03, converse: whatever `reduce` returns on a term already in the documented normal form is
that term with count 0 -/
theorem C03_nf_fixed' (o : Order) (L fuel : Nat) (t t' : Term) (c : Nat) (hn : NF o t = true)
    (h : reduce o L fuel t = some (t', c)) : t' = t ∧ c = 0 := by
  have it := (reduce_sound o L fuel t t' c h).1
  obtain ⟨hc, ht⟩ := Iter.of_none it ((RL.stepOrd_none_iff o t).2 hn)
  exact ⟨ht, hc⟩

/-- C03, converse with termination: on a term already in the documented normal form `reduce`
does return (any fuel above the size of the term suffices), leaving the term unchanged with count 0 -/
theorem C03_nf_fixed (o : Order) (L : Nat) (t : Term) (hn : NF o t = true) :
    ∃ fuel, reduce o L fuel t = some (t, 0) :=
  ⟨RL.size t, RL.betaOrd_nf_fixed o L t (RL.size t) 0 (Nat.le_refl _) hn⟩

theorem C03_nf_fixed_fuel (o : Order) (L fuel : Nat) (t : Term) (hn : NF o t = true)
    (hf : RL.size t ≤ fuel) : reduce o L fuel t = some (t, 0) :=
  RL.betaOrd_nf_fixed o L t fuel 0 hf hn

example : NF .HSP (abs (app (var 1) (app (abs (var 1)) (var 2)))) = true
    ∧ reduce .HSP 0 6 (abs (app (var 1) (app (abs (var 1)) (var 2))))
      = some (abs (app (var 1) (app (abs (var 1)) (var 2))), 0) := by decide

/-- C03: the shape predicate `isNormal` is β-normality (no β-step possible) -/
theorem C03_normal_is_beta_normal (t : Term) : isNormal t = true ↔ Normal t :=
  isNormal_iff_normal t

example : ¬ Normal (app (abs (var 1)) (var 2)) :=
  fun h => absurd ((C03_normal_is_beta_normal _).2 h) (by decide)
example : Normal (abs (app (var 1) (var 2))) := (C03_normal_is_beta_normal _).1 (by decide)

/-- C03: the strategy selects nothing exactly on the documented normal forms -/
theorem C03_no_step_iff_nf (o : Order) (t : Term) : stepOrd o t = none ↔ NF o t = true :=
  RL.stepOrd_none_iff o t

/-- C03: every abstraction is CBN- and CBV-normal — these orders never reduce inside abstractions -/
theorem C03_cbn_cbv_no_under_abs (b : Term) : NF .CBN (abs b) = true ∧ NF .CBV (abs b) = true :=
  ⟨rfl, rfl⟩

example : reduce .CBV 0 10 (abs (app (abs (var 1)) (var 1))) = some (abs (app (abs (var 1)) (var 1)), 0) := by
  decide

/-- C03: a head variable applied to any arguments is CBN- and HSP-normal — these orders never
reduce the arguments of a head variable -/
theorem C03_cbn_hsp_no_args (t : Term) (h : neutral t = true) :
    NF .CBN t = true ∧ NF .HSP t = true := by
  cases t <;> simp_all [NF, isWHNF, isHNF, neutral]

example : neutral (app (var 3) (app (abs (var 1)) (var 2))) = true
    ∧ reduce .CBN 0 10 (app (var 3) (app (abs (var 1)) (var 2)))
      = some (app (var 3) (app (abs (var 1)) (var 2)), 0) := by decide

end LC
