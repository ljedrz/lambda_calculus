/-
C01 at the representation boundary of indices: the checked traversals are EXACTLY the checked small-step runs, for
every limit (DESIGN §9; repair F7 of DESIGN §8)

`reduceChk M o limit fuel t` is `Term.reduce o limit fuel t` with `eval` contracting by the checked substitution (a panic
unwinds the whole call); its answers are `ret t' c` (returned), `panic` ("De Bruijn index overflow") and `fuel` (the
MODEL's fuel is exhausted: never an answer of the crate; it is a third constructor of `ChkRes`, so it cannot be confused
with the panic).  `runChk M o n t 0` is the checked run of at most `n` steps of `Proofs/BoundedRun.lean`; its last argument is the
count it starts from.
-/
import LC.Proofs.BoundedTraversalRaise
import LC.Props.C01BoundedTraversal

namespace LC
open Term

/-- C01: the checked `reduce` returns `(t', c)` exactly when the unbounded model returns `(t', c)` and all the `c + 1`
terms of the strategy's run are representable -/
theorem C01_checked_reduce_exact (M : Nat) (o : Order) (L fuel : Nat) (t t' : Term) (c : Nat)
    (ht : maxIndex t ≤ M) :
    reduceChk M o L fuel t = .ret t' c ↔
      (reduce o L fuel t = some (t', c) ∧ ∀ j u, j ≤ c → Iter (stepOrd o) j t u → maxIndex u ≤ M) := by
  have := betaOrdChk_ret_iff M o L fuel t 0 t' c ht (by omega)
  simp only [Nat.zero_add] at this
  exact this

-- non-vacuity: `M = 6`, an unlimited NOR call of two contractions through `(λ6) 1`
example : reduceChk 6 .NOR 0 10 (app (app (abs (abs (var 2))) (var 5)) (var 1)) = .ret (var 5) 2 ∧
    reduce .NOR 0 10 (app (app (abs (abs (var 2))) (var 5)) (var 1)) = some (var 5, 2) := by decide

/-- C01: a panic of the checked `reduce`, with any fuel, exhibits a term of the strategy's run within the limit that is
not representable -/
theorem C01_checked_reduce_exact_panic (M : Nat) (o : Order) (L fuel : Nat) (t : Term)
    (ht : maxIndex t ≤ M) (h : reduceChk M o L fuel t = .panic) :
    ∃ j u, (L = 0 ∨ j ≤ L) ∧ Iter (stepOrd o) j t u ∧ M < maxIndex u := by
  have := betaOrdChk_panic M o L fuel t 0 ht (by omega) h
  simp only [Nat.zero_add] at this
  exact this

-- non-vacuity: `M = 5`, the same call is refused; the offending iterate is the first one, `(λ6) 1`
example : reduceChk 5 .NOR 0 10 (app (app (abs (abs (var 2))) (var 5)) (var 1)) = .panic ∧
    Iter (stepOrd .NOR) 1 (app (app (abs (abs (var 2))) (var 5)) (var 1)) (app (abs (var 6)) (var 1)) ∧
    5 < maxIndex (app (abs (var 6)) (var 1)) :=
  ⟨by decide, Iter.one (by decide), by decide⟩

/-- C01: when the unbounded call returns `(t', c)`, the checked call panics exactly when one of the `c + 1` terms of
the run is not representable, equivalently when some iterate within the limit is not representable -/
theorem C01_checked_reduce_exact_panic_iff (M : Nat) (o : Order) (L fuel : Nat) (t t' : Term) (c : Nat)
    (ht : maxIndex t ≤ M) (hr : reduce o L fuel t = some (t', c)) :
    (reduceChk M o L fuel t = .panic ↔ ∃ j u, j ≤ c ∧ Iter (stepOrd o) j t u ∧ M < maxIndex u) ∧
    (reduceChk M o L fuel t = .panic ↔
      ∃ j u, (L = 0 ∨ j ≤ L) ∧ Iter (stepOrd o) j t u ∧ M < maxIndex u) := by
  have := betaOrdChk_panic_iff M o L fuel t 0 t' c ht (by omega) hr
  simp only [Nat.zero_add] at this
  exact this

/-- C01: when the unbounded call returns `(t', c)`, the checked call is decided by the representability of the run: it
returns `(t', c)` if all `c + 1` terms are representable and panics otherwise; it never answers `fuel` -/
theorem C01_checked_reduce_exact_cases (M : Nat) (o : Order) (L fuel : Nat) (t t' : Term) (c : Nat)
    (ht : maxIndex t ≤ M) (hr : reduce o L fuel t = some (t', c)) :
    ((∀ j u, j ≤ c → Iter (stepOrd o) j t u → maxIndex u ≤ M) → reduceChk M o L fuel t = .ret t' c) ∧
    (¬ (∀ j u, j ≤ c → Iter (stepOrd o) j t u → maxIndex u ≤ M) → reduceChk M o L fuel t = .panic) ∧
    reduceChk M o L fuel t ≠ .fuel := by
  have hnf : reduceChk M o L fuel t ≠ .fuel := fun hx => by
    have := (C01_checked_reduce_fuel M o L fuel t ht).1 hx
    rw [hr] at this; cases this
  refine ⟨fun hall => (C01_checked_reduce_exact M o L fuel t t' c ht).2 ⟨hr, hall⟩, fun hn => ?_, hnf⟩
  cases hx : reduceChk M o L fuel t with
  | panic => rfl
  | fuel => exact absurd hx hnf
  | ret t2 c2 =>
    obtain ⟨h1, h2⟩ := (C01_checked_reduce_exact M o L fuel t t2 c2 ht).1 hx
    rw [hr] at h1; cases h1
    exact absurd h2 hn

/-- C01: if some term of the strategy's run within the limit is not representable, the checked call returns for no
fuel (it panics, or the model's fuel is too small to reach the panic) -/
theorem C01_checked_reduce_exact_never_returns (M : Nat) (o : Order) (L : Nat) (t : Term) (ht : maxIndex t ≤ M)
    (h : ∃ j u, (L = 0 ∨ j ≤ L) ∧ Iter (stepOrd o) j t u ∧ M < maxIndex u) (fuel : Nat) (t' : Term) (c : Nat) :
    reduceChk M o L fuel t ≠ .ret t' c := by
  apply betaOrdChk_not_ret_of_bad M o L fuel t 0 ht (by omega)
  simpa only [Nat.zero_add] using h

/-- the checked twin of a returning call is the checked run of `n` strategy steps, for every `n` that the limit
admits and within which the run of the unbounded call ends -/
theorem reduceChk_eq_runChk {M : Nat} {o : Order} {L fuel n : Nat} {t t' : Term} {c : Nat} (ht : maxIndex t ≤ M)
    (hr : reduce o L fuel t = some (t', c)) (B : RL.BRun (stepOrd o) n t t' c) (hn : L = 0 ∨ n ≤ L) :
    reduceChk M o L fuel t = ((runChk M o n t 0).map fun p => ChkRes.ret p.1 p.2).getD .panic := by
  cases hrun : runChk M o n t 0 with
  | none =>
    simp only [Option.map_none, Option.getD_none]
    obtain ⟨j, u, hj, it, hu⟩ := (runChk_eq_none_iff M o n t 0 ht).1 hrun
    exact (C01_checked_reduce_exact_panic_iff M o L fuel t t' c ht hr).2.2 ⟨j, u, by omega, it, hu⟩
  | some q =>
    obtain ⟨t2, c2⟩ := q
    simp only [Option.map_some, Option.getD_some]
    obtain ⟨k, e, B2, r⟩ := (runChk_eq_some_iff M o n t 0 ht t2 c2).1 hrun
    obtain ⟨rfl, rfl⟩ := B.unique B2
    have : c2 = k := by omega
    subst this
    exact (C01_checked_reduce_exact M o L fuel t t2 c2 ht).2 ⟨hr, r⟩

/-- C01: under a limit `L ≠ 0` and with fuel with which the unbounded call returns, the checked `reduce` IS the checked
run of at most `L` strategy steps; the statements below that do not mention the fuel rest on this equation -/
theorem C01_checked_reduce_exact_run (M : Nat) (o : Order) (L fuel : Nat) (t : Term) (ht : maxIndex t ≤ M)
    (hL : L ≠ 0) (hf : reduce o L fuel t ≠ none) :
    reduceChk M o L fuel t =
      match runChk M o L t 0 with
      | none => .panic
      | some (t', c) => .ret t' c := by
  cases hr : reduce o L fuel t with
  | none => exact absurd hr hf
  | some p =>
    rw [reduceChk_eq_runChk ht hr (RL.reduce_brun hL hr) (Or.inr (Nat.le_refl _))]
    cases runChk M o L t 0 <;> rfl

-- non-vacuity, `M = 5`, all seven orders, limits 1 … 3, on a term that NOR reduces to `1` and that the applicative
-- orders are refused on; the statement is an equation between two computations, both sides are evaluated
example : ∀ o : Order, ∀ L ∈ [1, 2, 3],
    reduceChk 5 o L 10 (app (abs (var 2)) (app (abs (abs (var 2))) (var 5))) =
      match runChk 5 o L (app (abs (var 2)) (app (abs (abs (var 2))) (var 5))) 0 with
      | none => .panic
      | some (t', c) => .ret t' c := by
  intro o; cases o <;> decide

example : runChk 5 .NOR 3 (app (abs (var 2)) (app (abs (abs (var 2))) (var 5))) 0 = some (var 1, 1) ∧
    runChk 5 .APP 3 (app (abs (var 2)) (app (abs (abs (var 2))) (var 5))) 0 = none ∧
    runChk 5 .NOR 2 (app (app (abs (abs (var 2))) (var 5)) (var 1)) 0 = none ∧
    reduceChk 5 .NOR 2 10 (app (app (abs (abs (var 2))) (var 5)) (var 1)) = .panic ∧
    reduce .NOR 2 10 (app (app (abs (abs (var 2))) (var 5)) (var 1)) = some (var 5, 2) := by decide

/-- C01: the unlimited checked traversal is the checked run of at least as many strategy steps as the unbounded call
performs -/
theorem C01_checked_reduce_exact_run_unlimited (M : Nat) (o : Order) (fuel : Nat) (t t' : Term) (c n : Nat)
    (ht : maxIndex t ≤ M) (hr : reduce o 0 fuel t = some (t', c)) (hn : c ≤ n) :
    reduceChk M o 0 fuel t =
      match runChk M o n t 0 with
      | none => .panic
      | some (t', c) => .ret t' c :=
  (reduceChk_eq_runChk ht hr ((RL.reduce_urun hr).brun hn) (Or.inl rfl)).trans (by cases runChk M o n t 0 <;> rfl)

-- non-vacuity: the unlimited call of two contractions, refused for `M = 5`, returned for `M = 6`
example :
    reduce .NOR 0 10 (app (app (abs (abs (var 2))) (var 5)) (var 1)) = some (var 5, 2) ∧
    runChk 5 .NOR 7 (app (app (abs (abs (var 2))) (var 5)) (var 1)) 0 = none ∧
    reduceChk 5 .NOR 0 10 (app (app (abs (abs (var 2))) (var 5)) (var 1)) = .panic ∧
    runChk 6 .NOR 7 (app (app (abs (abs (var 2))) (var 5)) (var 1)) 0 = some (var 5, 2) ∧
    reduceChk 6 .NOR 0 10 (app (app (abs (abs (var 2))) (var 5)) (var 1)) = .ret (var 5) 2 := by decide

/-- C01: for every positive limit, every sufficiently large model fuel makes the checked traversal answer what the
checked run of strategy steps answers (in particular never `fuel`) -/
theorem C01_checked_reduce_exact_total (M : Nat) (o : Order) (L : Nat) (t : Term) (ht : maxIndex t ≤ M)
    (hL : L ≠ 0) :
    ∃ fuel0, ∀ fuel, fuel0 ≤ fuel →
      reduceChk M o L fuel t =
        match runChk M o L t 0 with
        | none => .panic
        | some (t', c) => .ret t' c := by
  obtain ⟨fuel0, r, h0⟩ := reduce_total o L hL t
  refine ⟨fuel0, fun fuel hle => ?_⟩
  have h1 : reduce o L fuel t = some r := betaOrd_mono o L h0 hle
  exact C01_checked_reduce_exact_run M o L fuel t ht hL (by rw [h1]; exact fun h => by cases h)

/-- C01, every limit (0 = unlimited included), completeness in the fuel of the panic: if some term of the strategy's
run within the limit is not representable, the checked call panics for every sufficiently large fuel, also when the
strategy's run from `t` does not end (then the unbounded model call returns for no fuel) -/
theorem C01_checked_reduce_exact_panics (M : Nat) (o : Order) (L : Nat) (t : Term) (ht : maxIndex t ≤ M)
    (h : ∃ j u, (L = 0 ∨ j ≤ L) ∧ Iter (stepOrd o) j t u ∧ M < maxIndex u) :
    ∃ fuel0, ∀ fuel, fuel0 ≤ fuel → reduceChk M o L fuel t = .panic := by
  obtain ⟨j, u, hb, it, hu⟩ := h
  by_cases hL : L = 0
  · subst hL
    have hj := it.ne_zero_of_maxIndex_lt ht hu
    obtain ⟨fuel0, hf⟩ := C01_checked_reduce_exact_total M o j t ht hj
    refine ⟨fuel0, fun fuel hle => ?_⟩
    have h1 := hf fuel hle
    rw [(runChk_eq_none_iff M o j t 0 ht).2 ⟨j, u, Nat.le_refl _, it, hu⟩] at h1
    exact (betaOrdChk_raise M o j hj fuel t 0 (Nat.zero_le _)).1 h1
  · obtain ⟨fuel0, hf⟩ := C01_checked_reduce_exact_total M o L t ht hL
    refine ⟨fuel0, fun fuel hle => ?_⟩
    rw [hf fuel hle, (runChk_eq_none_iff M o L t 0 ht).2 ⟨j, u, by omega, it, hu⟩]

-- non-vacuity: a term whose NOR run does not end, `(λλ.2 1) 5 Ω → (λ.6 1) Ω → 5 Ω → 5 Ω → …`; with `M = 5` the
-- unlimited call is refused (the unbounded model call returns for no fuel)
example : reduceChk 5 .NOR 0 12
    (app (app (abs (abs (app (var 2) (var 1)))) (var 5))
      (app (abs (app (var 1) (var 1))) (abs (app (var 1) (var 1))))) = .panic ∧
    reduce .NOR 0 12
    (app (app (abs (abs (app (var 2) (var 1)))) (var 5))
      (app (abs (app (var 1) (var 1))) (abs (app (var 1) (var 1))))) = none := by decide

/-- C01, every limit, without any mention of the model's fuel: the crate's call panics (the checked traversal answers
`panic` for some fuel) exactly when some term of the strategy's run within the limit is not representable -/
theorem C01_checked_reduce_exact_refuses_iff (M : Nat) (o : Order) (L : Nat) (t : Term) (ht : maxIndex t ≤ M) :
    (∃ fuel, reduceChk M o L fuel t = .panic) ↔
      ∃ j u, (L = 0 ∨ j ≤ L) ∧ Iter (stepOrd o) j t u ∧ M < maxIndex u := by
  constructor
  · rintro ⟨fuel, h⟩
    exact C01_checked_reduce_exact_panic M o L fuel t ht h
  · intro h
    obtain ⟨fuel0, hf⟩ := C01_checked_reduce_exact_panics M o L t ht h
    exact ⟨fuel0, hf fuel0 (Nat.le_refl _)⟩

/-- C01, limited calls, without any mention of the model's fuel: the crate's call returns (the checked traversal
answers `ret` for some fuel) exactly when every term of the strategy's run within the limit is representable; and what
it returns is the answer of the checked run -/
theorem C01_checked_reduce_exact_returns_iff (M : Nat) (o : Order) (L : Nat) (t : Term) (ht : maxIndex t ≤ M)
    (hL : L ≠ 0) :
    ((∃ fuel t' c, reduceChk M o L fuel t = .ret t' c) ↔
      ∀ j u, j ≤ L → Iter (stepOrd o) j t u → maxIndex u ≤ M) ∧
    (∀ fuel t' c, reduceChk M o L fuel t = .ret t' c → runChk M o L t 0 = some (t', c)) := by
  refine ⟨⟨?_, ?_⟩, ?_⟩
  · rintro ⟨fuel, t', c, h⟩ j u hj it
    by_cases hm : maxIndex u ≤ M
    · exact hm
    · exact absurd h (C01_checked_reduce_exact_never_returns M o L t ht ⟨j, u, Or.inr hj, it, by omega⟩ fuel t' c)
  · intro hall
    obtain ⟨fuel0, hf⟩ := C01_checked_reduce_exact_total M o L t ht hL
    have h0 := hf fuel0 (Nat.le_refl _)
    cases hrun : runChk M o L t 0 with
    | none =>
      obtain ⟨j, u, hj, it, hu⟩ := (runChk_eq_none_iff M o L t 0 ht).1 hrun
      have := hall j u hj it
      omega
    | some q =>
      rw [hrun] at h0
      exact ⟨fuel0, q.1, q.2, h0⟩
  · intro fuel t' c h
    have hr := ((C01_checked_reduce_exact M o L fuel t t' c ht).1 h).1
    have := C01_checked_reduce_exact_run M o L fuel t ht hL (by rw [hr]; exact fun e => by cases e)
    rw [h] at this
    cases hrun : runChk M o L t 0 with
    | none => rw [hrun] at this; cases this
    | some q =>
      obtain ⟨t2, c2⟩ := q
      rw [hrun] at this
      cases this
      rfl

-- non-vacuity (`M = 5`, limit 2): a run within the limit that leaves the representable terms; one that stays inside
example : (∃ j u, j ≤ 2 ∧ Iter (stepOrd .NOR) j (app (app (abs (abs (var 2))) (var 5)) (var 1)) u ∧ 5 < maxIndex u) ∧
    reduceChk 5 .NOR 2 10 (app (app (abs (abs (var 2))) (var 5)) (var 1)) = .panic ∧
    reduceChk 5 .NOR 2 10 (app (app (abs (abs (var 2))) (var 4)) (var 1)) = .ret (var 4) 2 :=
  ⟨⟨1, app (abs (var 6)) (var 1), by omega, Iter.one (by decide), by decide⟩, by decide, by decide⟩

/-- C01, the unlimited call, without any mention of the model's fuel: the crate's call returns `(t', c)` exactly when
the strategy's run from `t` ends in `t'` after `c` steps and every term of the run is representable -/
theorem C01_checked_reduce_exact_returns_iff_unlimited (M : Nat) (o : Order) (t t' : Term) (c : Nat)
    (ht : maxIndex t ≤ M) :
    (∃ fuel, reduceChk M o 0 fuel t = .ret t' c) ↔
      (Iter (stepOrd o) c t t' ∧ stepOrd o t' = none ∧ ∀ j u, Iter (stepOrd o) j t u → maxIndex u ≤ M) := by
  constructor
  · rintro ⟨fuel, h⟩
    obtain ⟨hr, hall⟩ := (C01_checked_reduce_exact M o 0 fuel t t' c ht).1 h
    obtain ⟨it, hn⟩ := RL.reduce_urun hr
    exact ⟨it, hn, fun j u itu => hall j u (RL.iter_le_of_none it hn itu) itu⟩
  · rintro ⟨it, hn, hall⟩
    obtain ⟨fuel, hr⟩ := RL.reduce_of_urun ⟨it, hn⟩
    exact ⟨fuel, (C01_checked_reduce_exact M o 0 fuel t t' c ht).2 ⟨hr, fun j u _ itu => hall j u itu⟩⟩

/-- C01, the seven `beta_*` with checked `eval`, started at any count `c` within the limit: the checked traversal
returns `(t', c')` exactly when the unbounded one does and the `c' - c + 1` terms of the run are representable -/
theorem C01_checked_reduce_exact_beta (M : Nat) (o : Order) (L fuel : Nat) (t : Term) (c : Nat) (t' : Term)
    (c' : Nat) (ht : maxIndex t ≤ M) (hc : L = 0 ∨ c ≤ L) :
    betaOrdChk M o L fuel t c = .ret t' c' ↔
      (betaOrd o L fuel t c = some (t', c') ∧
        ∀ j u, c + j ≤ c' → Iter (stepOrd o) j t u → maxIndex u ≤ M) :=
  betaOrdChk_ret_iff M o L fuel t c t' c' ht hc

/-- C01, the seven `beta_*` with checked `eval`, started at any count `c` within the limit: a panic exhibits a
non-representable iterate within what is left of the limit; and when the unbounded traversal returns `(t', c')` the
checked one panics exactly when one of the `c' - c + 1` terms of the run is not representable -/
theorem C01_checked_reduce_exact_beta_panic (M : Nat) (o : Order) (L fuel : Nat) (t : Term) (c : Nat)
    (ht : maxIndex t ≤ M) (hc : L = 0 ∨ c ≤ L) :
    (betaOrdChk M o L fuel t c = .panic →
      ∃ j u, (L = 0 ∨ c + j ≤ L) ∧ Iter (stepOrd o) j t u ∧ M < maxIndex u) ∧
    (∀ t' c', betaOrd o L fuel t c = some (t', c') →
      (betaOrdChk M o L fuel t c = .panic ↔
        ∃ j u, c + j ≤ c' ∧ Iter (stepOrd o) j t u ∧ M < maxIndex u)) :=
  ⟨betaOrdChk_panic M o L fuel t c ht hc,
   fun t' c' hy => (betaOrdChk_panic_iff M o L fuel t c t' c' ht hc hy).1⟩

-- non-vacuity: `beta_hap` entered at count 1 under limit 2 (`M = 5`): one contraction is left, it is refused
example : betaOrdChk 5 .HAP 2 10 (app (abs (abs (var 2))) (var 5)) 1 = .panic ∧
    betaOrd .HAP 2 10 (app (abs (abs (var 2))) (var 5)) 1 = some (abs (var 6), 2) ∧
    betaOrdChk 5 .HAP 2 10 (app (abs (abs (var 2))) (var 5)) 2 = .ret (app (abs (abs (var 2))) (var 5)) 2 := by
  decide

end LC
