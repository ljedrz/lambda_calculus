/-
C10 — Classic-notation Display is unambiguous: parsing it back yields the same term

"For every term without UD, parsing the Display output in Classic notation yields the same term
when it is closed, and in general the same term with its free variables renumbered in order of
first appearance (which is all a named notation can express). The output follows the documented
format: binders named a, b, ..., z, aa, ... by nesting depth, free variables named after all
binder names, minimal parentheses, and the lambda glyph selected by the backslash_lambda
feature."

`display` is the model's printer (`LC/Model/Display.lean`).  `canon` (free variables renumbered in order of first
appearance), `noUD`, the documented format `printCla lam maxDepth pos depth t` (in `C10_format` the whole term:
position 0, under 0 binders) and the hypothesis `C10.ClsOk10` on the classification are defined in
`LC/Proofs/Syntax/Display.lean`.
-/
import LC.Proofs.Syntax.Display

namespace LC
open Term Parser Display


/-- C10, binder and free-variable names: `base26 n` is the bijective base-26 numeral of `n + 1` -/
theorem C10_base26_spec (n : Nat) :
    base26 n ≠ [] ∧ (∀ c ∈ base26 n, 97 ≤ c ∧ c ≤ 122) ∧ C10.value26 (base26 n) = n + 1 :=
  base26_spec n

theorem C10_base26_injective (a b : Nat) (h : base26 a = base26 b) : a = b :=
  base26_injective a b h

example : base26 0 = [97] := by decide +kernel
example : base26 25 = [122] := by decide +kernel
example : base26 26 = [97, 97] := by decide +kernel
example : base26 701 = [122, 122] := by decide +kernel
example : base26 702 = [97, 97, 97] := by decide +kernel


open C10

/-- the canonical renumbering leaves closed terms (no free variable, no `UD`) as they are -/
theorem C10_closed (t : Term) (h : hasFreeVariables t = false) : canon t = t := by
  unfold canon
  rw [canonAux_closed t 0 [] h]

theorem C10_canon_idempotent (t : Term) : canon (canon t) = canon t := by
  have := canonAux_canonAux t 0 []
  unfold canon
  simp only [List.length_nil, upto] at this
  rw [this]

/-- `canon t` is `t` with its free variables renamed by a map that is injective on the free
variables of `t`, and the free variables of `canon t` are exactly `1, …, k` where `k` is the
number of distinct free variables of `t` (the length of a — equivalently, by
`C10.length_distinctFV`, of any — duplicate-free enumeration `l` of them) -/
theorem C10_canon_bijective_renaming (t : Term) :
    ∃ ρ : Nat → Nat,
      (∀ a ∈ freeVars t, ∀ b ∈ freeVars t, ρ a = ρ b → a = b) ∧
      canon t = rename ρ t ∧
      ∃ l : List Nat, l.Nodup ∧ (∀ j, j ∈ l ↔ j ∈ freeVars t) ∧
        ∀ j, j ∈ freeVars (canon t) ↔ 1 ≤ j ∧ j ≤ l.length := by
  refine ⟨rho (distinctFV t), ?_, canon_eq_rename t, distinctFV t, distinctFV_nodup t,
    mem_distinctFV t, ?_⟩
  · intro a ha b hb h
    exact rho_inj _ a b ((mem_distinctFV t a).2 ha) ((mem_distinctFV t b).2 hb) h
  · intro j
    rw [canon_eq_rename, freeVars, rename,
      fvs_rename _ (fun j => by unfold rho; omega) t 0]
    show j ∈ List.map (rho (distinctFV t)) (freeVars t) ↔ _
    rw [← mem_map_rho (distinctFV t) (distinctFV_nodup t) j]
    simp only [List.mem_map]
    constructor
    · rintro ⟨a, ha, e⟩; exact ⟨a, (mem_distinctFV t a).2 ha, e⟩
    · rintro ⟨a, ha, e⟩; exact ⟨a, (mem_distinctFV t a).1 ha, e⟩


/-- the Display output follows the documented format -/
theorem C10_format (lam : Nat) (t : Term) (h : noUD t = true) :
    display lam t = printCla lam t.maxDepth 0 0 t :=
  C10.showCla_eq_printCla lam t.maxDepth t h 0 0 (by omega)


/-- THE ROUND TRIP: parsing the Display output of a `UD`-free term in Classic notation yields `canon t`, by its
definition the term with its free variables renumbered in order of first appearance; the theorems above say of it that
it fixes closed terms, is idempotent and is a bijective renaming of the free variables -/
theorem C10_roundtrip (cls : CharCls) (hc : C10.ClsOk10 cls) (lam : Nat)
    (hl : lam = 955 ∨ lam = 92) (t : Term) (h : noUD t = true) :
    parse cls (display lam t) .Classic = .ok (canon t) := by
  rw [C10S.parse_display cls hc lam hl t, C10S.nameOfU_eq_nameOf _ t h, toDeBruijn_nameOf t h]

/-- closed terms: parsing the Display output yields exactly the term -/
theorem C10_roundtrip_closed (cls : CharCls) (hc : C10.ClsOk10 cls) (lam : Nat)
    (hl : lam = 955 ∨ lam = 92) (t : Term) (h : hasFreeVariables t = false) :
    parse cls (display lam t) .Classic = .ok t := by
  rw [C10_roundtrip cls hc lam hl t (noUD_of_closed t 0 h), C10_closed t h]


open C10.Examples C09C.Examples in
/-- UNAMBIGUOUS: two `UD`-free terms with the same Display output are equal up to the numbering of
their free variables … (the proof parses the common output back with the classification `asciiCls`;
any classification satisfying `ClsOk10` would do) -/
theorem C10_display_injective (lam : Nat) (hl : lam = 955 ∨ lam = 92) (t u : Term)
    (ht : noUD t = true) (hu : noUD u = true) (h : display lam t = display lam u) :
    canon t = canon u := by
  have h1 := C10_roundtrip asciiCls asciiCls_ok10 lam hl t ht
  have h2 := C10_roundtrip asciiCls asciiCls_ok10 lam hl u hu
  rw [h, h2] at h1
  exact (Outcome.ok.inj h1).symm

/-- … and two closed terms with the same Display output are equal -/
theorem C10_display_injective_closed (lam : Nat) (hl : lam = 955 ∨ lam = 92) (t u : Term)
    (ht : hasFreeVariables t = false) (hu : hasFreeVariables u = false)
    (h : display lam t = display lam u) : t = u := by
  have := C10_display_injective lam hl t u (noUD_of_closed t 0 ht) (noUD_of_closed u 0 hu) h
  rwa [C10_closed t ht, C10_closed u hu] at this

namespace C10.Examples
open C09C.Examples

-- code points: `λ` 955, `\` 92, `(` 40, `)` 41, `.` 46, space 32, `a` 97, `b` 98, `c` 99, `e` 101

/-- a closed term, `λa.λb.a (λc.c b) a`, both glyphs -/
example : display 955 (abs (abs (app (app (var 2) (abs (app (var 1) (var 2)))) (var 2))))
    = [955, 97, 46, 955, 98, 46, 97, 32, 40, 955, 99, 46, 99, 32, 98, 41, 32, 97] := by
  decide +kernel

example : display 92 (abs (abs (app (app (var 2) (abs (app (var 1) (var 2)))) (var 2))))
    = [92, 97, 46, 92, 98, 46, 97, 32, 40, 92, 99, 46, 99, 32, 98, 41, 32, 97] := by
  decide +kernel

example : parse asciiCls
      (display 955 (abs (abs (app (app (var 2) (abs (app (var 1) (var 2)))) (var 2))))) .Classic
    = .ok (abs (abs (app (app (var 2) (abs (app (var 1) (var 2)))) (var 2)))) :=
  C10_roundtrip_closed asciiCls asciiCls_ok10 955 (Or.inl rfl) _ (by decide)

example : parse asciiCls
      (display 92 (abs (abs (app (app (var 2) (abs (app (var 1) (var 2)))) (var 2))))) .Classic
    = .ok (abs (abs (app (app (var 2) (abs (app (var 1) (var 2)))) (var 2)))) :=
  C10_roundtrip_closed asciiCls asciiCls_ok10 92 (Or.inr rfl) _ (by decide)

/-- an open term whose free variables get renumbered: `λ 5 3` is printed `λa.e c` (one binder
name reserved, the free variables number 4 and 2 are named `e` and `c`) and parsed back as
`λ 2 3` -/
example : display 955 (abs (app (var 5) (var 3))) = [955, 97, 46, 101, 32, 99] := by
  decide +kernel

example : canon (abs (app (var 5) (var 3))) = abs (app (var 2) (var 3)) := by decide +kernel

example : parse asciiCls (display 955 (abs (app (var 5) (var 3)))) .Classic
    = .ok (abs (app (var 2) (var 3))) :=
  (C10_roundtrip asciiCls asciiCls_ok10 955 (Or.inl rfl) _ (by decide)).trans
    (congrArg Outcome.ok (by decide +kernel))

/-- the same free variable met twice, at different depths, gets one number: `3 (λ 4 1 2)` ↦
`1 (λ 2 1 3)` -/
example : canon (app (var 3) (abs (app (app (var 4) (var 1)) (var 2))))
    = app (var 1) (abs (app (app (var 2) (var 1)) (var 3))) := by decide +kernel

/-- already canonical open terms are fixed points -/
example : canon (app (var 1) (abs (app (var 2) (var 3)))) = app (var 1) (abs (app (var 2) (var 3))) := by
  decide +kernel

/-- `UD` is excluded for a reason: it is printed as the NAME `undefined`, which parses back as a
free variable -/
example : parse asciiCls (display 955 (var 0)) .Classic = .ok (var 1) := by
  rw [C10S.parse_display asciiCls asciiCls_ok10 955 (.inl rfl)]
  rfl

end C10.Examples

end LC
