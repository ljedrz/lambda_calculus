/-
C07 — NOR and HNO reach every existing normal form; CBN and HSP the head forms

"If a term has a beta-normal form (some reduction sequence reaches it) then reduce with NOR or
HNO and limit 0 terminates with exactly that normal form, even when eager orders diverge on
the same term. Likewise CBN terminates whenever the term has a weak head normal form and HSP
whenever it has a head normal form."

Proof: standardisation (`Proofs/Standard.lean`, Kashima) gives that the small-step strategies CBN and
HSP terminate (`cbn_terminates`, `hsp_terminates`), and an order that completes their work in operator
and operand reaches the normal form (`deep_normalises`: `nor_normalises`, `hno_normalises`); the
completeness direction of the refinement (`Proofs/Complete/All.lean`) gives that the Rust
traversal then returns, with exactly the strategy's result (`RL.reduce_of_urun`).  No bound on term size or on the
length of the reduction.  `∃ fuel` is "the recursion terminates": `fuel` only bounds the depth
of the call tree and results do not depend on it (`C04_fuel_irrelevant`).
-/
import LC.Proofs.HybridNormal

namespace LC
open Term Spec

/-- NOR with limit 0 returns exactly the normal form whenever one is reachable -/
theorem C07_nor (t N : Term) (h : Star t N) (hN : Normal N) :
    ∃ fuel c, reduce .NOR 0 fuel t = some (N, c) := by
  obtain ⟨k, it⟩ := nor_normalises h hN
  obtain ⟨fuel, hf⟩ := RL.reduce_of_urun (o := .NOR) ⟨it, stepOrd_none_of_normal .NOR hN⟩
  exact ⟨fuel, k, hf⟩

/-- HNO with limit 0 returns exactly the normal form whenever one is reachable -/
theorem C07_hno (t N : Term) (h : Star t N) (hN : Normal N) :
    ∃ fuel c, reduce .HNO 0 fuel t = some (N, c) := by
  obtain ⟨k, it⟩ := hno_normalises h hN
  obtain ⟨fuel, hf⟩ := RL.reduce_of_urun (o := .HNO) ⟨it, stepOrd_none_of_normal .HNO hN⟩
  exact ⟨fuel, k, hf⟩

/-- CBN with limit 0 terminates (in a weak head normal form) whenever some weak head normal
form is reachable -/
theorem C07_cbn (t w : Term) (h : Star t w) (hw : isWHNF w = true) :
    ∃ fuel w' c, reduce .CBN 0 fuel t = some (w', c) ∧ isWHNF w' = true := by
  obtain ⟨k, w', it, hn⟩ := cbn_terminates h hw
  obtain ⟨fuel, hf⟩ := RL.reduce_of_urun (o := .CBN) ⟨it, hn⟩
  exact ⟨fuel, w', k, hf, (RL.stepCbn_none_iff w').1 hn⟩

/-- HSP with limit 0 terminates (in a head normal form) whenever some head normal form is
reachable -/
theorem C07_hsp (t h : Term) (hs : Star t h) (hh : isHNF h = true) :
    ∃ fuel h' c, reduce .HSP 0 fuel t = some (h', c) ∧ isHNF h' = true := by
  obtain ⟨k, h', it, hn⟩ := hsp_terminates hs hh
  obtain ⟨fuel, hf⟩ := RL.reduce_of_urun (o := .HSP) ⟨it, hn⟩
  exact ⟨fuel, h', k, hf, (RL.stepHsp_none_iff h').1 hn⟩

/-! ### "even when eager orders diverge": `(λ.2) Ω` has the normal form `1`, NOR finds it,
while the applicative order never returns on it (for no amount of fuel). -/

def omega : Term := abs (app (var 1) (var 1))
def Omega : Term := app omega omega
def kOmega : Term := app (abs (var 2)) Omega

theorem Omega_step : stepApp Omega = some Omega := by decide

/-- with limit 0 `reduce` never returns on a term on which the strategy loops -/
theorem reduce_none_of_loop {o : Order} {t : Term} (hl : stepOrd o t = some t) (fuel : Nat) :
    reduce o 0 fuel t = none := by
  cases hr : reduce o 0 fuel t with
  | none => rfl
  | some r =>
    obtain ⟨t', c⟩ := r
    have hs := reduce_sound o 0 fuel t t' c hr
    have := hs.2.2 (Or.inl rfl)
    rw [hs.1.eq_of_loop hl, hl] at this
    cases this

/-- non-vacuity and the divergence clause: the premises of `C07_nor` hold for `(λ.2) Ω`
(normal form `var 1`), and APP with limit 0 returns for no fuel at all -/
theorem C07_eager_diverges :
    Star kOmega (var 1) ∧ Normal (var 1) ∧ ∀ fuel, reduce .APP 0 fuel kOmega = none := by
  refine ⟨Star.one (Beta.redc (var 2) Omega), ?_, reduce_none_of_loop (by decide)⟩
  intro u hb
  cases hb

example : ∃ fuel c, reduce .NOR 0 fuel kOmega = some (var 1, c) :=
  C07_nor kOmega (var 1) C07_eager_diverges.1 C07_eager_diverges.2.1

/-- the same for the other two eager orders: on `(λ.2) Ω` the hybrid applicative order and call-by-value loop as well
(both evaluate the argument `Ω` before contracting), so with limit 0 they return for no fuel at all — while NOR, HNO, CBN and
HSP all terminate on it (`C07_nor`, `C07_hno`, `C07_cbn`, `C07_hsp`; its normal form `var 1` is also its head normal form) -/
theorem C07_eager_diverges_hap_cbv :
    (∀ fuel, reduce .HAP 0 fuel kOmega = none) ∧ (∀ fuel, reduce .CBV 0 fuel kOmega = none) :=
  ⟨reduce_none_of_loop (by decide), reduce_none_of_loop (by decide)⟩

example : (∃ fuel c, reduce .HNO 0 fuel kOmega = some (var 1, c)) ∧ (∃ fuel w c, reduce .CBN 0 fuel kOmega = some (w, c)) :=
  ⟨C07_hno kOmega (var 1) C07_eager_diverges.1 C07_eager_diverges.2.1,
   by
    obtain ⟨f, w, c, h, _⟩ := C07_cbn kOmega (var 1) C07_eager_diverges.1 (by decide)
    exact ⟨f, w, c, h⟩⟩

end LC
