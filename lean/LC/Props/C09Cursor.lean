/-
C09, "no string whatsoever makes parse panic": the cursor arithmetic of the parser cannot underflow
or go out of bounds.

`LC/Proofs/Syntax/Cursor.lean` is a second, cursor-faithful model of the recursive functions of
`src/parser.rs` (`_convert_classic_tokens`, `_get_ast`, `fold_exprs`, `fold_terms`): same recursion
as the Rust text (a loop over `tokens.get(*pos)` that calls itself and returns the new `pos`), with
EVERY partial operation checked (`none` = panic; out of fuel is `none` too):

  `tokens.len() - *pos`, `stack.len() - inner_stack_count`, `&exprs[i + 1..]`, `terms.remove(0)`.

`*pos ≤ tokens.len()` is NOT an invariant of `_convert_classic_tokens`.  After a callee ran into the end of the input, every suspended caller still
executes its `*pos += 1`: `convert_classic_tokens` of one unclosed `(` ends with `*pos = tokens.len() + 1`, of two
with `tokens.len() + 2` (`C09_cursor_pos_overshoot`, two ground instances).  It is harmless: what holds is `pos ≤ tokens.len()`
at every CALL (the only place where `tokens.len() - *pos` is evaluated) and `pos ≤ 2 * tokens.len()`
everywhere; `tokens.get` is total.  `_get_ast` does keep `*pos ≤ tokens.len()` throughout (since the
repair F2 an unclosed group is an `Err`, which propagates without touching `*pos`).
-/
import LC.Proofs.Syntax.Cursor
import LC.Proofs.Syntax.Classic

namespace LC
open Term Parser Cursor


/-- C09 (cursor model, the whole functions): `convert_classic_tokens`, `get_ast`, `fold_exprs`,
`fold_terms` in their cursor-faithful form never return `none` (no checked operation fails, the
recursion ends within `tokens.length + 1` resp. `size + 1` steps of fuel) and return what the single-pass
model of `LC/Model/Parser.lean` returns -/
theorem C09_cursor_refines (cts : List CToken) (toks : List Token) (es : List Expression)
    (ts : List Term) :
    (convertCur cts ≠ none ∧ convertCur cts = convertClassicTokens cts) ∧
    getAstCur toks = some (getAst toks) ∧
    foldExprsCur es = some (foldExprs es) ∧
    foldTermsC ts = some (foldTerms ts) := by
  refine ⟨⟨?_, convertCur_eq cts⟩, getAstCur_eq toks, foldExprsCur_eq es, foldTermsC_eq ts⟩
  obtain ⟨out, s', p', he, _⟩ :=
    convCall_spec cts (cts.length + 1) [] 0 (Nat.zero_le _) (by omega)
  simp [convertCur, he]

example : convertCur [.CLambda [120], .CLparen, .CName [120], .CName [121], .CRparen, .CName [121]]
    = some [.Lambda, .Lparen, .Number 1, .Number 2, .Rparen, .Number 2] := by decide +kernel
example : getAstCur [.Lambda, .Lparen, .Number 1, .Number 2, .Rparen, .Number 2]
    = some (.ok (.Sequence [.Abstraction, .Sequence [.Variable 1, .Variable 2], .Variable 2])) := rfl
example : getAstCur [.Lparen, .Number 1] = some (.error .InvalidExpression) := rfl
example : foldExprsCur [.Abstraction, .Sequence [.Variable 1, .Variable 2], .Variable 2]
    = some (.ok (abs (app (app (var 1) (var 2)) (var 2)))) := rfl
example : foldExprsCur [.Variable 1, .Abstraction] = some (.error .EmptyExpression) := rfl

/-- C09 (cursor model, `_convert_classic_tokens` at ANY position with ANY deque): a call with
`pos ≤ tokens.length` and fuel `tokens.length + 1 - pos` returns `(out, stack', pos')`, and the
single-pass `convLoop`, started on the rest of the tokens with the reversed deque, a fresh counter `0`
and any counters `cs` of suspended callers, produces `out` followed by what it produces after the
return (`convRest`: nothing when there is no caller, otherwise `convLoop` from `pos' + 1` with the
returned deque and `cs`) -/
theorem C09_cursor_refines_conv (tokens : List CToken) (stack : List (List Nat)) (pos : Nat)
    (hpos : pos ≤ tokens.length) :
    ∃ out stack' pos',
      convCall tokens (tokens.length + 1 - pos) stack pos = some (out, stack', pos') ∧
      ∀ cs, convLoop (tokens.drop pos) stack.reverse (0 :: cs) =
        (fun r => out ++ r) <$> convRest tokens stack' pos' cs := by
  obtain ⟨out, s', p', he, h⟩ := convCall_spec tokens (tokens.length + 1 - pos) stack pos hpos (by omega)
  exact ⟨out, s', p', he, h.refines⟩

example : convCall [.CName [97], .CLparen, .CLambda [98], .CName [97], .CRparen, .CName [98]] 5
    [[120], [97]] 2 = some ([.Lambda, .Number 2, .Rparen], [[120], [97]], 4) := by decide +kernel

/-- C09 (cursor model, the loop of `_convert_classic_tokens` in ANY state): with
`inner_stack_count ≤ stack.len()` the loop never panics; `Δ` is what it appends to `output` -/
theorem C09_cursor_refines_conv_loop (tokens : List CToken) (stack : List (List Nat)) (pos : Nat)
    (output : List Token) (inner : Nat) (hinner : inner ≤ stack.length) :
    ∃ Δ stack' pos',
      convLoopC tokens (tokens.length + 1 - pos + 1) stack pos output inner
        = some (output ++ Δ, stack', pos') ∧
      ∀ cs, convLoop (tokens.drop pos) stack.reverse (inner :: cs) =
        (fun r => Δ ++ r) <$> convRest tokens stack' pos' cs := by
  obtain ⟨Δ, s', p', he, h⟩ :=
    convLoopC_spec tokens (tokens.length + 1 - pos + 1) stack pos output inner (by omega) (by omega)
      hinner
  exact ⟨Δ, s', p', he, h.refines⟩

/-- the hypothesis of `C09_cursor_refines_conv_loop` is needed: with `inner_stack_count >
stack.len()` a `)` panics (this state is never reached, `C09_cursor_pos_le_reached_conv`) -/
example : convLoopC [.CRparen] 2 [] 0 [] 1 = none := by decide +kernel

/-- C09 (cursor model, `_get_ast` at ANY position, either value of `nested`): a call with
`pos ≤ tokens.length` returns `(r, pos')`; on an empty token slice `r = Err(EmptyExpression)`,
otherwise the single-pass `astLoop`, started on the rest of the tokens with an empty `cur` and the
partial vectors `st` of the suspended callers (`nested` ⇔ `st ≠ []`), computes `astRest`: `r` itself
when there is no caller, the error when `r` is one, and otherwise `astLoop` from `pos' + 1` with
the subtree pushed on the caller's vector -/
theorem C09_cursor_refines_ast (tokens : List Token) (pos : Nat) (nested : Bool)
    (hpos : pos ≤ tokens.length) :
    ∃ r pos',
      astCall tokens (tokens.length + 1 - pos) pos nested = some (r, pos') ∧
      (tokens = [] → r = .error .EmptyExpression) ∧
      ∀ st, tokens ≠ [] → nested = !st.isEmpty →
        astLoop (tokens.drop pos) [] st = astRest tokens r pos' st := by
  obtain ⟨r, p', he, hnil, h⟩ := astCall_spec tokens (tokens.length + 1 - pos) pos nested hpos (by omega)
  exact ⟨r, p', he, fun e => (hnil e).1, fun st hne hst => by simpa using (h hne).refines st hst⟩

example : astCall [.Lparen, .Number 1, .Lambda, .Rparen, .Number 2] 5 1 true
    = some (.ok (.Sequence [.Variable 1, .Abstraction]), 3) := rfl

/-- C09 (cursor model, the loop of `fold_exprs` at ANY index with ANY `output`): never `none` — the
slice `&exprs[i + 1..]` is in bounds and `fold_terms` never calls `remove(0)` on an empty vector —
and equal to the single-pass model's `foldList` on the rest followed by `foldTerms` -/
theorem C09_cursor_refines_fold (exprs : List Expression) (i : Nat) (output : List Term) :
    foldLoopC (esizeL (exprs.drop i) + 1) exprs i output =
      some (match foldList (exprs.drop i) with
            | .ok ts => foldTerms (output ++ ts)
            | .error e => .error e) :=
  foldLoopC_spec _ exprs i output (Nat.le_refl _)

example : foldLoopC 3 [.Variable 7, .Abstraction, .Variable 1] 1 [var 7]
    = some (.ok (app (var 7) (abs (var 1)))) := rfl

/-- the cursor `parse` computes the pipeline of `parse_eq` and never `none` -/
theorem Cursor.parseCur_eq (cls : CharCls) (input : List Nat) (n : Notation) :
    parseCur cls input n = some (tokensFor cls n input >>= parseTokens) := by
  cases n with
  | DeBruijn =>
    simp only [parseCur, tokensFor]
    cases tokenizeDbr cls input with
    | error e => rfl
    | ok toks => exact tokenStageCur_eq toks
  | Classic =>
    simp only [parseCur, tokensFor]
    cases tokenizeCla cls input with
    | error e => rfl
    | ok cts =>
      simp only [Functor.map, Except.map, convertCur_eq, convert_eq_resolve, resolveAll_eq]
      exact tokenStageCur_eq _

/-- C09 (cursor model, `parse`): `parse` composed of the two lexers of `LC/Model/Parser.lean` (they
contain no partial operation) and the cursor functions never panics and returns the single-pass model's
result, for every classification, every string and both notations -/
theorem C09_cursor_refines_parse (cls : CharCls) (input : List Nat) (n : Notation) :
    parseCur cls input n ≠ none ∧ toOutcome (parseCur cls input n) = parse cls input n := by
  rw [parseCur_eq, parse_eq]
  refine ⟨by simp, ?_⟩
  cases tokensFor cls n input >>= parseTokens <;> rfl

/-- The cursor model as the evaluator of `parse` on a concrete string: its loops recurse on the fuel, so the kernel runs
it (`by decide +kernel`), whereas `foldList` of the single-pass model is compiled by well-founded recursion. -/
theorem parse_of_cur {cls : CharCls} {s : List Nat} {n : Notation} {r : Except ParseError Term}
    (h : parseCur cls s n = some r) : parse cls s n = Outcome.ofResult r := by
  rw [parseCur_eq] at h
  rw [parse_eq, Option.some.inj h]


/-- C09, cursor bounds of `_convert_classic_tokens`, at CALL and RETURN: a call is safe exactly when
`pos ≤ tokens.length` (beyond it `tokens.len() - *pos` underflows); such a call returns with
`pos ≤ pos'`, `pos' ≤ 2 * tokens.length - pos` and a deque that did not shrink, and a return before
the end of the tokens is a return AT a `)`.  The recursive call is made with the cursor at
`pos + 1 ≤ tokens.length` (third conjunct: the loop at a `(` IS the call at `pos + 1` followed by
the rest of the loop at `pos' + 1`). -/
theorem C09_cursor_pos_le (tokens : List CToken) (fuel : Nat) (stack : List (List Nat)) (pos : Nat) :
    (tokens.length < pos → convCall tokens fuel stack pos = none) ∧
    (pos ≤ tokens.length → tokens.length + 1 ≤ fuel + pos →
      ∃ out stack' pos', convCall tokens fuel stack pos = some (out, stack', pos') ∧
        pos ≤ pos' ∧ pos' + pos ≤ 2 * tokens.length ∧
        (pos' < tokens.length → tokens[pos']? = some .CRparen) ∧
        stack.length ≤ stack'.length) ∧
    (∀ output inner, tokens[pos]? = some .CLparen →
      pos + 1 ≤ tokens.length ∧
      convLoopC tokens (fuel + 1) stack pos output inner =
        match convCall tokens fuel stack (pos + 1) with
        | none => none
        | some (out', stack', pos') =>
          convLoopC tokens fuel stack' (pos' + 1) (output ++ [.Lparen] ++ out') inner) := by
  refine ⟨convCall_beyond tokens fuel stack pos, ?_, ?_⟩
  · intro hpos hfuel
    obtain ⟨out, s', p', he, h⟩ := convCall_spec tokens fuel stack pos hpos hfuel
    exact ⟨out, s', p', he, h.le, h.bound hpos, h.at_rparen, h.deque⟩
  · intro output inner h
    exact ⟨(drop_of_getElem? h).1, convLoopC_lparen tokens fuel stack pos output inner h⟩

/-- `pos' ≤ tokens.length` is NOT an invariant at return: `convert_classic_tokens` of one unclosed
`(` ends with `*pos = 2 = tokens.len() + 1`, of two with `4 = tokens.len() + 2` -/
theorem C09_cursor_pos_overshoot :
    convCall [.CLparen] 2 [] 0 = some ([.Lparen], [], 2) ∧
    convCall [.CLparen, .CLparen] 3 [] 0 = some ([.Lparen, .Lparen], [], 4) := by
  decide +kernel

/-- C09, cursor bounds of `_convert_classic_tokens` at EVERY loop head reached while
`convert_classic_tokens(tokens)` runs (`ConvLoopAt`: closed under the loop steps, the recursive call
and the return of a callee): `inner_stack_count ≤ stack.len()` (so the subtraction at a `)` cannot
underflow), `*pos ≤ 2 * tokens.len()`, and when the loop head is about to make a recursive call
(`tokens[pos] = (`) the callee is entered with `pos + 1 ≤ tokens.len()`, does not panic and returns
within the bounds of `C09_cursor_pos_le` -/
theorem C09_cursor_pos_le_reached_conv (tokens : List CToken) (stack : List (List Nat)) (pos : Nat)
    (output : List Token) (inner : Nat) (h : ConvLoopAt tokens stack pos output inner) :
    inner ≤ stack.length ∧ pos ≤ 2 * tokens.length ∧
    (tokens[pos]? = some .CLparen →
      pos + 1 ≤ tokens.length ∧
      ∃ out' stack' pos', convCall tokens (tokens.length - pos) stack (pos + 1)
          = some (out', stack', pos') ∧
        pos + 1 ≤ pos' ∧ pos' + (pos + 1) ≤ 2 * tokens.length ∧
        ConvLoopAt tokens stack' (pos' + 1) (output ++ [.Lparen] ++ out') inner) := by
  refine ⟨h.inv.1, h.inv.2, ?_⟩
  intro ht
  have hlt := (drop_of_getElem? ht).1
  obtain ⟨out, s', p', he, hc⟩ :=
    convCall_spec tokens (tokens.length - pos) stack (pos + 1) (by omega) (by omega)
  exact ⟨by omega, out, s', p', he, hc.le, hc.bound (by omega), .back h ht he⟩

/-- the reachable states are not vacuous: for `x ( y` the loop heads after the `(` (callee entered at
1), after `y`, and the caller's loop head after the callee ran into the end (`*pos = 4 > 3`) -/
example : ConvLoopAt [.CName [120], .CLparen, .CName [121]] [[121], [120]] 4
    [.Number 1, .Lparen, .Number 2] 0 := by
  have h0 : ConvLoopAt [.CName [120], .CLparen, .CName [121]] [[120]] 1 ([] ++ [.Number 1]) 0 :=
    .free .top rfl rfl
  exact .back (fuel := 2) h0 rfl (by decide +kernel)

/-- C09, cursor bounds of `_get_ast`, at CALL and RETURN: a call with `pos ≤ tokens.length` returns
(`Ok` or `Err`) with `pos ≤ pos' ≤ tokens.length`; `Ok` of a nested call is returned AT a `)`, `Ok` of
the top-level call at the end of the tokens -/
theorem C09_cursor_pos_le_ast (tokens : List Token) (fuel pos : Nat) (nested : Bool)
    (hpos : pos ≤ tokens.length) (hfuel : tokens.length + 1 ≤ fuel + pos) :
    ∃ r pos', astCall tokens fuel pos nested = some (r, pos') ∧
      pos ≤ pos' ∧ pos' ≤ tokens.length ∧
      (∀ e, r = .ok e → nested = true → tokens[pos']? = some .Rparen) ∧
      (∀ e, r = .ok e → nested = false → pos' = tokens.length) := by
  obtain ⟨r, p', he, hnil, h⟩ := astCall_spec tokens fuel pos nested hpos hfuel
  by_cases hne : tokens = []
  · -- an empty token slice: `Err(EmptyExpression)` at once, the cursor does not move
    obtain ⟨rfl, rfl⟩ := hnil hne
    exact ⟨_, _, he, Nat.le_refl _, hpos, nofun, nofun⟩
  · have h := h hne
    exact ⟨r, p', he, h.le, h.within hpos, h.at_rparen,
      fun e hr hn => Nat.le_antisymm (h.within hpos) (h.at_end e hr hn)⟩

/-- C09, cursor bound of `_get_ast` at EVERY loop head reached while `get_ast(tokens)` runs
(`AstLoopAt`): `*pos ≤ tokens.len()`; a recursive call is entered with `pos + 1 ≤ tokens.len()` -/
theorem C09_cursor_pos_le_reached_ast (tokens : List Token) (pos : Nat) (nested : Bool)
    (expr : List Expression) (h : AstLoopAt tokens pos nested expr) :
    pos ≤ tokens.length ∧ (tokens[pos]? = some .Lparen → pos + 1 ≤ tokens.length) :=
  ⟨h.inv, fun ht => (drop_of_getElem? ht).1⟩

example : AstLoopAt [.Lparen, .Number 1, .Rparen, .Lambda] 3 false [.Sequence [.Variable 1]] :=
  .back (fuel := 4) .top rfl rfl

/-- C09, the slice and the `remove` of `fold_exprs` / `fold_terms`: at an `Abstraction` found by the
`enumerate()` loop at index `i` the slice `&exprs[i + 1..]` is in bounds (`i + 1 ≤ exprs.len()`), and
`terms.remove(0)` on a non-empty vector yields its first element and the rest -/
theorem C09_cursor_fold_slice (exprs : List Expression) (i : Nat)
    (h : exprs[i]? = some .Abstraction) (t : Term) (ts : List Term) :
    i + 1 ≤ exprs.length ∧ sliceFrom exprs (i + 1) = some (exprs.drop (i + 1)) ∧
    removeAt (t :: ts) 0 = some (t, ts) := by
  have hlt := (drop_of_getElem? h).1
  refine ⟨hlt, ?_, rfl⟩
  unfold sliceFrom
  rw [if_pos (show i + 1 ≤ exprs.length from hlt)]

/-- the checks are real: a slice beyond the end and `remove(0)` of an empty vector are `none` -/
example : sliceFrom [Expression.Abstraction] 2 = none ∧ removeAt ([] : List Term) 0 = none :=
  ⟨rfl, rfl⟩

end LC
