/-
TIE (trusted-base reduction), whole operations: for every operation of the line protocol (DESIGN §3.2),

    `exec (the canonical line of the arguments) = the result printer (the MODEL function applied to the arguments)`.

`Drv.exec : String → String` is the function the compiled driver applies to every input line (`Driver.lean` is only the
read–print loop around it).  So the decoding of the arguments out of the line, the choice of the model function and the
printing of its result are all covered: what remains trusted is the Lean compiler/runtime, `IO`, and — on the other
side of the pipe — the Rust harness writing the canonical line and printing its own result in the same format.
Where the printer on the right-hand side has an injectivity theorem (`TIE_codec_res…_injective`,
`TIE_codec_showTerm_injective`, `TIE_codec_showCps_injective`, `TIE_codec_b01_injective` in `TieCodec.lean`;
`TIE_codec_resApply_injective`, `TIE_codec_resSigned_injective` at the end of this file) the printed line determines the
model's result.  The answers of `acc`, `pred`, `hist`, `applyb` and `reduceb` are put together by driver code (`resAcc`,
`resPred`, `runHist`, `resApplyB`, `resReduceB`) for which no injectivity is proved: for these operations the theorems
establish the decoding of the arguments and which model functions are run, not that the line determines their results.

The canonical lines are given as word lists (`lineOf ws` joins them with single spaces): see `LC/Drv/Wire.lean`.
-/
import LC.Proofs.DriverExec

open LC LC.Term LC.Parser Drv

-- `rw [execToks]` and `rw [Drv2.exec2]` below rewrite with Lean's equation lemmas of the two `match`es
-- (`execToks.eq_…`, `Drv2.exec2.eq_…`: one per arm, the arm verbatim) and pick the one that fits the line.
-- The next two lines have Lean generate these lemmas here, by a command of their own: tagging the two functions `simp`
-- does that, and the tag is taken off again at once, so that no `simp` below unfolds them.  Without the two lines the
-- file checks just the same, but every theorem below that rewrites with these lemmas takes markedly longer to elaborate.
attribute [local simp] execToks Drv2.exec2
attribute [-simp] execToks Drv2.exec2

/-- a line given as a string literal is the canonical line of a theorem below: the kernel compares the two strings -/
theorem exec_of_line {s : String} {ws : List String} {r : String} (hs : s = lineOf ws) (h : exec (lineOf ws) = r) :
    exec s = r := hs ▸ h

/-- `apply t a` runs `Term.applyMut` -/
theorem TIE_codec_exec_apply (t a : Term) :
    exec (lineOf ("apply" :: (termWords t ++ termWords a))) = resApply t (Term.applyMut t a) := by
  rw [exec_lineOf, execToks]
  · simp [decTerm_termWords, decTerm1]
  -- the side condition `Words …` of `exec_lineOf`, which `rw` puts last: the words of a canonical line are words
  · exact .cons lit_words ((termWords_words t).append (termWords_words a))

example : exec "apply L 1 2" = "ok 2" :=
  exec_of_line (by decide +kernel) ((TIE_codec_exec_apply (abs (var 1)) (var 2)).trans (by decide +kernel))

/-- `applyb t a` runs `Term.apply` (and reports the `usize` overflow) -/
theorem TIE_codec_exec_applyb (t a : Term) :
    exec (lineOf ("applyb" :: (termWords t ++ termWords a))) = resApplyB (Term.apply t a) := by
  rw [exec_lineOf, execToks]
  · simp [decTerm_termWords, decTerm1]
  · exact .cons lit_words ((termWords_words t).append (termWords_words a))

example : exec "applyb L 1 2" = resApplyB (Term.apply (abs (var 1)) (var 2)) :=
  exec_of_line (by decide +kernel) (TIE_codec_exec_applyb ..)

/-- `reduceb o t` runs one step of `reduce` -/
theorem TIE_codec_exec_reduceb (o : Order) (t : Term) :
    exec (lineOf ("reduceb" :: orderWord o :: termWords t)) = resReduceB (reduce o 1 FUEL t) := by
  rw [exec_lineOf, execToks]
  · simp [orderOf_orderWord, decTerm1]
  · exact .cons lit_words (.cons (orderWord_words o) (termWords_words t))

example : exec "reduceb CBV A L 1 2" = resReduceB (reduce .CBV 1 FUEL (app (abs (var 1)) (var 2))) :=
  exec_of_line (by decide +kernel) (TIE_codec_exec_reduceb ..)

/-- `reduce o l t` runs `reduce o l` -/
theorem TIE_codec_exec_reduce (o : Order) (l : Nat) (t : Term) :
    exec (lineOf ("reduce" :: orderWord o :: toString l :: termWords t)) = resReduce (reduce o l FUEL t) := by
  rw [exec_lineOf, execToks, orderOf_orderWord, toNat?_toString, decTerm1]
  · rfl
  · exact .cons lit_words (.cons (orderWord_words o) (.cons (nat_words l) (termWords_words t)))

example : exec "reduce NOR 0 A L 1 2" = resReduce (reduce .NOR 0 FUEL (app (abs (var 1)) (var 2))) :=
  exec_of_line (by decide +kernel) (TIE_codec_exec_reduce ..)

/-- `beta o l t` runs `beta` -/
theorem TIE_codec_exec_beta (o : Order) (l : Nat) (t : Term) :
    exec (lineOf ("beta" :: orderWord o :: toString l :: termWords t)) = resBeta (beta t o l FUEL) := by
  rw [exec_lineOf, execToks]
  · simp [orderOf_orderWord, decTerm1]
  · exact .cons lit_words (.cons (orderWord_words o) (.cons (nat_words l) (termWords_words t)))

example : exec "beta HAP 0 A L 1 2" = resBeta (beta (app (abs (var 1)) (var 2)) .HAP 0 FUEL) :=
  exec_of_line (by decide +kernel) (TIE_codec_exec_beta ..)

/-- `hist n calls t` runs the calls one after the other -/
theorem TIE_codec_exec_hist (cs : List (Order × Nat)) (t : Term) :
    exec (lineOf ("hist" :: toString cs.length :: ((cs.map callWords).flatten ++ termWords t))) =
      (runHist cs t "").getD "fuel" := by
  rw [exec_lineOf, execToks]
  · simp [parseCalls_callWords, decTerm1]
  · exact .cons lit_words (.cons (nat_words _) ((callsWords_words cs).append (termWords_words t)))

example : exec "hist 2 NOR 1 CBV 0 A L 1 2" = (runHist [(.NOR, 1), (.CBV, 0)] (app (abs (var 1)) (var 2)) "").getD "fuel" :=
  exec_of_line (by decide +kernel) (TIE_codec_exec_hist ..)

/-- `pred t` runs the three predicates -/
theorem TIE_codec_exec_pred (t : Term) : exec (lineOf ("pred" :: termWords t)) = resPred t := by
  rw [exec_lineOf, execToks]
  · simp [decTerm1]
  · exact .cons lit_words (termWords_words t)

example : exec "pred L 1" = "0 1 1" :=
  exec_of_line (by decide +kernel) ((TIE_codec_exec_pred (abs (var 1))).trans (by decide +kernel))

/-- `iso t u` runs `isIsomorphicTo` -/
theorem TIE_codec_exec_iso (t u : Term) :
    exec (lineOf ("iso" :: (termWords t ++ termWords u))) = b01 (t.isIsomorphicTo u) := by
  rw [exec_lineOf, execToks]
  · simp [decTerm_termWords, decTerm1]
  · exact .cons lit_words ((termWords_words t).append (termWords_words u))

example : exec "iso L 1 L 2" = "0" :=
  exec_of_line (by decide +kernel) ((TIE_codec_exec_iso (abs (var 1)) (abs (var 2))).trans (by decide +kernel))

/-- `acc t` runs the fifteen accessors -/
theorem TIE_codec_exec_acc (t : Term) : exec (lineOf ("acc" :: termWords t)) = resAcc t := by
  rw [exec_lineOf, execToks]
  · simp [decTerm1]
  · exact .cons lit_words (termWords_words t)

example : exec "acc 0" = resAcc (var 0) :=
  exec_of_line (by decide +kernel) (TIE_codec_exec_acc ..)

theorem TIE_codec_exec_put_unvar (t : Term) (v : Nat) :
    exec (lineOf ("put" :: "unvar" :: (termWords t ++ [toString v]))) = resTerm (t.unvarMutPut v) := by
  rw [exec_lineOf, execToks]
  · simp [decTerm_termWords]
  · exact .cons lit_words (.cons lit_words ((termWords_words t).append (nat_words v)))

example : exec "put unvar 1 5" = "ok 5" :=
  exec_of_line (by decide +kernel) ((TIE_codec_exec_put_unvar (var 1) 5).trans (by decide +kernel))

theorem TIE_codec_exec_put_unabs (t v : Term) :
    exec (lineOf ("put" :: "unabs" :: (termWords t ++ termWords v))) = resTerm (t.unabsMutPut v) := by
  rw [exec_lineOf, execToks]
  · simp [decTerm_termWords, decTerm1]
  · exact .cons lit_words (.cons lit_words ((termWords_words t).append (termWords_words v)))

example : exec "put unabs L 1 2" = "ok L 2" :=
  exec_of_line (by decide +kernel) ((TIE_codec_exec_put_unabs (abs (var 1)) (var 2)).trans (by decide +kernel))

theorem TIE_codec_exec_put_lhs (t v : Term) :
    exec (lineOf ("put" :: "lhs" :: (termWords t ++ termWords v))) = resTerm (t.lhsMutPut v) := by
  rw [exec_lineOf, execToks]
  · simp [decTerm_termWords, decTerm1]
  · exact .cons lit_words (.cons lit_words ((termWords_words t).append (termWords_words v)))

example : exec "put lhs A 1 2 3" = "ok A 3 2" :=
  exec_of_line (by decide +kernel) ((TIE_codec_exec_put_lhs (app (var 1) (var 2)) (var 3)).trans (by decide +kernel))

theorem TIE_codec_exec_put_rhs (t v : Term) :
    exec (lineOf ("put" :: "rhs" :: (termWords t ++ termWords v))) = resTerm (t.rhsMutPut v) := by
  rw [exec_lineOf, execToks]
  · simp [decTerm_termWords, decTerm1]
  · exact .cons lit_words (.cons lit_words ((termWords_words t).append (termWords_words v)))

example : exec "put rhs 1 3" = "err NotApp" :=
  exec_of_line (by decide +kernel) ((TIE_codec_exec_put_rhs (var 1) (var 3)).trans (by decide +kernel))

theorem TIE_codec_exec_put_unapp (t v1 v2 : Term) :
    exec (lineOf ("put" :: "unapp" :: (termWords t ++ (termWords v1 ++ termWords v2)))) =
      resTerm (t.unappMutPut (v1, v2)) := by
  rw [exec_lineOf, execToks]
  · simp [decTerm_termWords, decTerm1]
  · exact .cons lit_words (.cons lit_words
      ((termWords_words t).append ((termWords_words v1).append (termWords_words v2))))

example : exec "put unapp A 1 2 3 4" = "ok A 3 4" :=
  exec_of_line (by decide +kernel) ((TIE_codec_exec_put_unapp (app (var 1) (var 2)) (var 3) (var 4)).trans (by decide +kernel))

/-- `mapp k t0 t1 … tk` runs `appMany` -/
theorem TIE_codec_exec_mapp (t0 : Term) (more : List Term) :
    exec (lineOf ("mapp" :: toString more.length :: ((t0 :: more).map termWords).flatten)) =
      showTerm (appMany t0 more) := by
  rw [exec_lineOf, execToks]
  · have := decTerms1 (t0 :: more)
    rw [List.length_cons, List.map_cons, List.flatten_cons] at this
    simp [this]
  · exact .cons lit_words (.cons (nat_words _) (termsWords_words _))

example : exec "mapp 1 1 2" = "A 1 2" :=
  exec_of_line (by decide +kernel) ((TIE_codec_exec_mapp (var 1) [var 2]).trans (by decide +kernel))

/-- `mabs n t` runs `absN` -/
theorem TIE_codec_exec_mabs (n : Nat) (t : Term) :
    exec (lineOf ("mabs" :: toString n :: termWords t)) = showTerm (absN n t) := by
  rw [exec_lineOf, execToks]
  · simp [decTerm1]
  · exact .cons lit_words (.cons (nat_words n) (termWords_words t))

example : exec "mabs 3 1" = "L L L 1" :=
  exec_of_line (by decide +kernel) ((TIE_codec_exec_mabs 3 (var 1)).trans (by decide +kernel))

/-- `udconst` prints the constant `UD` -/
theorem TIE_codec_exec_udconst : exec (lineOf ["udconst"]) = showTerm Term.UD := by
  rw [exec_lineOf lit_words, execToks]

example : exec "udconst" = "0" :=
  exec_of_line (by decide +kernel) (TIE_codec_exec_udconst.trans (by decide +kernel))

theorem take_map_length {α β : Type} (f : α → β) (l : List α) : (l.map f).take l.length = l.map f := by
  rw [List.take_of_length_le (by simp)]

/-- `lexd n chars` runs `tokenizeDbr` on the code points, with the classification sent along: an entry of `chars` is
(code point, flags, digit value) as in `Drv.decChar`; `Drv2.mkCls` looks a code point up in that table (the first entry
for it counts) and gives one that is not in the table no class and no digit value -/
theorem TIE_codec_exec_lexd (chars : List (Nat × Nat × Nat)) :
    exec (lineOf ("lexd" :: toString chars.length :: chars.map charWord)) =
      resToks (tokenizeDbr (Drv2.mkCls chars) (chars.map (·.1))) := by
  rw [exec_lineOf, execToks_exec2 _ (by simp), Drv2.exec2]
  · simp [decChars1]
  · exact .cons lit_words (.cons (nat_words _) (charWords_words chars))

example : exec "lexd 3 49:4:1 955:6:16 50:4:2" =
    resToks (tokenizeDbr (Drv2.mkCls [(49, 4, 1), (955, 6, 16), (50, 4, 2)]) [49, 955, 50]) :=
  exec_of_line (by decide +kernel) (TIE_codec_exec_lexd ..)

/-- `lexc n chars` runs `tokenizeCla` -/
theorem TIE_codec_exec_lexc (chars : List (Nat × Nat × Nat)) :
    exec (lineOf ("lexc" :: toString chars.length :: chars.map charWord)) =
      resCToks (tokenizeCla (Drv2.mkCls chars) (chars.map (·.1))) := by
  rw [exec_lineOf, execToks_exec2 _ (by simp), Drv2.exec2]
  · simp [decChars1]
  · exact .cons lit_words (.cons (nat_words _) (charWords_words chars))

example : exec "lexc 2 955:6:16 97:6:10" = resCToks (tokenizeCla (Drv2.mkCls [(955, 6, 16), (97, 6, 10)]) [955, 97]) :=
  exec_of_line (by decide +kernel) (TIE_codec_exec_lexc ..)

/-- `conv n ctoks` runs `convertClassicTokens` -/
theorem TIE_codec_exec_conv (cts : List CToken) :
    exec (lineOf ("conv" :: toString cts.length :: cts.map showCTok)) = resConv (convertClassicTokens cts) := by
  rw [exec_lineOf, execToks_exec2 _ (by simp), Drv2.exec2]
  · have h : List.mapM (decCTok ∘ showCTok) cts = some cts := by simpa using mapM_dec_enc decCTok_showCTok cts
    simp [take_map_length, h]
  · exact .cons lit_words (.cons (nat_words _) (ctokWords_words cts))

example : exec "conv 2 CL:97 CN:97" = resConv (convertClassicTokens [.CLambda [97], .CName [97]]) :=
  exec_of_line (by decide +kernel) (TIE_codec_exec_conv ..)

/-- `ast n toks` runs `getAst` -/
theorem TIE_codec_exec_ast (ts : List Token) :
    exec (lineOf ("ast" :: toString ts.length :: ts.map showTok)) = resAst (getAst ts) := by
  rw [exec_lineOf, execToks_exec2 _ (by simp), Drv2.exec2]
  · have h : List.mapM (decTok ∘ showTok) ts = some ts := by simpa using mapM_dec_enc decTok_showTok ts
    simp [take_map_length, h]
  · exact .cons lit_words (.cons (nat_words _) (tokWords_words ts))

example : exec "ast 3 L N1 N2" = resAst (getAst [.Lambda, .Number 1, .Number 2]) :=
  exec_of_line (by decide +kernel) (TIE_codec_exec_ast ..)

/-- `fold n exprs` runs `foldExprs` -/
theorem TIE_codec_exec_fold (es : List Expression) :
    exec (lineOf ("fold" :: toString es.length :: exprsWords es)) = resFold (foldExprs es) := by
  rw [exec_lineOf, execToks_exec2 _ (by simp), Drv2.exec2]
  · simp [decExprs1]
  · exact .cons lit_words (.cons (nat_words _) (exprsWords_words es))

example : exec "fold 1 S3 A A V2" = resFold (foldExprs [.Sequence [.Abstraction, .Abstraction, .Variable 2]]) :=
  exec_of_line (by decide +kernel) (TIE_codec_exec_fold ..)

/-- `parse d n chars` runs `parse` in the De Bruijn notation -/
theorem TIE_codec_exec_parse_d (chars : List (Nat × Nat × Nat)) :
    exec (lineOf ("parse" :: "d" :: toString chars.length :: chars.map charWord)) =
      resParse (parse (Drv2.mkCls chars) (chars.map (·.1)) .DeBruijn) := by
  rw [exec_lineOf, execToks_exec2 _ (by simp), Drv2.exec2]
  · simp [decChars1]
  · exact .cons lit_words (.cons lit_words (.cons (nat_words _) (charWords_words chars)))

example : exec "parse d 1 49:4:1" = resParse (parse (Drv2.mkCls [(49, 4, 1)]) [49] .DeBruijn) :=
  exec_of_line (by decide +kernel) (TIE_codec_exec_parse_d ..)

/-- `parse c n chars` runs `parse` in the classic notation -/
theorem TIE_codec_exec_parse_c (chars : List (Nat × Nat × Nat)) :
    exec (lineOf ("parse" :: "c" :: toString chars.length :: chars.map charWord)) =
      resParse (parse (Drv2.mkCls chars) (chars.map (·.1)) .Classic) := by
  rw [exec_lineOf, execToks_exec2 _ (by simp), Drv2.exec2]
  · simp [decChars1]
  · exact .cons lit_words (.cons lit_words (.cons (nat_words _) (charWords_words chars)))

example : exec "parse c 1 97:6:10" = resParse (parse (Drv2.mkCls [(97, 6, 10)]) [97] .Classic) :=
  exec_of_line (by decide +kernel) (TIE_codec_exec_parse_c ..)

/-- `show c λ t` / `show d λ t` run `Display.display` / `Display.debug` with the code point of the lambda glyph -/
theorem TIE_codec_exec_show (lam : Nat) (t : Term) :
    exec (lineOf ("show" :: "c" :: toString lam :: termWords t)) = showCps (Display.display lam t) ∧
    exec (lineOf ("show" :: "d" :: toString lam :: termWords t)) = showCps (Display.debug lam t) := by
  have h (ws : List String) := execToks_exec2 (w := "show") ws (by simp)
  constructor
  · rw [exec_lineOf, h, Drv2.exec2]
    · simp [decTerm1]
    · exact .cons lit_words (.cons lit_words (.cons (nat_words _) (termWords_words t)))
  · rw [exec_lineOf, h, Drv2.exec2]
    · simp [decTerm1]
    · exact .cons lit_words (.cons lit_words (.cons (nat_words _) (termWords_words t)))

example : exec "show c 955 L 1" = showCps (Display.display 955 (abs (var 1))) :=
  exec_of_line (by decide +kernel) (TIE_codec_exec_show 955 (abs (var 1))).1

/-- `showu` (the advisory twin of `show` for terms containing UD) -/
theorem TIE_codec_exec_showu (lam : Nat) (t : Term) :
    exec (lineOf ("showu" :: "c" :: toString lam :: termWords t)) = showCps (Display.display lam t) ∧
    exec (lineOf ("showu" :: "d" :: toString lam :: termWords t)) = showCps (Display.debug lam t) := by
  have h (ws : List String) := execToks_exec2 (w := "showu") ws (by simp)
  constructor
  · rw [exec_lineOf, h, Drv2.exec2]
    · simp [decTerm1]
    · exact .cons lit_words (.cons lit_words (.cons (nat_words _) (termWords_words t)))
  · rw [exec_lineOf, h, Drv2.exec2]
    · simp [decTerm1]
    · exact .cons lit_words (.cons lit_words (.cons (nat_words _) (termWords_words t)))

example : exec "showu d 955 A 0 L 1" = showCps (Display.debug 955 (app (var 0) (abs (var 1)))) :=
  exec_of_line (by decide +kernel) (TIE_codec_exec_showu 955 (app (var 0) (abs (var 1)))).2

/-- `enc e n` runs `Enc.intoNum` -/
theorem TIE_codec_exec_enc (e : Enc.Encoding) (n : Nat) :
    exec (lineOf ["enc", encWord e, toString n]) = showTerm (Enc.intoNum e n) := by
  rw [exec_lineOf, execToks_exec2 _ (by simp), Drv2.exec2]
  · simp [encOf_encWord]
  · exact .cons lit_words (.cons (encWord_words e) (nat_words n))

example : exec "enc church 3" = showTerm (Enc.intoNum .Church 3) :=
  exec_of_line (by decide +kernel) (TIE_codec_exec_enc ..)

/-- `signed e i` runs `Enc.intoSignedChecked` -/
theorem TIE_codec_exec_signed (e : Enc.Encoding) (i : Int) :
    exec (lineOf ["signed", encWord e, toString i]) = Drv2.resSigned (Enc.intoSignedChecked e i) := by
  rw [exec_lineOf, execToks_exec2 _ (by simp), Drv2.exec2]
  · simp [encOf_encWord]
  · exact .cons lit_words (.cons (encWord_words e) (int_words i))

example : exec "signed scott -3" = Drv2.resSigned (Enc.intoSignedChecked .Scott (-3)) :=
  exec_of_line (by decide +kernel) (TIE_codec_exec_signed ..)

/-- `vect kind k t1 … tk` builds the list encodings from `k` terms -/
theorem TIE_codec_exec_vect (ts : List Term) :
    exec (lineOf ("vect" :: "pair" :: toString ts.length :: (ts.map termWords).flatten)) = showTerm (Enc.pairList ts) ∧
    exec (lineOf ("vect" :: "from" :: toString ts.length :: (ts.map termWords).flatten)) = showTerm (Enc.pairList ts) ∧
    exec (lineOf ("vect" :: "church" :: toString ts.length :: (ts.map termWords).flatten)) =
      showTerm (Enc.churchList ts) ∧
    exec (lineOf ("vect" :: "scott" :: toString ts.length :: (ts.map termWords).flatten)) =
      showTerm (Enc.scottList ts) ∧
    exec (lineOf ("vect" :: "parigot" :: toString ts.length :: (ts.map termWords).flatten)) =
      showTerm (Enc.parigotList ts) := by
  have h (ws : List String) := execToks_exec2 (w := "vect") ws (by simp)
  refine ⟨?_, ?_, ?_, ?_, ?_⟩ <;>
  · rw [exec_lineOf, h, Drv2.exec2]
    · simp [decTerms1]
    · exact .cons lit_words (.cons lit_words (.cons (nat_words _) (termsWords_words ts)))

example : exec "vect church 2 1 L 1" = showTerm (Enc.churchList [var 1, abs (var 1)]) :=
  exec_of_line (by decide +kernel) (TIE_codec_exec_vect [var 1, abs (var 1)]).2.2.1

/-- `vecn kind k n1 … nk` builds the list encodings of `k` numerals -/
theorem TIE_codec_exec_vecn (ns : List Nat) :
    exec (lineOf ("vecn" :: "church" :: toString ns.length :: ns.map toString)) =
      showTerm (Enc.churchList (ns.map Enc.intoChurch)) ∧
    exec (lineOf ("vecn" :: "scott" :: toString ns.length :: ns.map toString)) =
      showTerm (Enc.scottList (ns.map Enc.intoScott)) ∧
    exec (lineOf ("vecn" :: "parigot" :: toString ns.length :: ns.map toString)) =
      showTerm (Enc.parigotList (ns.map Enc.intoParigot)) := by
  have h (ws : List String) := execToks_exec2 (w := "vecn") ws (by simp)
  refine ⟨?_, ?_, ?_⟩ <;>
  · rw [exec_lineOf, h, Drv2.exec2]
    · simp [decNats1]
    · exact .cons lit_words (.cons lit_words (.cons (nat_words _) (natWords_words ns)))

example : exec "vecn scott 2 1 2" = showTerm (Enc.scottList ([1, 2].map Enc.intoScott)) :=
  exec_of_line (by decide +kernel) (TIE_codec_exec_vecn [1, 2]).2.1

/-- `frompair a b` runs `Enc.fromPair` -/
theorem TIE_codec_exec_frompair (a b : Term) :
    exec (lineOf ("frompair" :: (termWords a ++ termWords b))) = showTerm (Enc.fromPair a b) := by
  rw [exec_lineOf, execToks_exec2 _ (by simp), Drv2.exec2]
  · simp [decTerm_termWords, decTerm1]
  · exact .cons lit_words ((termWords_words a).append (termWords_words b))

example : exec "frompair 1 L 2" = showTerm (Enc.fromPair (var 1) (abs (var 2))) :=
  exec_of_line (by decide +kernel) (TIE_codec_exec_frompair ..)

/-- `fromopt none` / `fromopt some a` run `Enc.fromOption` -/
theorem TIE_codec_exec_fromopt (a : Term) :
    exec (lineOf ["fromopt", "none"]) = showTerm (Enc.fromOption none) ∧
    exec (lineOf ("fromopt" :: "some" :: termWords a)) = showTerm (Enc.fromOption (some a)) := by
  have h (ws : List String) := execToks_exec2 (w := "fromopt") ws (by simp)
  constructor
  · rw [exec_lineOf, h, Drv2.exec2]
    exact .cons lit_words lit_words
  · rw [exec_lineOf, h, Drv2.exec2]
    · simp [decTerm1]
    · exact .cons lit_words (.cons lit_words (termWords_words a))

example : exec "fromopt some L 1" = showTerm (Enc.fromOption (some (abs (var 1)))) :=
  exec_of_line (by decide +kernel) (TIE_codec_exec_fromopt (abs (var 1))).2

/-- `fromres ok a` / `fromres err a` run `Enc.fromResult` -/
theorem TIE_codec_exec_fromres (a : Term) :
    exec (lineOf ("fromres" :: "ok" :: termWords a)) = showTerm (Enc.fromResult (.ok a)) ∧
    exec (lineOf ("fromres" :: "err" :: termWords a)) = showTerm (Enc.fromResult (.error a)) := by
  have h (ws : List String) := execToks_exec2 (w := "fromres") ws (by simp)
  constructor
  · rw [exec_lineOf, h, Drv2.exec2]
    · simp [decTerm1]
    · exact .cons lit_words (.cons lit_words (termWords_words a))
  · rw [exec_lineOf, h, Drv2.exec2]
    · simp [decTerm1]
    · exact .cons lit_words (.cons lit_words (termWords_words a))

example : exec "fromres err L 1" = showTerm (Enc.fromResult (.error (abs (var 1)))) :=
  exec_of_line (by decide +kernel) (TIE_codec_exec_fromres (abs (var 1))).2

/-- `frombool 0` / `frombool 1` run `Enc.fromBool` (the driver reads every word other than `1` as false: `b == "1"`) -/
theorem TIE_codec_exec_frombool (b : Bool) :
    exec (lineOf ["frombool", b01 b]) = showTerm (Enc.fromBool b) := by
  rw [exec_lineOf, execToks_exec2 _ (by simp), Drv2.exec2]
  · cases b <;> rfl
  · exact .cons lit_words (b01_words b)

example : exec "frombool 1" = showTerm (Enc.fromBool true) :=
  exec_of_line (by decide +kernel) (TIE_codec_exec_frombool ..)

/-- `numpair e a b` encodes a pair of numerals -/
theorem TIE_codec_exec_numpair (e : Enc.Encoding) (a b : Nat) :
    exec (lineOf ["numpair", encWord e, toString a, toString b]) =
      showTerm (Enc.fromPair (Enc.intoNum e a) (Enc.intoNum e b)) := by
  rw [exec_lineOf, execToks_exec2 _ (by simp), Drv2.exec2]
  · simp [encOf_encWord]
  · exact .cons lit_words (.cons (encWord_words e) (.cons (nat_words a) (nat_words b)))

example : exec "numpair church 1 2" = showTerm (Enc.fromPair (Enc.intoNum .Church 1) (Enc.intoNum .Church 2)) :=
  exec_of_line (by decide +kernel) (TIE_codec_exec_numpair ..)

/-- `numopt e none` / `numopt e some a` encode an optional numeral -/
theorem TIE_codec_exec_numopt (e : Enc.Encoding) (a : Nat) :
    exec (lineOf ["numopt", encWord e, "none"]) = showTerm (Enc.fromOption none) ∧
    exec (lineOf ["numopt", encWord e, "some", toString a]) =
      showTerm (Enc.fromOption (some (Enc.intoNum e a))) := by
  have h (ws : List String) := execToks_exec2 (w := "numopt") ws (by simp)
  constructor
  · rw [exec_lineOf, h, Drv2.exec2]
    · simp [encOf_encWord]
    · exact .cons lit_words (.cons (encWord_words e) lit_words)
  · rw [exec_lineOf, h, Drv2.exec2]
    · simp [encOf_encWord]
    · exact .cons lit_words (.cons (encWord_words e) (.cons lit_words (nat_words a)))

example : exec "numopt scott some 2" = showTerm (Enc.fromOption (some (Enc.intoNum .Scott 2))) :=
  exec_of_line (by decide +kernel) (TIE_codec_exec_numopt .Scott 2).2

/-- `numres e ok a` / `numres e err a` encode a numeral result -/
theorem TIE_codec_exec_numres (e : Enc.Encoding) (a : Nat) :
    exec (lineOf ["numres", encWord e, "ok", toString a]) = showTerm (Enc.fromResult (.ok (Enc.intoNum e a))) ∧
    exec (lineOf ["numres", encWord e, "err", toString a]) =
      showTerm (Enc.fromResult (.error (Enc.intoNum e a))) := by
  have h (ws : List String) := execToks_exec2 (w := "numres") ws (by simp)
  constructor
  · rw [exec_lineOf, h, Drv2.exec2]
    · simp [encOf_encWord]
    · exact .cons lit_words (.cons (encWord_words e) (.cons lit_words (nat_words a)))
  · rw [exec_lineOf, h, Drv2.exec2]
    · simp [encOf_encWord]
    · exact .cons lit_words (.cons (encWord_words e) (.cons lit_words (nat_words a)))

example : exec "numres parigot ok 1" = showTerm (Enc.fromResult (.ok (Enc.intoNum .Parigot 1))) :=
  exec_of_line (by decide +kernel) (TIE_codec_exec_numres .Parigot 1).1

/-- `tuple k t1 … tk` runs `Enc.tuple` -/
theorem TIE_codec_exec_tuple (t : Term) (more : List Term) :
    exec (lineOf ("tuple" :: toString (more.length + 1) :: ((t :: more).map termWords).flatten)) =
      showTerm (Enc.tuple t more) := by
  rw [exec_lineOf, execToks_exec2 _ (by simp), Drv2.exec2]
  · have := decTerms1 (t :: more)
    rw [List.length_cons, List.map_cons, List.flatten_cons] at this
    simp [this]
  · exact .cons lit_words (.cons (nat_words _) (termsWords_words _))

example : exec "tuple 2 1 2" = showTerm (Enc.tuple (var 1) [var 2]) :=
  exec_of_line (by decide +kernel) (TIE_codec_exec_tuple ..)

/-- `pi i n` runs `Enc.pi` -/
theorem TIE_codec_exec_pi (i n : Nat) : exec (lineOf ["pi", toString i, toString n]) = showTerm (Enc.pi i n) := by
  rw [exec_lineOf, execToks_exec2 _ (by simp), Drv2.exec2]
  · simp
  · exact .cons lit_words (.cons (nat_words i) (nat_words n))

example : exec "pi 1 3" = showTerm (Enc.pi 1 3) :=
  exec_of_line (by decide +kernel) (TIE_codec_exec_pi ..)

/-- `errmsg term e` prints the `Display` text of a term error -/
theorem TIE_codec_exec_errmsg_term (e : TermError) :
    exec (lineOf ["errmsg", "term", errName e]) = showCps (Display.termErrorMsg e) := by
  rw [exec_lineOf, execToks_exec2 _ (by simp)]
  · cases e <;> (rw [errName, Drv2.exec2]; rfl)
  · exact .cons lit_words (.cons lit_words (errName_words e))

example : exec "errmsg term NotAbs" = showCps (Display.termErrorMsg .NotAbs) :=
  exec_of_line (by decide +kernel) (TIE_codec_exec_errmsg_term ..)

/-- `errmsg parse …` prints the `Display` text of a parse error: the words are those of `showErr` after `err` -/
theorem TIE_codec_exec_errmsg_parse (e : ParseError) :
    exec (lineOf ("errmsg" :: "parse" :: (errWords e).tail)) = showCps (Display.parseErrorMsg e) := by
  have h (ws : List String) := execToks_exec2 (w := "errmsg") ws (by simp)
  cases e with
  | InvalidCharacter i c =>
    show exec (lineOf ["errmsg", "parse", "IC", toString i, toString c]) = _
    rw [exec_lineOf, h, Drv2.exec2]
    · simp
    · exact .cons lit_words (.cons lit_words (.cons lit_words (.cons (nat_words i) (nat_words c))))
  | InvalidExpression =>
    show exec (lineOf ["errmsg", "parse", "IE"]) = _
    rw [exec_lineOf, h, Drv2.exec2]
    exact .cons lit_words (.cons lit_words lit_words)
  | EmptyExpression =>
    show exec (lineOf ["errmsg", "parse", "EE"]) = _
    rw [exec_lineOf, h, Drv2.exec2]
    exact .cons lit_words (.cons lit_words lit_words)

example : exec "errmsg parse IC 3 955" = showCps (Display.parseErrorMsg (.InvalidCharacter 3 955)) :=
  exec_of_line (by decide +kernel) (TIE_codec_exec_errmsg_parse ..)

/-- `ordname o` prints the `Display` name of a reduction order -/
theorem TIE_codec_exec_ordname (o : Order) :
    exec (lineOf ["ordname", orderWord o]) = showCps (Display.orderName o) := by
  rw [exec_lineOf, execToks_exec2 _ (by simp)]
  · cases o <;> (rw [orderWord, Drv2.exec2]; rfl)
  · exact .cons lit_words (orderWord_words o)

example : exec "ordname HAP" = showCps (Display.orderName .HAP) :=
  exec_of_line (by decide +kernel) (TIE_codec_exec_ordname ..)

/-- INJECTIVITY (`apply`): given the receiver before the call, the printed answer determines the receiver after the call
and the outcome (an unchanged receiver is not printed again: `resApplyWords`) -/
theorem TIE_codec_resApply_injective (t : Term) {p q : Term × Except TermError Unit}
    (h : resApply t p = resApply t q) : p = q := by
  rw [resApply_eq, resApply_eq] at h
  have h := intercalate_inj (resApplyWords_words t p) (resApplyWords_words t q) h
  match p, q, h with
  | (t', .ok ()), (u', .ok ()), h =>
    simp only [resApplyWords, List.cons.injEq, true_and] at h
    rw [termWords_inj h]
  | (t', .ok ()), (u', .error e), h =>
    simp only [resApplyWords] at h
    split at h <;> simp at h
  | (t', .error e), (u', .ok ()), h =>
    simp only [resApplyWords] at h
    split at h <;> simp at h
  | (t', .error e), (u', .error e'), h =>
    simp only [resApplyWords] at h
    split at h <;> split at h
    · rename_i h1 h2
      simp at h1 h2
      simp only [List.cons.injEq, and_true, true_and] at h
      rw [h1, h2, errName_inj h]
    · simp at h
    · simp at h
    · simp only [List.cons.injEq, true_and] at h
      rw [errName_inj h.1, termWords_inj h.2]

example : resApply (var 1) (var 1, .error .NotAbs) = "err NotAbs" ∧
    resApply (var 1) (var 2, .error .NotAbs) = "err NotAbs CHANGED 2" := by decide +kernel

/-- INJECTIVITY (`signed`): a term and a refusal are told apart -/
theorem TIE_codec_resSigned_injective {r r' : Option Term} (h : Drv2.resSigned r = Drv2.resSigned r') : r = r' := by
  refine optionLine_inj (W := resSignedWords) (fun r => ?_) (fun _ => rfl) rfl termWords_words lit_words
    (fun _ _ => termWords_inj) (fun _ => termWords_ne_singleton toNat?_PANIC) h
  cases r with
  | some t => exact showTerm_eq t
  | none => simp [Drv2.resSigned, resSignedWords]

example : Drv2.resSigned (some (var 1)) ≠ Drv2.resSigned none :=
  fun h => absurd (TIE_codec_resSigned_injective h) (by simp)

/-! ## refusals: a line that is no operation is answered `bad-op`, never by running some default operation -/

/-- the empty line, and a line whose first word is not an operation name -/
theorem TIE_codec_exec_bad_op (w : String) (ws : List String) (hw : Words (w :: ws))
    (h : w ∉ ["apply", "applyb", "reduceb", "reduce", "beta", "hist", "pred", "iso", "acc", "put", "mapp", "mabs",
      "udconst", "lexd", "lexc", "conv", "ast", "fold", "parse", "show", "showu", "enc", "signed", "vect", "vecn",
      "frompair", "fromopt", "fromres", "frombool", "numpair", "numopt", "numres", "tuple", "pi", "errmsg",
      "ordname"]) :
    exec "" = "bad-op" ∧ exec (lineOf (w :: ws)) = "bad-op" := by
  constructor
  · -- `lineOf [] = ""` and `execToks [] = "bad-op"` by unfolding
    exact (exec_lineOf Words.nil : exec (lineOf []) = execToks [])
  · rw [exec_lineOf hw, execToks_bad_op ws h]

example : exec "bogus 1 2" = "bad-op" :=
  exec_of_line (by decide +kernel)
    (TIE_codec_exec_bad_op "bogus" ["1", "2"] (.cons lit_words (.cons lit_words lit_words)) (by decide +kernel)).2
