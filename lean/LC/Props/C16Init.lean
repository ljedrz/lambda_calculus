/-
C16 — `init` without the hypothesis `xs ≠ []` of `C16_init_open` (LC/Props/C16More.lean): `init` of the EMPTY pair list reduces to the empty pair list, so the law
`init (pairList (placed 1 0 xs)) ↠ pairList (placed 1 0 xs.dropLast)` holds for EVERY list of arbitrary (open) terms.
-/
import LC.Props.C16More

namespace LC
open Term Spec Enc ListMore

/-- `init` of the empty pair list (the case `C16_init_open` excludes): `placed 1 0 [] = []`, `[].dropLast = []` -/
theorem C16_init_open_nil :
    app Gen.PList.init (pairList (placed 1 0 [])) ↠ pairList (placed 1 0 ([] : List Term).dropLast) :=
  plist_init_open []

example : app Gen.PList.init (pairList []) ↠ pairList [] := C16_init_open_nil

theorem C16_init_open_all (xs : List Term) :
    app Gen.PList.init (pairList (placed 1 0 xs)) ↠ pairList (placed 1 0 xs.dropLast) := plist_init_open xs

example : app Gen.PList.init (pairList (placed 1 0 [])) ↠ pairList (placed 1 0 []) := C16_init_open_all []
example : app Gen.PList.init (pairList (placed 1 0 [var 1, app (var 2) (var 1), abs (var 3)])) ↠
    pairList (placed 1 0 [var 1, app (var 2) (var 1)]) := C16_init_open_all _

/-- layers 1+2 (`Computes`: NOR and HNO return the result, every normalising order that returns returns it) for `init`
on every list of open NORMAL elements, the empty one included -/
theorem C16_init_open_computes (xs : List Term) (hn : ∀ x ∈ xs, isNormal x = true) :
    Computes (app Gen.PList.init (pairList (placed 1 0 xs))) (pairList (placed 1 0 xs.dropLast)) :=
  C16_computes_open (C16_init_open_all xs) (fun w hw => hn w (List.dropLast_subset xs hw))

example : Computes (app Gen.PList.init (pairList (placed 1 0 []))) (pairList (placed 1 0 [])) :=
  C16_init_open_computes [] (by simp)

end LC
