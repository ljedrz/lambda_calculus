/-
C18 — the four structural predicates

"For every term, has_free_variables is true exactly when some index exceeds the number of
enclosing binders or is 0; is_supercombinator is true exactly for supercombinators in the sense
of the definition its documentation links to (no free variables, and of the form of n >= 0
abstractions around a non-abstraction E in which every abstraction is again a supercombinator);
max_depth is the largest number of abstractions on any root-to-leaf path; and is_isomorphic_to
coincides with structural equality."

(is_supercombinator is only claimed for terms without UD.)

The occurrences of indices are addressed with the positions of `LC/Spec/Position.lean`
(`subAt t p = some (var i, k)`: the leaf at `p` is `var i` and lies under `k` binders).  The
specification of "supercombinator" is `Spec.SC.Supercombinator` in `LC/Spec/Supercomb.lean`; it is
written independently of the traversal used by the code (`scAux`).
-/
import LC.Spec.Supercomb
import LC.Spec.Position

namespace LC
open Term Spec

theorem leaf_var {d x : Nat} {p : Pos} {i k : Nat} :
    subAtAux d (var x) p = some (var i, k) ↔ p = [] ∧ x = i ∧ d = k := by
  cases p <;> simp [subAtAux]

theorem leaf_abs {d : Nat} {b : Term} {p : Pos} {i k : Nat} :
    subAtAux d (abs b) p = some (var i, k) ↔ ∃ q, p = .B :: q ∧ subAtAux (d + 1) b q = some (var i, k) := by
  match p with
  | [] => simp [subAtAux]
  | .B :: q => simp [subAtAux]
  | .L :: q => simp [subAtAux]
  | .R :: q => simp [subAtAux]

theorem leaf_app {d : Nat} {l r : Term} {p : Pos} {i k : Nat} :
    subAtAux d (app l r) p = some (var i, k) ↔
      (∃ q, p = .L :: q ∧ subAtAux d l q = some (var i, k)) ∨ (∃ q, p = .R :: q ∧ subAtAux d r q = some (var i, k)) := by
  match p with
  | [] => simp [subAtAux]
  | .B :: q => simp [subAtAux]
  | .L :: q => simp [subAtAux]
  | .R :: q => simp [subAtAux]

theorem hasFreeVariablesHelper_iff_leaf (t : Term) : ∀ d, hasFreeVariablesHelper d t = true ↔
    ∃ p i k, subAtAux d t p = some (var i, k) ∧ (i > k ∨ i = 0) := by
  induction t with
  | var x =>
    intro d
    simp only [leaf_var]
    constructor
    · intro h
      exact ⟨[], x, d, ⟨rfl, rfl, rfl⟩, by simpa [hasFreeVariablesHelper] using h⟩
    · rintro ⟨_, _, _, ⟨-, rfl, rfl⟩, hik⟩
      simpa [hasFreeVariablesHelper] using hik
  | abs b ih =>
    intro d
    simp only [hasFreeVariablesHelper, ih, leaf_abs]
    constructor
    · rintro ⟨p, i, k, hp, hik⟩
      exact ⟨.B :: p, i, k, ⟨p, rfl, hp⟩, hik⟩
    · rintro ⟨_, i, k, ⟨p, -, hp⟩, hik⟩
      exact ⟨p, i, k, hp, hik⟩
  | app l r ihl ihr =>
    intro d
    simp only [hasFreeVariablesHelper, Bool.or_eq_true, ihl, ihr, leaf_app]
    constructor
    · rintro (⟨p, i, k, hp, hik⟩ | ⟨p, i, k, hp, hik⟩)
      · exact ⟨.L :: p, i, k, Or.inl ⟨p, rfl, hp⟩, hik⟩
      · exact ⟨.R :: p, i, k, Or.inr ⟨p, rfl, hp⟩, hik⟩
    · rintro ⟨_, i, k, ⟨p, -, hp⟩ | ⟨p, -, hp⟩, hik⟩
      · exact Or.inl ⟨p, i, k, hp, hik⟩
      · exact Or.inr ⟨p, i, k, hp, hik⟩

/-- C18, `has_free_variables`: true exactly when some leaf carries an index that exceeds the number
of binders enclosing it, or the index 0 (`UD`). -/
theorem C18_has_free (t : Term) : hasFreeVariables t = true ↔
    ∃ p i k, subAt t p = some (var i, k) ∧ (i > k ∨ i = 0) :=
  hasFreeVariablesHelper_iff_leaf t 0

theorem maxDepth_attained (t : Term) : ∀ d, ∃ p i, subAtAux d t p = some (var i, d + maxDepth t) := by
  induction t with
  | var x => intro d; exact ⟨[], x, rfl⟩
  | abs b ih =>
    intro d
    obtain ⟨p, i, hp⟩ := ih (d + 1)
    refine ⟨.B :: p, i, ?_⟩
    simp only [subAtAux, maxDepth]
    rw [hp]; congr 2; omega
  | app l r ihl ihr =>
    intro d
    simp only [maxDepth]
    by_cases h : maxDepth l ≤ maxDepth r
    · obtain ⟨p, i, hp⟩ := ihr d
      refine ⟨.R :: p, i, ?_⟩
      simp only [subAtAux]
      rw [hp, Nat.max_eq_right h]
    · obtain ⟨p, i, hp⟩ := ihl d
      refine ⟨.L :: p, i, ?_⟩
      simp only [subAtAux]
      rw [hp, Nat.max_eq_left (by omega)]

theorem maxDepth_bound (t : Term) : ∀ d p i k, subAtAux d t p = some (var i, k) → k ≤ d + maxDepth t := by
  induction t with
  | var x =>
    intro d p i k hp
    obtain ⟨-, -, rfl⟩ := leaf_var.1 hp
    exact Nat.le_add_right _ _
  | abs b ih =>
    intro d p i k hp
    obtain ⟨q, -, hq⟩ := leaf_abs.1 hp
    have := ih _ _ _ _ hq
    simp only [maxDepth]
    omega
  | app l r ihl ihr =>
    intro d p i k hp
    simp only [maxDepth]
    rcases leaf_app.1 hp with ⟨q, -, hq⟩ | ⟨q, -, hq⟩
    · have := ihl _ _ _ _ hq
      omega
    · have := ihr _ _ _ _ hq
      omega

/-- depth of a leaf = number of abstractions on the path to it; max_depth is the largest one
(it is attained: every term has a leaf) -/
theorem C18_max_depth (t : Term) :
    (∃ p i, subAt t p = some (var i, maxDepth t)) ∧
    (∀ p i k, subAt t p = some (var i, k) → k ≤ maxDepth t) := by
  constructor
  · obtain ⟨p, i, hp⟩ := maxDepth_attained t 0
    exact ⟨p, i, by simpa [subAt] using hp⟩
  · intro p i k hp
    simpa using maxDepth_bound t 0 p i k hp

theorem isIsomorphicTo_iff (t : Term) : ∀ u, isIsomorphicTo t u = true ↔ t = u := by
  induction t with
  | var x => intro u; cases u <;> simp [isIsomorphicTo]
  | abs b ih => intro u; cases u <;> simp [isIsomorphicTo, ih]
  | app l r ihl ihr => intro u; cases u <;> simp [isIsomorphicTo, ihl, ihr]

/-- C18, `is_isomorphic_to` is structural equality. -/
theorem C18_iso (t u : Term) : isIsomorphicTo t u = decide (t = u) := by
  by_cases h : t = u
  · simp [h, (isIsomorphicTo_iff u u).2 rfl]
  · have : isIsomorphicTo t u ≠ true := fun e => h ((isIsomorphicTo_iff t u).1 e)
    simp [h, this]

namespace SCProof
open Spec.SC

/-- the leaves of `t` that are not inside an abstraction of `t` carry an index `≤ d` -/
def outerLeavesLe (d : Nat) : Term → Bool
  | var i => decide (i ≤ d)
  | abs _ => true
  | app l r => outerLeavesLe d l && outerLeavesLe d r

def size : Term → Nat
  | var _ => 1
  | abs b => size b + 1
  | app l r => size l + size r + 1

theorem topAbs_size_le (t s : Term) (h : s ∈ topAbs t) : size s ≤ size t := by
  induction t with
  | var x => simp [topAbs] at h
  | abs b _ => simp only [topAbs, List.mem_singleton] at h; subst h; exact Nat.le_refl _
  | app l r ihl ihr =>
    simp only [topAbs, List.mem_append] at h
    simp only [size]
    rcases h with h | h
    · have := ihl h; omega
    · have := ihr h; omega

theorem stripAbs_size_le (t : Term) : size (stripAbs t).2 ≤ size t := by
  induction t with
  | var x => simp [stripAbs]
  | abs b ih => simp only [stripAbs, size]; omega
  | app l r _ _ => simp [stripAbs]

theorem stripAbs_not_abs (t : Term) : isAbs (stripAbs t).2 = false := by
  induction t with
  | var x => simp [stripAbs, isAbs]
  | abs b ih => simpa only [stripAbs] using ih
  | app l r _ _ => simp [stripAbs, isAbs]

/-- the maximal abstractions inside the body `E` of `t` are strictly smaller than `t` -/
theorem topAbs_strip_size_lt (t s : Term) (h : s ∈ topAbs (stripAbs t).2) : size s < size t := by
  have h1 := stripAbs_size_le t
  have h2 := stripAbs_not_abs t
  revert h h1 h2
  generalize (stripAbs t).2 = e
  intro h h1 h2
  cases e with
  | var x => simp [topAbs] at h
  | abs b => simp [isAbs] at h2
  | app l r =>
    simp only [topAbs, List.mem_append] at h
    simp only [size] at h1
    rcases h with h | h
    · have := topAbs_size_le _ _ h; omega
    · have := topAbs_size_le _ _ h; omega

/-- stripping the prefix: `scAux true d t` is `scAux false` on the body at depth `d + n` -/
theorem scAux_true_strip (t : Term) : ∀ d,
    scAux true d t = scAux false (d + (stripAbs t).1) (stripAbs t).2 := by
  induction t with
  | var x => intro d; simp [stripAbs, scAux]
  | abs b ih =>
    intro d
    simp only [scAux, stripAbs]
    rw [ih (d + 1)]; congr 1; omega
  | app l r _ _ => intro d; simp [stripAbs, scAux]

theorem closedAt_strip (t : Term) : ∀ d,
    closedAt d t = closedAt (d + (stripAbs t).1) (stripAbs t).2 := by
  induction t with
  | var x => intro d; simp [stripAbs]
  | abs b ih =>
    intro d
    simp only [closedAt, stripAbs]
    rw [ih (d + 1)]; congr 1; omega
  | app l r _ _ => intro d; simp [stripAbs]

theorem closedAt_mono (t : Term) : ∀ d d', d ≤ d' → closedAt d t = true → closedAt d' t = true := by
  induction t with
  | var x => intro d d' h; simp only [closedAt, decide_eq_true_eq]; omega
  | abs b ih => intro d d' h; simp only [closedAt]; exact ih (d + 1) (d' + 1) (by omega)
  | app l r ihl ihr =>
    intro d d' h
    simp only [closedAt, Bool.and_eq_true]
    exact fun ⟨h1, h2⟩ => ⟨ihl d d' h h1, ihr d d' h h2⟩

/-- closedness of a body splits into its outer leaves and its maximal abstractions -/
theorem closedAt_split (e : Term) (d : Nat) :
    closedAt d e = true ↔ outerLeavesLe d e = true ∧ ∀ s ∈ topAbs e, closedAt d s = true := by
  induction e with
  | var x => simp [closedAt, outerLeavesLe, topAbs]
  | abs b _ => simp [outerLeavesLe, topAbs]
  | app l r ihl ihr =>
    simp only [closedAt, outerLeavesLe, topAbs, Bool.and_eq_true, List.forall_mem_append, ihl, ihr,
      and_and_and_comm]

/-- the body walk, given that the nested fresh calls are correct -/
theorem scAux_false_iff (e : Term)
    (hrec : ∀ s ∈ topAbs e, (isSupercombinator s = true ↔ Supercombinator s)) (d : Nat) :
    scAux false d e = true ↔ outerLeavesLe d e = true ∧ ∀ s ∈ topAbs e, Supercombinator s := by
  induction e with
  | var x => simp [scAux, outerLeavesLe, topAbs]
  | abs b _ =>
    have := hrec (abs b) (by simp [topAbs])
    simp only [isSupercombinator, scAux] at this
    simp only [scAux, outerLeavesLe, topAbs, List.mem_singleton, forall_eq, true_and]
    exact this
  | app l r ihl ihr =>
    have hl := ihl (fun s hs => hrec s (by simp [topAbs, hs]))
    have hr := ihr (fun s hs => hrec s (by simp [topAbs, hs]))
    simp only [scAux, outerLeavesLe, topAbs, Bool.and_eq_true, List.forall_mem_append, hl, hr, and_and_and_comm]

theorem supercombinator_iff (t : Term) :
    Supercombinator t ↔ closedAt 0 t = true ∧ ∀ s ∈ topAbs (stripAbs t).2, Supercombinator s :=
  ⟨fun h => by cases h with | mk _ h1 h2 => exact ⟨h1, h2⟩, fun ⟨h1, h2⟩ => .mk t h1 h2⟩

theorem supercombinator_closed {t : Term} (h : Supercombinator t) : closedAt 0 t = true :=
  ((supercombinator_iff t).1 h).1

/-- `is_supercombinator` decides `Supercombinator` (no side condition is needed: both sides treat the
placeholder `UD = var 0` as a bound-looking index) -/
theorem isSupercombinator_iff (t : Term) : isSupercombinator t = true ↔ Supercombinator t := by
  generalize hn : size t = n
  induction n using Nat.strongRecOn generalizing t with
  | _ n ih =>
    subst hn
    have hrec : ∀ s ∈ topAbs (stripAbs t).2, (isSupercombinator s = true ↔ Supercombinator s) :=
      fun s hs => ih _ (topAbs_strip_size_lt t s hs) s rfl
    rw [isSupercombinator, scAux_true_strip t 0, scAux_false_iff _ hrec, supercombinator_iff,
      closedAt_strip t 0, closedAt_split]
    constructor
    · rintro ⟨h1, h2⟩
      exact ⟨⟨h1, fun s hs => closedAt_mono s 0 _ (Nat.zero_le _) (supercombinator_closed (h2 s hs))⟩, h2⟩
    · rintro ⟨⟨h1, _⟩, h2⟩
      exact ⟨h1, h2⟩

end SCProof

/-- on terms without `UD`, "closed" in the sense of the specification is "no free variables" in the
sense of `has_free_variables` (this is where the `UD`-freeness matters: `has_free_variables` counts
`UD` as free, `is_supercombinator` does not) -/
theorem C18_closed_iff (t : Term) (h : SC.hasUD t = false) :
    SC.closedAt 0 t = true ↔ hasFreeVariables t = false := by
  suffices ∀ d, SC.closedAt d t = true ↔ hasFreeVariablesHelper d t = false from this 0
  induction t with
  | var x =>
    intro d
    simp only [SC.hasUD, beq_eq_false_iff_ne, ne_eq] at h
    simp only [SC.closedAt, hasFreeVariablesHelper, decide_eq_true_eq, Bool.or_eq_false_iff,
      decide_eq_false_iff_not, beq_eq_false_iff_ne, ne_eq]
    omega
  | abs b ih => intro d; exact ih h (d + 1)
  | app l r ihl ihr =>
    intro d
    simp only [SC.hasUD, Bool.or_eq_false_iff] at h
    simp only [SC.closedAt, hasFreeVariablesHelper, Bool.and_eq_true, Bool.or_eq_false_iff,
      ihl h.1 d, ihr h.2 d]

/-- C18, `is_supercombinator`: on terms without `UD` it is true exactly for the supercombinators.
(The hypothesis is not used by the proof, see `SCProof.isSupercombinator_iff`; it is what makes
`SC.closedAt 0` mean "`has_free_variables` is false", see `C18_closed_iff`.) -/
theorem C18_supercomb (t : Term) (_h : SC.hasUD t = false) :
    isSupercombinator t = true ↔ SC.Supercombinator t :=
  SCProof.isSupercombinator_iff t

-- the inner `λ.2` refers to the outer binder: not a supercombinator
example : isSupercombinator (abs (app (var 1) (abs (var 2)))) = false := by decide
example : isSupercombinator (abs (app (var 1) (abs (var 1)))) = true := by decide
-- n = 0 leading abstractions
example : isSupercombinator (app (abs (var 1)) (abs (var 1))) = true := by decide
example : hasFreeVariables (abs (app (var 1) (var 2))) = true := by decide
example : hasFreeVariables (abs (app (var 1) (abs (var 2)))) = false := by decide
example : hasFreeVariables (abs (var 0)) = true := by decide
example : maxDepth (app (abs (abs (var 1))) (abs (var 1))) = 2 := by decide
example : isIsomorphicTo (app (var 1) (var 2)) (app (var 2) (var 1)) = false := by decide

/-- the specification, instantiated by hand (not through the theorem) -/
example : SC.Supercombinator (abs (app (var 1) (abs (var 1)))) := by
  refine .mk _ (by decide) ?_
  intro s hs
  simp only [SC.stripAbs, SC.topAbs, List.nil_append, List.mem_singleton] at hs
  subst hs
  refine .mk _ (by decide) ?_
  intro s hs
  simp [SC.stripAbs, SC.topAbs] at hs

/-- and a non-instance of the specification: `λ.(1 (λ.2))` -/
example : ¬ SC.Supercombinator (abs (app (var 1) (abs (var 2)))) := by
  intro h
  cases h with
  | mk _ _ h2 =>
    have := h2 (abs (var 2)) (by simp [SC.stripAbs, SC.topAbs])
    cases this with
    | mk _ h1 _ => simp [SC.closedAt] at h1

end LC
