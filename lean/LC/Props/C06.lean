/-
C06 — All evaluation orders and call histories agree on the result (confluence)

"Whenever two of the normalising orders (NOR, HNO, APP, HAP) both terminate on a term they leave
the identical term, and the weaker orders' results normalise to that same term. More generally,
after any sequence of reduce calls with arbitrary orders and limits the term still has the same
normal form as the original."

Rests on the Church–Rosser theorem for `Spec.Beta` (`LC/Proofs/Confluence.lean`, parallel
reduction + complete developments), on `reduce_sound` (the result of `reduce` is reachable by
β-steps) and on "no strategy step ⇔ documented normal form" (`RL.stepOrd_none_iff`).
-/
import LC.Proofs.ReduceLemmas
import LC.Proofs.Confluence

namespace LC
open Term Spec

/-- C06: β-reduction is confluent -/
theorem C06_church_rosser {t u v : Term} (h1 : Star t u) (h2 : Star t v) :
    ∃ w, Star u w ∧ Star v w :=
  church_rosser h1 h2

/-- the four orders documented to reach the β-normal form -/
def normalising (o : Order) : Prop := o = .NOR ∨ o = .HNO ∨ o = .APP ∨ o = .HAP

/-- the four orders of `normalising` are those with `Order.full` (`Proofs/Scheme.lean`), the form the lemmas take -/
theorem normalising_full {o : Order} (h : normalising o) : o.full = true := by
  rcases h with rfl | rfl | rfl | rfl <;> rfl

/-- a terminated unlimited run of a normalising order ends in a β-normal term reachable from the input -/
theorem C06_normalising_result (o : Order) (h : normalising o) (f : Nat) (t n : Term) (c : Nat)
    (r : reduce o 0 f t = some (n, c)) : Star t n ∧ Normal n :=
  ⟨RL.reduce_star r, RL.reduce_normal (normalising_full h) r (Or.inl rfl)⟩

/-- C06 for runs that are unlimited or stopped before their limit (`c < L`): such a run has terminated, so two
normalising orders with any limits, each stopping early or unlimited, leave the identical term -/
theorem C06_orders_agree_limited (o₁ o₂ : Order) (h₁ : normalising o₁) (h₂ : normalising o₂) (L₁ L₂ f₁ f₂ : Nat)
    (t n₁ n₂ : Term) (c₁ c₂ : Nat)
    (r₁ : reduce o₁ L₁ f₁ t = some (n₁, c₁)) (r₂ : reduce o₂ L₂ f₂ t = some (n₂, c₂))
    (e₁ : L₁ = 0 ∨ c₁ < L₁) (e₂ : L₂ = 0 ∨ c₂ < L₂) : n₁ = n₂ :=
  normal_unique (RL.reduce_star r₁) (RL.reduce_star r₂)
    (RL.reduce_normal (normalising_full h₁) r₁ e₁) (RL.reduce_normal (normalising_full h₂) r₂ e₂)

/-- C06: two normalising orders that both terminate leave the identical term -/
theorem C06_orders_agree (o₁ o₂ : Order) (h₁ : normalising o₁) (h₂ : normalising o₂) (f₁ f₂ : Nat)
    (t n₁ n₂ : Term) (c₁ c₂ : Nat)
    (r₁ : reduce o₁ 0 f₁ t = some (n₁, c₁)) (r₂ : reduce o₂ 0 f₂ t = some (n₂, c₂)) : n₁ = n₂ :=
  C06_orders_agree_limited o₁ o₂ h₁ h₂ 0 0 f₁ f₂ t n₁ n₂ c₁ c₂ r₁ r₂ (Or.inl rfl) (Or.inl rfl)

-- (λx. x ((λy.y) x)) ((λz.z) w): NOR needs 4 contractions (the argument is duplicated), APP needs 3
example :
    reduce .NOR 0 12 (app (abs (app (var 1) (app (abs (var 1)) (var 1)))) (app (abs (var 1)) (var 5)))
      = some (app (var 5) (var 5), 4) ∧
    reduce .APP 0 12 (app (abs (app (var 1) (app (abs (var 1)) (var 1)))) (app (abs (var 1)) (var 5)))
      = some (app (var 5) (var 5), 3) := by decide

/-- C06: whatever any order with any limit leaves still normalises to the normal form of the
input (in particular the results of the weak orders CBN, CBV, HSP) -/
theorem C06_weak_results_normalise (o : Order) (L f : Nat) (t w N : Term) (c : Nat)
    (r : reduce o L f t = some (w, c)) (hN : Star t N) (hn : Normal N) : Star w N :=
  star_normal_of_star (RL.reduce_star r) hN hn

/-- C06: a weak order's result, normalised by a normalising order, is the normalising order's
result on the original term -/
theorem C06_weak_then_normalise (o o' : Order) (ho : normalising o) (L f f₁ f₂ : Nat)
    (t w n n' : Term) (c c₁ c₂ : Nat)
    (r : reduce o' L f t = some (w, c))
    (r₁ : reduce o 0 f₁ t = some (n, c₁)) (r₂ : reduce o 0 f₂ w = some (n', c₂)) : n = n' := by
  obtain ⟨s1, hn1⟩ := C06_normalising_result o ho f₁ t n c₁ r₁
  obtain ⟨s2, hn2⟩ := C06_normalising_result o ho f₂ w n' c₂ r₂
  exact normal_unique s1 ((RL.reduce_star r).trans s2) hn1 hn2

example :
    reduce .CBN 0 12 (app (abs (abs (app (abs (var 1)) (var 2)))) (app (abs (var 1)) (var 5)))
      = some (abs (app (abs (var 1)) (app (abs (var 1)) (var 6))), 1) ∧
    reduce .NOR 0 12 (abs (app (abs (var 1)) (app (abs (var 1)) (var 6)))) = some (abs (var 6), 2) ∧
    reduce .NOR 0 12 (app (abs (abs (app (abs (var 1)) (var 2)))) (app (abs (var 1)) (var 5)))
      = some (abs (var 6), 3) := by decide

/-- a history: any finite sequence of reduce calls (order, limit, fuel) applied one after the other -/
def runHistory : List (Order × Nat × Nat) → Term → Option Term
  | [], t => some t
  | (o, L, f) :: h, t => match reduce o L f t with | some (t', _) => runHistory h t' | none => none

theorem runHistory_star (h : List (Order × Nat × Nat)) (t th : Term)
    (r : runHistory h t = some th) : Star t th := by
  induction h generalizing t with
  | nil =>
    simp only [runHistory, Option.some.injEq] at r
    subst r; exact Star.refl _
  | cons p h ih =>
    obtain ⟨o, L, f⟩ := p
    simp only [runHistory] at r
    cases h1 : reduce o L f t with
    | none => simp [h1] at r
    | some q =>
      obtain ⟨t', c⟩ := q
      simp only [h1] at r
      exact (RL.reduce_star h1).trans (ih t' r)

/-- C06: after any history of reduce calls the term is a reduct of the original and has exactly
the same normal forms -/
theorem C06_history (h : List (Order × Nat × Nat)) (t th : Term) (r : runHistory h t = some th) :
    Star t th ∧ ∀ N, Normal N → (Star t N ↔ Star th N) := by
  have hs := runHistory_star h t th r
  exact ⟨hs, fun N hN => ⟨fun h1 => star_normal_of_star hs h1 hN, fun h2 => hs.trans h2⟩⟩

/-- C06: normalising after any history gives what normalising the original gives, also with two different normalising
orders before and after -/
theorem C06_history_then_normalise' (h : List (Order × Nat × Nat)) (t th : Term)
    (r : runHistory h t = some th)
    (o o' : Order) (ho : normalising o) (ho' : normalising o') (f f' : Nat) (n n' : Term) (c c' : Nat)
    (r₁ : reduce o 0 f t = some (n, c)) (r₂ : reduce o' 0 f' th = some (n', c')) : n = n' := by
  obtain ⟨s1, hn1⟩ := C06_normalising_result o ho f t n c r₁
  obtain ⟨s2, hn2⟩ := C06_normalising_result o' ho' f' th n' c' r₂
  exact normal_unique s1 ((runHistory_star h t th r).trans s2) hn1 hn2

theorem C06_history_then_normalise (h : List (Order × Nat × Nat)) (t th : Term)
    (r : runHistory h t = some th)
    (o : Order) (ho : normalising o) (f f' : Nat) (n n' : Term) (c c' : Nat)
    (r₁ : reduce o 0 f t = some (n, c)) (r₂ : reduce o 0 f' th = some (n', c')) : n = n' :=
  C06_history_then_normalise' h t th r o o ho ho f f' n n' c c' r₁ r₂

example :
    runHistory [(.CBV, 1, 12), (.HSP, 0, 12), (.CBN, 2, 12)]
      (app (abs (app (var 1) (app (abs (var 1)) (var 1)))) (app (abs (var 1)) (abs (var 1))))
      = some (abs (var 1)) ∧
    reduce .HNO 0 12
      (app (abs (app (var 1) (app (abs (var 1)) (var 1)))) (app (abs (var 1)) (abs (var 1))))
      = some (abs (var 1), 5) := by decide

end LC
