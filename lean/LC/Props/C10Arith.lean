/-
C10, arithmetic side conditions of `impl Display for Term` (`src/term.rs`: `base26_encode`,
`show_precedence_cla`, `max_depth`): no addition overflows, no subtraction underflows, no cast
truncates, and the bytes handed to `String::from_utf8(..).expect(..)` are lower-case ASCII letters —
for every term whose binder depth fits `u32` and whose indices fit `usize` (64 bit).

`LC/Proofs/DisplayArith.lean` is a checked model of these functions: `+` on `u8`/`u32`/`u128` and
`-` return `none` when the result does not fit, `as u8` / `as u128` reduce modulo `2^8` / `2^128`,
`from_utf8(..).expect` is `none` unless the buffer is all ASCII.  The model
(`LC/Model/Display.lean`) computes over `Nat`.

`impl Debug` (`show_precedence_dbr`) contains no operation of these kinds.
-/
import LC.Proofs.DisplayArith

namespace LC
open Term Display DisplayChk

/-- C10, one round of the loop of `base26_encode` (`n > 0`): `(n % 26) as u8` does not truncate,
the digit `m` is in `1..=26`, `m + b'a'` does not overflow `u8`, `… - 1` does not underflow and is a
lower-case ASCII letter, `n - 1` does not underflow, and the loop variable decreases -/
theorem C10_display_arith_byte (n : Nat) (h : n ≠ 0) :
    (n % 26) % 2 ^ 8 = n % 26 ∧
    (let m := if n % 26 = 0 then 26 else n % 26
     1 ≤ m ∧ m ≤ 26 ∧ m + 97 < 2 ^ 8 ∧ 1 ≤ m + 97 ∧ 97 ≤ m + 97 - 1 ∧ m + 97 - 1 ≤ 122) ∧
    1 ≤ n ∧ (n - 1) / 26 < n := by
  refine ⟨by omega, ?_, by omega, by omega⟩
  by_cases h0 : n % 26 = 0
  · simp [h0]
  · simp only [if_neg h0]; omega

example : (702 % 26) % 2 ^ 8 = 0 ∧ (701 % 26) % 2 ^ 8 = 25 := by decide

/-- C10, every byte pushed by `base26_encode` is in `97..=122` (`b'a'..=b'z'`), for every `n`; in
particular the buffer is ASCII, hence valid UTF-8: `String::from_utf8(buf).expect(..)` cannot fail -/
theorem C10_display_arith_bytes (n : Nat) : ∀ c ∈ base26 n, 97 ≤ c ∧ c ≤ 122 ∧ c < 128 := by
  intro c hc
  have := base26_range n c hc
  omega

example : base26 18277 = [122, 122, 122] := by decide +kernel

/-- C10, `base26_encode(n)` with every operation checked: for `n < u128::MAX` nothing overflows,
underflows or truncates, the UTF-8 check passes, and the result is the model's `base26 n` -/
theorem C10_display_arith_base26 (n : Nat) (h : n + 1 < 2 ^ 128) :
    base26Chk n = some (base26 n) :=
  base26Chk_eq n h

example : base26Chk 702 = some [97, 97, 97] := by decide +kernel
/-- `n += 1` is a real check: it overflows for `n = u128::MAX` -/
example : base26Chk (2 ^ 128 - 1) = none := base26Chk_overflow

/-- C10, the name ordinal computed by `show_precedence_cla` for `Var(i)`, `i ≥ 1`, in `u128`: with
`i < 2^64` (a `usize`), `depth ≤ max_depth < 2^32`: a bound variable (`i ≤ depth`) gives `depth - i`,
no underflow; a free one (`i > depth`) gives `max_depth + i - depth - 1` where the sum does not
overflow and neither subtraction underflows; either ordinal is `< u128::MAX`, so `n += 1` in
`base26_encode` does not overflow -/
theorem C10_display_arith_index (i depth md : Nat) (h1 : 1 ≤ i) (hi : i < 2 ^ 64)
    (hd : depth ≤ md) (hmd : md < 2 ^ 32) :
    i % 2 ^ 128 = i ∧
    (i ≤ depth → depth - i + 1 < 2 ^ 128) ∧
    (depth < i → md + i < 2 ^ 128 ∧ depth ≤ md + i ∧ 1 ≤ md + i - depth ∧
      md + i - depth - 1 + 1 < 2 ^ 128) := by
  refine ⟨by omega, fun _ => by omega, fun _ => ⟨by omega, by omega, by omega, by omega⟩⟩

/-- C10, `show_precedence_cla(t, ctx, max_depth, depth)` with every operation checked: whenever
`depth + (binder depth of t) ≤ max_depth < 2^32` — the invariant of the recursion, so `depth + 1`
never overflows `u32` — and all indices are `< 2^64`, the result is the model's `showCla` -/
theorem C10_display_arith_show (lam md : Nat) (hmd : md < 2 ^ 32) (t : Term) (ctx depth : Nat)
    (hd : depth + t.maxDepth ≤ md) (hi : idxLt (2 ^ 64) t) :
    showClaChk lam md t ctx depth = some (showCla lam md t ctx depth) :=
  showClaChk_eq lam md hmd t ctx depth hd hi

/-- C10, `max_depth()`: the `+ 1` on `u32` overflows exactly when the binder depth reaches `2^32` -/
theorem C10_display_arith_max_depth (t : Term) :
    maxDepthChk t = if t.maxDepth < 2 ^ 32 then some t.maxDepth else none :=
  maxDepthChk_eq t

/-- C10, `impl Display for Term` with every arithmetic operation checked: for every term of binder
depth `< 2^32` with indices `< 2^64`, and either glyph, nothing overflows, underflows or truncates,
`from_utf8(..).expect` succeeds, and the string is the model's `display` -/
theorem C10_display_arith_total (lam : Nat) (t : Term) (hd : t.maxDepth < 2 ^ 32)
    (hi : idxLt (2 ^ 64) t) : displayChk lam t = some (display lam t) := by
  have hd' : t.maxDepth < U32 := hd
  unfold displayChk display
  rw [maxDepthChk_eq, if_pos hd']
  exact showClaChk_eq lam _ hd t 0 0 (by omega) hi

example : displayChk 955 (abs (abs (app (app (var 2) (var 1)) (var 3))))
    = some [955, 97, 46, 955, 98, 46, 97, 32, 98, 32, 99] := by decide +kernel
example : idxLt (2 ^ 64) (abs (app (var 1) (var 18446744073709551615))) := by simp [idxLt]
/-- the largest index a 64-bit `usize` can hold, free at depth 1: `2^64 - 1` in bijective base 26 -/
example : displayChk 92 (abs (var 18446744073709551615))
    = some ([92, 97, 46] ++ base26 18446744073709551614) := by
  rw [C10_display_arith_total 92 _ (by decide) (by simp [idxLt])]; decide +kernel

/-- C10, the hypothesis on the binder depth is needed: with `2^32` or more nested abstractions
`max_depth()` overflows its `u32` (a panic in a debug build; such a term occupies ≥ 64 GiB and the
recursive `max_depth` exhausts the stack first) -/
theorem C10_display_arith_deep (lam : Nat) (t : Term) (hd : 2 ^ 32 ≤ t.maxDepth) :
    displayChk lam t = none := by
  have hd' : ¬ t.maxDepth < U32 := Nat.not_lt.2 hd
  unfold displayChk
  rw [maxDepthChk_eq, if_neg hd']

end LC
