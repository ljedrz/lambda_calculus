/-
C15 — Signed-number operations implement integer arithmetic on numeral pairs

"For each supported encoding (Church, Scott, Parigot, Stump-Fu) and all pairs of numerals (p, n) -
representing p - n, whether or not already simplified - simplify yields the canonical pair with at
least one zero component, modulus the absolute value, neg the swapped pair, to_signed the pair
(x, zero), and add, sub and mul the canonical pair of the integer sum, difference and product,
under NOR and HNO."

`Proofs/Num/Signed.lean` proves the seven operations ONCE against an abstract encoding interface
(`NumEnc`: is_zero, pred, add, mul with their C13/C14 laws); the generated constants
`Gen.Signed.*_E` are tied to the interface-parametrised bodies by 25 kernel-checked equalities, so
a change of a Rust definition breaks the tie.  Here the interface is instantiated four times and
lifted to the reducer: `Computes t n` (Proofs/Layer2.lean) contains convergence `t ↠ n`, normality
of `n`, and that `reduce NOR 0` and `reduce HNO 0` RETURN exactly `n` (C07) — for ALL p n p₁ n₁ p₂
n₂ : Nat, canonical or not.  The canonical pair `canonOf enc z` is exactly the Rust
`into_signed` (`canonOf_intoNum`, C12).  Nothing is stated for the eager orders: the property claims NOR and HNO only.
-/
import LC.Proofs.Layer2
import LC.Proofs.Num.Signed
import LC.Proofs.Num.ScottParigot
import LC.Proofs.Eager.StumpFu

namespace LC
open Term Spec Enc SignedP

/-- the seven C15 statements of one encoding, lifted to the reducer: `SignedP.SignedOK` with `Computes t n` in place of
`t ↠ n` (`C15.lift`) -/
structure SignedComputes (enc : Nat → Term) (toSigned simplify modulus add sub mul : Term) : Prop where
  simplify : ∀ p n : Nat, Computes (app simplify (tuple2 (enc p) (enc n))) (canonOf enc ((p : Int) - n))
  modulus : ∀ p n : Nat, Computes (app modulus (tuple2 (enc p) (enc n))) (enc ((p : Int) - n).natAbs)
  neg : ∀ p n : Nat, Computes (app Gen.Signed.neg (tuple2 (enc p) (enc n))) (tuple2 (enc n) (enc p))
  to_signed : ∀ x : Nat, Computes (app toSigned (enc x)) (tuple2 (enc x) (enc 0))
  add : ∀ p₁ n₁ p₂ n₂ : Nat, Computes (app2 add (tuple2 (enc p₁) (enc n₁)) (tuple2 (enc p₂) (enc n₂)))
    (canonOf enc (((p₁ : Int) - n₁) + ((p₂ : Int) - n₂)))
  sub : ∀ p₁ n₁ p₂ n₂ : Nat, Computes (app2 sub (tuple2 (enc p₁) (enc n₁)) (tuple2 (enc p₂) (enc n₂)))
    (canonOf enc (((p₁ : Int) - n₁) - ((p₂ : Int) - n₂)))
  mul : ∀ p₁ n₁ p₂ n₂ : Nat, Computes (app2 mul (tuple2 (enc p₁) (enc n₁)) (tuple2 (enc p₂) (enc n₂)))
    (canonOf enc (((p₁ : Int) - n₁) * ((p₂ : Int) - n₂)))

namespace C15
theorem normal_canonOf {enc : Nat → Term} (hn : ∀ k, isNormal (enc k) = true) (z : Int) :
    isNormal (canonOf enc z) = true := by
  unfold canonOf; split <;> exact normal_tuple2 (hn _) (hn _)

theorem lift {enc : Nat → Term} {ts si mo ad su mu : Term} (h : SignedOK enc ts si mo ad su mu)
    (hn : ∀ k, isNormal (enc k) = true) : SignedComputes enc ts si mo ad su mu where
  simplify p n := computes_of_star (h.simplify p n) (normal_canonOf hn _)
  modulus p n := computes_of_star (h.modulus p n) (hn _)
  neg p n := computes_of_star (h.neg p n) (normal_tuple2 (hn _) (hn _))
  to_signed x := computes_of_star (h.to_signed x) (normal_tuple2 (hn _) (hn _))
  add p₁ n₁ p₂ n₂ := computes_of_star (h.add p₁ n₁ p₂ n₂) (normal_canonOf hn _)
  sub p₁ n₁ p₂ n₂ := computes_of_star (h.sub p₁ n₁ p₂ n₂) (normal_canonOf hn _)
  mul p₁ n₁ p₂ n₂ := computes_of_star (h.mul p₁ n₁ p₂ n₂) (normal_canonOf hn _)
end C15

/-! ### the four encodings as instances of the interface

The laws of `is_zero`, `pred`, `add`, `mul` are read off the HAP derivations of C13/C14 (`Ev.star`); Scott `add` and
`mul`, which do not terminate under HAP, have their own convergence proofs. -/

namespace C15

def churchEnc : NumEnc where
  enc := intoChurch
  isZero := Gen.Church.is_zero
  pred := Gen.Church.pred
  add := Gen.Church.add
  mul := Gen.Church.mul
  closed_enc := closed_intoChurch
  closed_isZero := by decide
  closed_pred := by decide
  closed_add := by decide
  closed_mul := by decide
  isZero_ok n := (church_is_zero_hap n).star
  pred_ok n := (church_pred_hap n).star
  add_ok m n := (church_add_hap m n).star
  mul_ok m n := (church_mul_hap m n).star

def scottEnc : NumEnc where
  enc := intoScott
  isZero := Gen.Scott.is_zero
  pred := Gen.Scott.pred
  add := Gen.Scott.add
  mul := Gen.Scott.mul
  closed_enc := closed_intoScott
  closed_isZero := by decide
  closed_pred := by decide
  closed_add := by decide
  closed_mul := by decide
  isZero_ok n := (scott_is_zero_hap n).star
  pred_ok n := (scott_pred_hap n).star
  add_ok := scott_add_correct
  mul_ok := scott_mul_correct

def parigotEnc : NumEnc where
  enc := intoParigot
  isZero := Gen.Parigot.is_zero
  pred := Gen.Parigot.pred
  add := Gen.Parigot.add
  mul := Gen.Parigot.mul
  closed_enc := closed_intoParigot
  closed_isZero := by decide
  closed_pred := by decide
  closed_add := by decide
  closed_mul := by decide
  isZero_ok n := (parigot_is_zero_hap n).star
  pred_ok n := (parigot_pred_hap n).star
  add_ok m n := (parigot_add_hap m n).star
  mul_ok m n := (parigot_mul_hap m n).star

def stumpfuEnc : NumEnc where
  enc := intoStumpFu
  isZero := Gen.StumpFu.is_zero
  pred := Gen.StumpFu.pred
  add := Gen.StumpFu.add
  mul := Gen.StumpFu.mul
  closed_enc := closed_intoStumpFu
  closed_isZero := by decide
  closed_pred := by decide
  closed_add := by decide
  closed_mul := by decide
  isZero_ok n := (stumpfu_is_zero_hap n).star
  pred_ok n := (stumpfu_pred_hap n).star
  add_ok m n := (stumpfu_add_hap m n).star
  mul_ok m n := (stumpfu_mul_hap m n).star

end C15

/- Each generated constant is the generic operation of `Proofs/Num/Signed.lean` at the module's `is_zero`, `pred`, `add`,
`mul` and `zero()` (the `…_eq` lemmas, by evaluation); the last rewriting turns `zero()` into `enc 0`, which is how
`signedOK` has it. -/
theorem C15_church : SignedComputes intoChurch Gen.Signed.to_signed_church Gen.Signed.simplify_church
    Gen.Signed.modulus_church Gen.Signed.add_church Gen.Signed.sub_church Gen.Signed.mul_church := by
  rw [to_signed_church_eq, simplify_church_eq, modulus_church_eq, add_church_eq, sub_church_eq, mul_church_eq,
    church_zero_eq]
  exact C15.lift (signedOK C15.churchEnc) C12_normal_church

theorem C15_scott : SignedComputes intoScott Gen.Signed.to_signed_scott Gen.Signed.simplify_scott
    Gen.Signed.modulus_scott Gen.Signed.add_scott Gen.Signed.sub_scott Gen.Signed.mul_scott := by
  rw [to_signed_scott_eq, simplify_scott_eq, modulus_scott_eq, add_scott_eq, sub_scott_eq, mul_scott_eq,
    scott_zero_eq]
  exact C15.lift (signedOK C15.scottEnc) C12_normal_scott

theorem C15_parigot : SignedComputes intoParigot Gen.Signed.to_signed_parigot Gen.Signed.simplify_parigot
    Gen.Signed.modulus_parigot Gen.Signed.add_parigot Gen.Signed.sub_parigot Gen.Signed.mul_parigot := by
  rw [to_signed_parigot_eq, simplify_parigot_eq, modulus_parigot_eq, add_parigot_eq, sub_parigot_eq, mul_parigot_eq,
    parigot_zero_eq]
  exact C15.lift (signedOK C15.parigotEnc) C12_normal_parigot

theorem C15_stumpfu : SignedComputes intoStumpFu Gen.Signed.to_signed_stumpfu Gen.Signed.simplify_stumpfu
    Gen.Signed.modulus_stumpfu Gen.Signed.add_stumpfu Gen.Signed.sub_stumpfu Gen.Signed.mul_stumpfu := by
  rw [to_signed_stumpfu_eq, simplify_stumpfu_eq, modulus_stumpfu_eq, add_stumpfu_eq, sub_stumpfu_eq, mul_stumpfu_eq,
    stumpfu_zero_eq]
  exact C15.lift (signedOK C15.stumpfuEnc) C12_normal_stumpfu

/-- the canonical pair is exactly what the Rust `into_signed` builds (for every supported encoding) -/
theorem C15_canonical_is_into_signed (e : Encoding) (z : Int) : canonOf (intoNum e) z = intoSigned e z :=
  canonOf_intoNum e z

/-- "canonical": one of the two components is the numeral of zero -/
theorem C15_canonical_has_zero (enc : Nat → Term) (z : Int) :
    (∃ k, canonOf enc z = tuple2 (enc k) (enc 0)) ∨ (∃ k, canonOf enc z = tuple2 (enc 0) (enc k)) := by
  unfold canonOf; split
  · exact Or.inl ⟨_, rfl⟩
  · exact Or.inr ⟨_, rfl⟩

/-! non-vacuity: a non-canonical Scott product, (2,1) * (0,3) = -3, under HNO -/
example : ∃ fuel c, reduce .HNO 0 fuel
    (app2 Gen.Signed.mul_scott (tuple2 (intoScott 2) (intoScott 1)) (tuple2 (intoScott 0) (intoScott 3)))
    = some (intoSigned .Scott (-3), c) := by
  have h := (C15_scott.mul 2 1 0 3).hno
  rw [canonOf_scott] at h
  exact h

end LC
