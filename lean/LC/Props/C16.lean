/-
C16 — List operations agree with sequence semantics in all four list encodings: HAP, unbounded, on lists of numerals.

The property text, layers 1 and 2 (`Computes`: convergence for ALL lists, termination of NOR and HNO, uniqueness of
the result under every normalising order) and the laws for arbitrary payload terms are in LC/Props/C16Base.lean, the small
HAP cross-check grids in LC/Props/C16Grid.lean.  THIS file adds the third order the property names, **HAP, unbounded**: for
lists of ANY length,
`reduce .HAP 0` (hybrid applicative order, no step limit) RETURNS the expected encoding — for the observers and
conversions of all four list encodings and for every pair-list library function (with the Church operations of C13 as
the function arguments of the higher-order ones).  Proofs: big-step eager semantics `Ev .HAP` (Proofs/Eager/BigStep.lean,
adequate for the model reducer: `Ev.reduce`), one derivation per function by induction on the list — the observers
and conversions of the Church and Parigot lists in Proofs/Eager/ListA.lean, those of the pair and Scott lists in
Proofs/List/MoreHap.lean (the four encodings as instances of `ListEnc.Hap`), the first-order library functions in Proofs/List/MoreHapLib.lean (for lists of
arbitrary admissible elements), the higher-order ones in Proofs/List/HigherHap.lean (for arbitrary function arguments) and
Proofs/Eager/ListB.lean (the Church operations as arguments).  The theorems below are the instances for numerals: Church numerals in the pair and Church lists and throughout the
library, Scott numerals in the Scott lists, Parigot numerals in the Parigot lists.
-/
import LC.Props.C16Base
import LC.Proofs.Eager.ListB

namespace LC
open Term Spec Enc C16

/-! ## HAP terminates with the right result, for ALL lists -/

theorem C16_is_nil_pairList_hap (ns : List Nat) :
    ∃ fuel c, reduce .HAP 0 fuel (app Gen.PList.is_nil (cl ns)) =
      some (fromBool ns.isEmpty, c) := by
  have h := (pairListEnc_hap.isNil (forall_map hapValue_church ns)).reduce
  rwa [List.isEmpty_map] at h

theorem C16_head_pairList_hap (n : Nat) (ns : List Nat) :
    ∃ fuel c, reduce .HAP 0 fuel (app Gen.PList.head (cl (n :: ns))) =
      some (intoChurch n, c) :=
  (pairListEnc_hap.head (forall_map hapValue_church (n :: ns))).reduce

theorem C16_tail_pairList_hap (n : Nat) (ns : List Nat) :
    ∃ fuel c, reduce .HAP 0 fuel (app Gen.PList.tail (cl (n :: ns))) =
      some (cl ns, c) :=
  (pairListEnc_hap.tail (forall_map hapValue_church (n :: ns))).reduce

theorem C16_is_nil_churchList_hap (ns : List Nat) :
    ∃ fuel c, reduce .HAP 0 fuel (app Gen.CList.is_nil (churchList (ns.map intoChurch))) =
      some (fromBool ns.isEmpty, c) := by
  have h := (churchListEnc_hap.isNil (forall_map hapValue_church ns)).reduce
  rwa [List.isEmpty_map] at h

theorem C16_head_churchList_hap (n : Nat) (ns : List Nat) :
    ∃ fuel c, reduce .HAP 0 fuel (app Gen.CList.head (churchList ((n :: ns).map intoChurch))) =
      some (intoChurch n, c) :=
  (churchListEnc_hap.head (forall_map hapValue_church (n :: ns))).reduce

theorem C16_tail_churchList_hap (n : Nat) (ns : List Nat) :
    ∃ fuel c, reduce .HAP 0 fuel (app Gen.CList.tail (churchList ((n :: ns).map intoChurch))) =
      some (churchList (ns.map intoChurch), c) :=
  (churchListEnc_hap.tail (forall_map hapValue_church (n :: ns))).reduce

theorem C16_is_nil_scottList_hap (ns : List Nat) :
    ∃ fuel c, reduce .HAP 0 fuel (app Gen.SList.is_nil (scottList (ns.map intoScott))) =
      some (fromBool ns.isEmpty, c) := by
  have h := (scottListEnc_hap.isNil (forall_map hapValue_scott ns)).reduce
  rwa [List.isEmpty_map] at h

theorem C16_head_scottList_hap (n : Nat) (ns : List Nat) :
    ∃ fuel c, reduce .HAP 0 fuel (app Gen.SList.head (scottList ((n :: ns).map intoScott))) =
      some (intoScott n, c) :=
  (scottListEnc_hap.head (forall_map hapValue_scott (n :: ns))).reduce

theorem C16_tail_scottList_hap (n : Nat) (ns : List Nat) :
    ∃ fuel c, reduce .HAP 0 fuel (app Gen.SList.tail (scottList ((n :: ns).map intoScott))) =
      some (scottList (ns.map intoScott), c) :=
  (scottListEnc_hap.tail (forall_map hapValue_scott (n :: ns))).reduce

theorem C16_is_nil_parigotList_hap (ns : List Nat) :
    ∃ fuel c, reduce .HAP 0 fuel (app Gen.GList.is_nil (parigotList (ns.map intoParigot))) =
      some (fromBool ns.isEmpty, c) := by
  have h := (parigotListEnc_hap.isNil (forall_map hapValue_parigot ns)).reduce
  rwa [List.isEmpty_map] at h

theorem C16_head_parigotList_hap (n : Nat) (ns : List Nat) :
    ∃ fuel c, reduce .HAP 0 fuel (app Gen.GList.head (parigotList ((n :: ns).map intoParigot))) =
      some (intoParigot n, c) :=
  (parigotListEnc_hap.head (forall_map hapValue_parigot (n :: ns))).reduce

theorem C16_tail_parigotList_hap (n : Nat) (ns : List Nat) :
    ∃ fuel c, reduce .HAP 0 fuel (app Gen.GList.tail (parigotList ((n :: ns).map intoParigot))) =
      some (parigotList (ns.map intoParigot), c) :=
  (parigotListEnc_hap.tail (forall_map hapValue_parigot (n :: ns))).reduce

theorem C16_conv_is_cons_pair_hap (ns : List Nat) :
    ∃ fuel c, reduce .HAP 0 fuel (ns.foldr (fun n acc => app2 Gen.PList.cons (intoChurch n) acc) Gen.PList.nil) =
      some (cl ns, c) := by
  have h := (pairListEnc_hap.conv_is_cons (forall_map hapValue_church ns)).reduce
  rwa [foldr_map_cons] at h

theorem C16_conv_is_cons_church_hap (ns : List Nat) :
    ∃ fuel c, reduce .HAP 0 fuel (ns.foldr (fun n acc => app2 Gen.CList.cons (intoChurch n) acc) Gen.CList.nil) =
      some (churchList (ns.map intoChurch), c) := by
  have h := (churchListEnc_hap.conv_is_cons (forall_map hapValue_church ns)).reduce
  rwa [foldr_map_cons] at h

theorem C16_conv_is_cons_scott_hap (ns : List Nat) :
    ∃ fuel c, reduce .HAP 0 fuel (ns.foldr (fun n acc => app2 Gen.SList.cons (intoScott n) acc) Gen.SList.nil) =
      some (scottList (ns.map intoScott), c) := by
  have h := (scottListEnc_hap.conv_is_cons (forall_map hapValue_scott ns)).reduce
  rwa [foldr_map_cons] at h

theorem C16_conv_is_cons_parigot_hap (ns : List Nat) :
    ∃ fuel c, reduce .HAP 0 fuel (ns.foldr (fun n acc => app2 Gen.GList.cons (intoParigot n) acc) Gen.GList.nil) =
      some (parigotList (ns.map intoParigot), c) := by
  have h := (parigotListEnc_hap.conv_is_cons (forall_map hapValue_parigot ns)).reduce
  rwa [foldr_map_cons] at h

theorem C16_length_hap (ns : List Nat) :
    ∃ fuel c, reduce .HAP 0 fuel (app Gen.PList.length (cl ns)) =
      some (intoChurch ns.length, c) := by
  have h := (plist_length_hap_values _ (forall_map hapValue_church ns)).reduce
  rwa [List.length_map] at h

theorem C16_reverse_hap (ns : List Nat) :
    ∃ fuel c, reduce .HAP 0 fuel (app Gen.PList.reverse (cl ns)) =
      some (cl ns.reverse, c) := by
  have h := (plist_reverse_hap_values _ (forall_map hapValue_church ns)).reduce
  rwa [← List.map_reverse] at h

theorem C16_append_hap (ms ns : List Nat) :
    ∃ fuel c, reduce .HAP 0 fuel (app2 Gen.PList.append (cl ms) (cl ns)) =
      some (cl (ms ++ ns), c) := by
  have h := (plist_append_hap_values _ _ (forall_map hapValue_church ms) (forall_map hapValue_church ns)).reduce
  rwa [← List.map_append] at h

theorem C16_index_hap (ns : List Nat) (i : Nat) (h : i < ns.length) :
    ∃ fuel c, reduce .HAP 0 fuel (app2 Gen.PList.index (intoChurch i) (cl ns)) =
      some (intoChurch ns[i], c) := by
  have h := (plist_index_hap_values _ (forall_map hapValue_church ns) i (by simpa using h)).reduce
  rwa [List.getElem_map] at h

theorem C16_last_hap (ns : List Nat) (h : ns ≠ []) :
    ∃ fuel c, reduce .HAP 0 fuel (app Gen.PList.last (cl ns)) =
      some (intoChurch (ns.getLast h), c) := by
  have h := (plist_last_hap_values _ (forall_map hapValue_church ns) (by simpa using h)).reduce
  rwa [List.getLast_map] at h

-- the hypothesis `h` is not needed: the derivation holds for every list (`C16_init_nil_hap` is the case it excludes)
set_option linter.unusedVariables false in
theorem C16_init_hap (ns : List Nat) (h : ns ≠ []) :
    ∃ fuel c, reduce .HAP 0 fuel (app Gen.PList.init (cl ns)) =
      some (cl ns.dropLast, c) := by
  have h := (plist_init_hap_values _ (forall_map hapValue_church ns)).reduce
  rwa [← List.map_dropLast] at h

/-- `init []` under HAP: the same derivation at the empty list -/
theorem C16_init_nil_hap : ∃ fuel c, reduce .HAP 0 fuel (app Gen.PList.init (cl [])) = some (cl [], c) :=
  (plist_init_hap_values [] (by simp)).reduce

/-! The higher-order functions with `SUCC`, `IS_ZERO`, `ADD`, `SUB`: in operator position these return CLOSURES, not
numerals.  The instantiations below say which closures stand for which number: the invariants `EagerListB.ANum` (for
`SUCC`, `ADD`) and `Eager.ONum` (for `SUB`), explained at `ANum` in `LC/Proofs/Eager/ListB.lean`; `junkOK_sub` there is what
`zip_with SUB` needs on the junk heads. -/

theorem C16_map_succ_hap (ns : List Nat) :
    ∃ fuel c, reduce .HAP 0 fuel (app2 Gen.PList.map Gen.Church.succ (cl ns)) = some (cl (ns.map (· + 1)), c) := by
  have := HigherHap.plist_map_hap_fn (f := Gen.Church.succ) (by decide) rfl intoChurch (fun n => intoChurch (n + 1)) ns
    (fun a _ => hapValue_church a)
    (fun a _ => .of_ev (EagerListB.cbv_succ_anum (EagerListB.anum_intoChurch a)).1
      (EagerListB.cbv_succ_anum (EagerListB.anum_intoChurch a)).2.hap)
  simp only [cl, List.map_map]
  exact this.reduce

theorem C16_foldl_add_hap (s : Nat) (ns : List Nat) :
    ∃ fuel c, reduce .HAP 0 fuel (app3 Gen.PList.foldl Gen.Church.add (intoChurch s) (cl ns)) =
      some (intoChurch (ns.foldl (· + ·) s), c) :=
  (HigherHap.plist_foldl_hap_inv (f := Gen.Church.add) (by decide) rfl (closed_intoChurch s) rfl intoChurch intoChurch
    (· + ·) EagerListB.ANum ns s (fun a _ => hapValue_church a) (fun _ _ h => h.hap) (EagerListB.anum_intoChurch s)
    (fun _ _ a _ h => ⟨_, EagerListB.cbv_add_anum h (Eager.onum_intoChurch a), EagerListB.anum_addCv h a⟩)).reduce

theorem C16_foldr_add_hap (a : Nat) (ns : List Nat) :
    ∃ fuel c, reduce .HAP 0 fuel (app3 Gen.PList.foldr Gen.Church.add (intoChurch a) (cl ns)) =
      some (intoChurch (ns.foldr (· + ·) a), c) :=
  (plist_foldr_hap_nums (by decide) rfl (· + ·) church_add_hap a ns).reduce

theorem C16_foldl_sub_hap (s : Nat) (ns : List Nat) :
    ∃ fuel c, reduce .HAP 0 fuel (app3 Gen.PList.foldl Gen.Church.sub (intoChurch s) (cl ns)) =
      some (intoChurch (ns.foldl (· - ·) s), c) :=
  (HigherHap.plist_foldl_hap_inv (f := Gen.Church.sub) (by decide) rfl (closed_intoChurch s) rfl intoChurch intoChurch
    (· - ·) Eager.ONum ns s (fun a _ => hapValue_church a) (fun _ _ h => h.hap) (Eager.onum_intoChurch s)
    (fun v j a _ h => ⟨Eager.subCv v a, Eager.cbv_sub_onum h (Eager.onum_intoChurch a),
      Eager.onum_subCv h a⟩)).reduce

theorem C16_foldr_sub_hap (a : Nat) (ns : List Nat) :
    ∃ fuel c, reduce .HAP 0 fuel (app3 Gen.PList.foldr Gen.Church.sub (intoChurch a) (cl ns)) =
      some (intoChurch (ns.foldr (· - ·) a), c) :=
  (plist_foldr_hap_nums (by decide) rfl (· - ·) church_sub_hap a ns).reduce

theorem C16_filter_is_zero_hap (ns : List Nat) :
    ∃ fuel c, reduce .HAP 0 fuel (app2 Gen.PList.filter Gen.Church.is_zero (cl ns)) =
      some (cl (ns.filter (· == 0)), c) :=
  (HigherHap.plist_filter_hap_fn (by decide) rfl intoChurch (· == 0) ns (fun a _ => hapValue_church a) (is_zero_nums ns)).reduce

theorem C16_take_while_is_zero_hap (ns : List Nat) :
    ∃ fuel c, reduce .HAP 0 fuel (app2 Gen.PList.take_while Gen.Church.is_zero (cl ns)) =
      some (cl (ns.takeWhile (· == 0)), c) :=
  (HigherHap.plist_take_while_hap_fn (by decide) rfl intoChurch (· == 0) ns (fun a _ => hapValue_church a) (is_zero_nums ns)).reduce

theorem C16_drop_while_is_zero_hap (ns : List Nat) :
    ∃ fuel c, reduce .HAP 0 fuel (app2 Gen.PList.drop_while Gen.Church.is_zero (cl ns)) =
      some (cl (ns.dropWhile (· == 0)), c) :=
  (HigherHap.plist_drop_while_hap_fn (by decide) rfl intoChurch (· == 0) ns (fun a _ => hapValue_church a) (is_zero_nums ns)).reduce

theorem C16_zip_hap (ms ns : List Nat) :
    ∃ fuel c, reduce .HAP 0 fuel (app2 Gen.PList.zip (cl ms) (cl ns)) =
      some (pairList ((ms.zip ns).map (fun p => tuple2 (intoChurch p.1) (intoChurch p.2))), c) := by
  have h := (plist_zip_hap_values _ _ (forall_map hapValue_church ms) (forall_map hapValue_church ns)).reduce
  rwa [List.zip_map, List.map_map] at h

theorem C16_zip_with_sub_hap (ms ns : List Nat) :
    ∃ fuel c, reduce .HAP 0 fuel (app3 Gen.PList.zip_with Gen.Church.sub (cl ms) (cl ns)) =
      some (cl ((ms.zip ns).map (fun p => p.1 - p.2)), c) := by
  have := HigherHap.plist_zip_with_hap_fn (f := Gen.Church.sub) (by decide) rfl intoChurch intoChurch
    (fun m n => intoChurch (m - n)) ms ns (fun a _ => hapValue_church a) (fun a _ => hapValue_church a)
    (fun p _ => .of_ev (Eager.church_sub_cbv p.1 p.2) (Eager.onum_subCv (Eager.onum_intoChurch p.1) p.2).hap)
    (fun m _ => junkOK_sub m)
  simp only [cl, List.map_map]
  exact this.reduce

theorem C16_take_hap (k : Nat) (ns : List Nat) :
    ∃ fuel c, reduce .HAP 0 fuel (app2 Gen.PList.take (intoChurch k) (cl ns)) = some (cl (ns.take k), c) := by
  have h := (plist_take_hap_values k _ (forall_map hapValue_church ns)).reduce
  rwa [← List.map_take] at h

theorem C16_drop_hap (k : Nat) (ns : List Nat) :
    ∃ fuel c, reduce .HAP 0 fuel (app2 Gen.PList.drop (intoChurch k) (cl ns)) = some (cl (ns.drop k), c) := by
  have h := (plist_drop_hap_values k _ (forall_map hapValue_church ns)).reduce
  rwa [← List.map_drop] at h

theorem C16_replicate_hap (k y : Nat) :
    ∃ fuel c, reduce .HAP 0 fuel (app2 Gen.PList.replicate (intoChurch k) (intoChurch y)) =
      some (cl (List.replicate k y), c) := by
  have h := (plist_replicate_hap_values k _ (hapValue_church y)).reduce
  rwa [← List.map_replicate] at h

theorem C16_list_hap (ns : List Nat) :
    ∃ fuel c, reduce .HAP 0 fuel ((ns.map intoChurch).foldl app (app Gen.PList.list (intoChurch ns.length))) =
      some (cl ns, c) := by
  have h := (plist_list_hap_values _ (forall_map hapValue_church ns)).reduce
  rwa [List.length_map] at h


/-! non-vacuity: a concrete instance (a three-element list) -/
example : ∃ fuel c, reduce .HAP 0 fuel (app Gen.PList.reverse (cl [1, 2, 3])) = some (cl [3, 2, 1], c) :=
  C16_reverse_hap [1, 2, 3]
example : ∃ fuel c, reduce .HAP 0 fuel (app3 Gen.PList.foldl Gen.Church.add (intoChurch 0) (cl [1, 2, 3])) =
    some (intoChurch 6, c) := C16_foldl_add_hap 0 [1, 2, 3]

end LC
