/-
C14 (exact form) — the binary operations return CANONICAL numerals wherever the documentation does not allow
leading zeroes

C14 compares binary results "after strip where the docs allow leading zeroes".  The documentation
(`/repo/src/data/num/binary.rs`) speaks of leading zeroes at `pred` only: "inputs that are powers of number 2 or return them
may produce leading zeroes"; `shl0` of zero, on which it is silent, has one as well.
`C14_binary_pred` / `C14_binary_shl0` in `LC/Props/C14.lean` are stated after `strip` for ALL arguments, so they hold
as well of an operation that puts a leading zero on the remaining arguments.  This file states the results before `strip`:

* raw `shl0 n` is exactly the encoding of `2 * n` for every `n ≠ 0`;
* raw `pred n` is exactly the encoding of `n - 1` for every `n ≠ 0` that is not a power of two (also where `n - 1` is one,
  which the documentation would let off);
* `strip` is the identity on canonical numerals;

each as `Computes` (convergence, NOR/HNO termination with that result, any normalising order that returns returns it) and,
for all admissible arguments, as `reduce HAP 0` / `reduce APP 0` results (the layers of Proofs/Layer2.lean).  The side
conditions are sharp: raw `pred (2 ^ k)` is NOT the canonical numeral of `2 ^ k - 1` for any `k`, raw `shl0 0` is not the
canonical zero (instances decided by the kernel and general statements below).
-/
import LC.Props.C14
import LC.Proofs.Num.BinaryExact

namespace LC
open Term Spec Enc StumpFuBinary

/-! ### layers 1 and 2: for all admissible arguments -/

/-- raw `shl0` of a positive numeral: no `strip` needed -/
theorem C14_binary_shl0_exact (n : Nat) (h : n ≠ 0) :
    Computes (app Gen.Binary.shl0 (intoBinary n)) (intoBinary (2 * n)) :=
  (binary_shl0_exact_hap n h).computes

/-- raw `pred` of a positive numeral that is not a power of two: no `strip` needed -/
theorem C14_binary_pred_exact (n : Nat) (h0 : n ≠ 0) (h2 : ∀ k, n ≠ 2 ^ k) :
    Computes (app Gen.Binary.pred (intoBinary n)) (intoBinary (n - 1)) :=
  (binary_pred_exact_hap n h0 h2).computes

theorem C14_binary_strip_canonical (n : Nat) : Computes (app Gen.Binary.strip (intoBinary n)) (intoBinary n) :=
  (binary_strip_canonical_hap n).computes

/-! ### layer 3: HAP and APP return the exact encoding -/

theorem C14_binary_shl0_exact_hap (n : Nat) (h : n ≠ 0) :
    ∃ fuel c, reduce .HAP 0 fuel (app Gen.Binary.shl0 (intoBinary n)) = some (intoBinary (2 * n), c) :=
  (binary_shl0_exact_hap n h).reduce

theorem C14_binary_shl0_exact_app (n : Nat) (h : n ≠ 0) :
    ∃ fuel c, reduce .APP 0 fuel (app Gen.Binary.shl0 (intoBinary n)) = some (intoBinary (2 * n), c) :=
  (binary_shl0_exact_app n h).reduce

theorem C14_binary_pred_exact_hap (n : Nat) (h0 : n ≠ 0) (h2 : ∀ k, n ≠ 2 ^ k) :
    ∃ fuel c, reduce .HAP 0 fuel (app Gen.Binary.pred (intoBinary n)) = some (intoBinary (n - 1), c) :=
  (binary_pred_exact_hap n h0 h2).reduce

theorem C14_binary_pred_exact_app (n : Nat) (h0 : n ≠ 0) (h2 : ∀ k, n ≠ 2 ^ k) :
    ∃ fuel c, reduce .APP 0 fuel (app Gen.Binary.pred (intoBinary n)) = some (intoBinary (n - 1), c) :=
  (binary_pred_exact_app n h0 h2).reduce

theorem C14_binary_strip_canonical_hap (n : Nat) :
    ∃ fuel c, reduce .HAP 0 fuel (app Gen.Binary.strip (intoBinary n)) = some (intoBinary n, c) :=
  (binary_strip_canonical_hap n).reduce

theorem C14_binary_strip_canonical_app (n : Nat) :
    ∃ fuel c, reduce .APP 0 fuel (app Gen.Binary.strip (intoBinary n)) = some (intoBinary n, c) :=
  (binary_strip_canonical_app n).reduce

/-! ### the side conditions are needed (sharpness) -/

/-- for EVERY power of two the raw predecessor keeps a leading zero: it does not converge to the canonical numeral -/
theorem C14_binary_pred_pow2_not_exact (k : Nat) :
    ¬ Computes (app Gen.Binary.pred (intoBinary (2 ^ k))) (intoBinary (2 ^ k - 1)) :=
  fun h => binary_pred_pow2_not_exact k h.conv

/-- raw `shl0 0` is the one-digit string `0`, not the canonical (empty) zero -/
theorem C14_binary_shl0_zero_not_exact :
    ¬ Computes (app Gen.Binary.shl0 (intoBinary 0)) (intoBinary (2 * 0)) :=
  fun h => shl0_zero_not_canonical h.conv

/-- boundary instance, a statement about the model reducer decided by the kernel (as the grids of
`Props/C13.lean`): raw `pred 4` normalises (NOR, HNO, HAP, APP) to the three-digit string `011` (LSB first
`[1, 1, 0]`), which is a DIFFERENT term than the encoding `11` of 3 -/
theorem C14_binary_pred_four_leading_zero :
    ([Order.NOR, .HNO, .HAP, .APP].all (fun o =>
      Grid.runsTo o FUEL (app Gen.Binary.pred (intoBinary 4)) (binaryBits [true, true, false])) = true) ∧
    binaryBits [true, true, false] ≠ intoBinary 3 := by rw [Grid.runsTo_eq_box]; decide +kernel

/-- the same, read off the reducer: the NOR result of raw `pred 4` is not `intoBinary 3` -/
theorem C14_binary_pred_four_nor :
    ∃ r c, reduce .NOR 0 FUEL (app Gen.Binary.pred (intoBinary 4)) = some (r, c) ∧ r ≠ intoBinary 3 := by
  obtain ⟨h, hne⟩ := C14_binary_pred_four_leading_zero
  have h1 : Grid.runsTo .NOR FUEL (app Gen.Binary.pred (intoBinary 4)) (binaryBits [true, true, false]) = true := by
    simp only [List.all_cons, Bool.and_eq_true] at h; exact h.1
  obtain ⟨c, hc⟩ := Grid.runsTo_spec h1
  exact ⟨_, c, hc, hne⟩

/-- boundary instance: raw `shl0 0` normalises to the one-digit string `0`, a DIFFERENT term than the encoding of 0 -/
theorem C14_binary_shl0_zero_leading_zero :
    ([Order.NOR, .HNO, .HAP, .APP].all (fun o =>
      Grid.runsTo o FUEL (app Gen.Binary.shl0 (intoBinary 0)) (binaryBits [false])) = true) ∧
    binaryBits [false] ≠ intoBinary 0 := by rw [Grid.runsTo_eq_box]; decide +kernel

theorem C14_binary_shl0_zero_nor :
    ∃ r c, reduce .NOR 0 FUEL (app Gen.Binary.shl0 (intoBinary 0)) = some (r, c) ∧ r ≠ intoBinary 0 := by
  obtain ⟨h, hne⟩ := C14_binary_shl0_zero_leading_zero
  have h1 : Grid.runsTo .NOR FUEL (app Gen.Binary.shl0 (intoBinary 0)) (binaryBits [false]) = true := by
    simp only [List.all_cons, Bool.and_eq_true] at h; exact h.1
  obtain ⟨c, hc⟩ := Grid.runsTo_spec h1
  exact ⟨_, c, hc, hne⟩

/-! ### non-vacuity: positive instances, exactly, by kernel evaluation and from the general theorems -/

set_option maxRecDepth 100000 in
example : [Order.NOR, .HNO, .HAP, .APP].all (fun o =>
    Grid.runsTo o FUEL (app Gen.Binary.pred (intoBinary 6)) (intoBinary 5)) = true := by rw [Grid.runsTo_eq_box]; decide +kernel

set_option maxRecDepth 100000 in
example : [Order.NOR, .HNO, .HAP, .APP].all (fun o =>
    Grid.runsTo o FUEL (app Gen.Binary.shl0 (intoBinary 3)) (intoBinary 6)) = true := by rw [Grid.runsTo_eq_box]; decide +kernel

/-- the hypotheses of the general theorems are satisfiable: 6 is positive and not a power of two -/
example : ∃ fuel c, reduce .HAP 0 fuel (app Gen.Binary.pred (intoBinary 6)) = some (intoBinary 5, c) :=
  C14_binary_pred_exact_hap 6 (by decide) (fun k e => by
    have h3 : k < 3 := by
      apply Decidable.byContradiction; intro hk
      have : 2 ^ 3 ≤ 2 ^ k := Nat.pow_le_pow_right (by decide) (by omega)
      omega
    have : k = 0 ∨ k = 1 ∨ k = 2 := by omega
    rcases this with rfl | rfl | rfl <;> simp at e)

example : ∃ fuel c, reduce .NOR 0 fuel (app Gen.Binary.shl0 (intoBinary 3)) = some (intoBinary 6, c) :=
  (C14_binary_shl0_exact 3 (by decide)).nor

/-- cross-check grids: raw `shl0` on 1‥8, raw `pred` on the non-powers of two below 16, under the eager orders -/
theorem C14_grid_binary_shl0_exact : ((List.range 9).filter (· ≠ 0)).all (fun n => (eager false).all (fun o =>
    Grid.runsTo o FUEL (app Gen.Binary.shl0 (intoBinary n)) (intoBinary (2 * n)))) = true := by rw [Grid.runsTo_eq_box]; decide +kernel

theorem C14_grid_binary_pred_exact : [3, 5, 6, 7, 9, 10, 11, 12, 13, 14, 15].all (fun n => (eager false).all (fun o =>
    Grid.runsTo o FUEL (app Gen.Binary.pred (intoBinary n)) (intoBinary (n - 1)))) = true := by rw [Grid.runsTo_eq_box]; decide +kernel

end LC
