/-
C16 — List operations agree with sequence semantics (companion file: the HIGHER-ORDER pair-list functions under HAP for an
ARBITRARY function argument).

C16.lean states that `reduce .HAP 0` (hybrid applicative order, no step limit) returns the expected encoding for
`map filter take_while drop_while foldl foldr zip_with` on lists of any length — for the concrete function arguments
`SUCC`, `IS_ZERO`, `ADD`, `SUB` only.  THIS file states the generic theorems: any function argument `f` (an admissible
value, `C16.HapValue`), lists of arbitrary admissible elements (`pairList (ns.map e)` for a family `e : α → Term`; take
`α = Term`, `e = id` for a plain `List Term`: the `_terms` forms).

The hypotheses are stated with the big-step relations `EvalCbv t w`, `EvalHap t v` (`LC/Proofs/Eager/BigStep.lean`): they say
that `reduce .CBV 0` returns `w`, `reduce .HAP 0` returns `v`, on `t` with some fuel (`EvalHap.reduce`; in both directions
`C16_evalCbv_iff_reduce` at the end of this file, and `Ev.reduce`/`Ev.of_run` for every eager order).

What HAP really does with `f` — and hence the EXACT shape of the hypothesis on `f` — differs from function to function
(derivations in LC/Proofs/List/HigherHap.lean):

* `map`, `zip_with`: the call `f x` stands in a CBV position; it is evaluated by CBV to a WEAK value `w`, and `w` is
  normalised by HAP only when the finished list is.  Hypothesis: `∃ w, EvalCbv (f x) w ∧ EvalHap w (g x)`.
  The literal hypothesis "`f x` evaluates under HAP to `g x`" is NEITHER sufficient (`C16_map_hap_fn_needs_cbv`: `f x`
  HAP-evaluates to `I`, yet `map f [x]` diverges for every fuel) NOR necessary (`C16_map_hap_fn_hap_not_needed`).
* `zip_with` moreover CALLS `f` on the surplus elements of the FIRST list and the junk heads `I`, `TRUE` when the second
  list is shorter (both branches of `IS_NIL b NIL (CONS …)` are evaluated): these calls must terminate (hypothesis `hjk` of `C16_zip_with_hap_fn`), else
  the whole call diverges although the expected result is `NIL` (`C16_zip_with_hap_fn_needs_junk`).
* `filter`, `take_while`, `drop_while`: `p x` is the head of an application, evaluated by CBV; its weak value must be the
  boolean: `EvalCbv (p x) TRUE/FALSE` (`C16_filter_hap_fn_needs_cbv`: HAP-evaluation to `TRUE` does not suffice).
* `foldl`: the accumulators `f s x` are CBV positions: a chain of weak values `s₀ = s, sᵢ₊₁ = cbv (f sᵢ xᵢ)`
  (`HigherHap.FoldlCbv`), only the last one is normalised.  Forms: the chain itself, an invariant on the weak values
  (`C16_foldl_hap_fn`), or encodings that are reproduced exactly (`C16_foldl_hap_fn_values`).
  Counterexample to the literal HAP form: `C16_foldl_hap_fn_needs_cbv`.
* `foldr`: the recursive call is the OPERAND of `f x`: it is normalised first, so here the literal HAP hypothesis
  `EvalHap (f x (enc b)) (enc (op x b))` IS the right one (`C16_foldr_hap_fn`).

The statements of C16.lean are the instances `f = SUCC, IS_ZERO, ADD, SUB` on Church numerals (`LC/Proofs/Eager/ListB.lean`).
-/
import LC.Props.C16
import LC.Props.C16More
import LC.Proofs.List.HigherHap

namespace LC
open Term Spec Enc Eager C16 HigherHap

/-! ## higher-order functions, arbitrary function argument -/

theorem C16_map_hap_fn {α : Type} (f : Term) (e r : α → Term) (ns : List α) (hf : HapValue f)
    (hv : ∀ a ∈ ns, HapValue (e a))
    (hfx : ∀ a ∈ ns, ∃ w, EvalCbv (app f (e a)) w ∧ EvalHap w (r a)) :
    ∃ fuel c, reduce .HAP 0 fuel (app2 Gen.PList.map f (pairList (ns.map e))) = some (pairList (ns.map r), c) :=
  (plist_map_hap_fn hf.closed (hapValue_isWNF hf) e r ns hv hfx).reduce

theorem C16_map_hap_fn_terms (f : Term) (g : Term → Term) (xs : List Term) (hf : HapValue f)
    (hxs : ∀ x ∈ xs, HapValue x)
    (hfx : ∀ x ∈ xs, ∃ w, EvalCbv (app f x) w ∧ EvalHap w (g x)) :
    ∃ fuel c, reduce .HAP 0 fuel (app2 Gen.PList.map f (pairList xs)) = some (pairList (xs.map g), c) := by
  have := C16_map_hap_fn f id g xs hf hxs hfx
  rwa [List.map_id] at this

theorem C16_map_hap_fn_cbv (f : Term) (g : Term → Term) (xs : List Term) (hf : HapValue f)
    (hxs : ∀ x ∈ xs, HapValue x) (hfx : ∀ x ∈ xs, EvalCbv (app f x) (g x)) (hg : ∀ x ∈ xs, HapValue (g x)) :
    ∃ fuel c, reduce .HAP 0 fuel (app2 Gen.PList.map f (pairList xs)) = some (pairList (xs.map g), c) :=
  C16_map_hap_fn_terms f g xs hf hxs fun x hx => ⟨g x, hfx x hx, (hg x hx).2⟩

example : ∃ fuel c, reduce .HAP 0 fuel (app2 Gen.PList.map (abs (abs (var 2))) (pairList [intoChurch 1, intoScott 2])) =
    some (pairList [abs (intoChurch 1), abs (intoScott 2)], c) :=
  C16_map_hap_fn_cbv (abs (abs (var 2))) (fun x => abs x) _ (.mk' (by decide) (by decide))
    (by simp; exact ⟨hapValue_church 1, hapValue_scott 2⟩)
    (by simp; constructor <;> exact (evR1 .CBV 101 .nil .nil 10 .c .c (by decide +kernel)).toCbv)
    (by simp; exact ⟨.mk' (by decide) (by decide), .mk' (by decide) (by decide)⟩)

theorem C16_filter_hap_fn {α : Type} (p : Term) (e : α → Term) (b : α → Bool) (ns : List α) (hp : HapValue p)
    (hv : ∀ a ∈ ns, HapValue (e a)) (hpx : ∀ a ∈ ns, EvalCbv (app p (e a)) (fromBool (b a))) :
    ∃ fuel c, reduce .HAP 0 fuel (app2 Gen.PList.filter p (pairList (ns.map e))) =
      some (pairList ((ns.filter b).map e), c) :=
  (plist_filter_hap_fn hp.closed (hapValue_isWNF hp) e b ns hv fun a ha => .of_cbv (hpx a ha)).reduce

theorem C16_take_while_hap_fn {α : Type} (p : Term) (e : α → Term) (b : α → Bool) (ns : List α) (hp : HapValue p)
    (hv : ∀ a ∈ ns, HapValue (e a)) (hpx : ∀ a ∈ ns, EvalCbv (app p (e a)) (fromBool (b a))) :
    ∃ fuel c, reduce .HAP 0 fuel (app2 Gen.PList.take_while p (pairList (ns.map e))) =
      some (pairList ((ns.takeWhile b).map e), c) :=
  (plist_take_while_hap_fn hp.closed (hapValue_isWNF hp) e b ns hv fun a ha => .of_cbv (hpx a ha)).reduce

theorem C16_drop_while_hap_fn {α : Type} (p : Term) (e : α → Term) (b : α → Bool) (ns : List α) (hp : HapValue p)
    (hv : ∀ a ∈ ns, HapValue (e a)) (hpx : ∀ a ∈ ns, EvalCbv (app p (e a)) (fromBool (b a))) :
    ∃ fuel c, reduce .HAP 0 fuel (app2 Gen.PList.drop_while p (pairList (ns.map e))) =
      some (pairList ((ns.dropWhile b).map e), c) :=
  (plist_drop_while_hap_fn hp.closed (hapValue_isWNF hp) e b ns hv fun a ha => .of_cbv (hpx a ha)).reduce

theorem C16_filter_hap_fn_terms (p : Term) (b : Term → Bool) (xs : List Term) (hp : HapValue p)
    (hxs : ∀ x ∈ xs, HapValue x) (hpx : ∀ x ∈ xs, EvalCbv (app p x) (fromBool (b x))) :
    ∃ fuel c, reduce .HAP 0 fuel (app2 Gen.PList.filter p (pairList xs)) = some (pairList (xs.filter b), c) := by
  have := C16_filter_hap_fn p id b xs hp hxs hpx
  rwa [List.map_id, List.map_id] at this

theorem C16_take_while_hap_fn_terms (p : Term) (b : Term → Bool) (xs : List Term) (hp : HapValue p)
    (hxs : ∀ x ∈ xs, HapValue x) (hpx : ∀ x ∈ xs, EvalCbv (app p x) (fromBool (b x))) :
    ∃ fuel c, reduce .HAP 0 fuel (app2 Gen.PList.take_while p (pairList xs)) = some (pairList (xs.takeWhile b), c) := by
  have := C16_take_while_hap_fn p id b xs hp hxs hpx
  rwa [List.map_id, List.map_id] at this

theorem C16_drop_while_hap_fn_terms (p : Term) (b : Term → Bool) (xs : List Term) (hp : HapValue p)
    (hxs : ∀ x ∈ xs, HapValue x) (hpx : ∀ x ∈ xs, EvalCbv (app p x) (fromBool (b x))) :
    ∃ fuel c, reduce .HAP 0 fuel (app2 Gen.PList.drop_while p (pairList xs)) = some (pairList (xs.dropWhile b), c) := by
  have := C16_drop_while_hap_fn p id b xs hp hxs hpx
  rwa [List.map_id, List.map_id] at this

/-- relational form: `v` is the last of the CBV accumulators `s₀ = s`, `sᵢ₊₁ = cbv (f sᵢ xᵢ)`, `R` its HAP-normal form -/
theorem C16_foldl_hap_fn_chain (f s v R : Term) (xs : List Term) (hf : HapValue f) (hs : HapValue s)
    (hxs : ∀ x ∈ xs, HapValue x) (hch : FoldlCbv f s xs v) (hR : EvalHap v R) :
    ∃ fuel c, reduce .HAP 0 fuel (app3 Gen.PList.foldl f s (pairList xs)) = some (R, c) :=
  (plist_foldl_hap_chain hf.closed (hapValue_isWNF hf) hs.closed (hapValue_isWNF hs) xs hxs hch (.of_hap hR)).reduce

/-- with an invariant `P v j` ("the weak value `v` represents `j`") on the CBV accumulators, preserved by the steps -/
theorem C16_foldl_hap_fn {α γ : Type} (f s : Term) (e : α → Term) (enc : γ → Term) (op : γ → α → γ)
    (P : Term → γ → Prop) (ns : List α) (j : γ) (hf : HapValue f) (hs : HapValue s)
    (hv : ∀ a ∈ ns, HapValue (e a)) (hP : ∀ v j, P v j → EvalHap v (enc j)) (hsj : P s j)
    (hstep : ∀ v j, ∀ a ∈ ns, P v j → ∃ v', EvalCbv (app2 f v (e a)) v' ∧ P v' (op j a)) :
    ∃ fuel c, reduce .HAP 0 fuel (app3 Gen.PList.foldl f s (pairList (ns.map e))) = some (enc (ns.foldl op j), c) :=
  (plist_foldl_hap_inv hf.closed (hapValue_isWNF hf) hs.closed (hapValue_isWNF hs) e enc op P ns j hv
    (fun v j h => .of_hap (hP v j h)) hsj
    (fun v j a ha h => (hstep v j a ha h).imp fun _ h' => ⟨.of_cbv h'.1, h'.2⟩)).reduce

/-- special case: the CBV value of `f (enc j) x` IS the (admissible) encoding of `op j x` -/
theorem C16_foldl_hap_fn_values {α γ : Type} (f : Term) (e : α → Term) (enc : γ → Term) (op : γ → α → γ)
    (ns : List α) (j : γ) (hf : HapValue f) (henc : ∀ j, HapValue (enc j)) (hv : ∀ a ∈ ns, HapValue (e a))
    (hstep : ∀ j, ∀ a ∈ ns, EvalCbv (app2 f (enc j) (e a)) (enc (op j a))) :
    ∃ fuel c, reduce .HAP 0 fuel (app3 Gen.PList.foldl f (enc j) (pairList (ns.map e))) =
      some (enc (ns.foldl op j), c) :=
  C16_foldl_hap_fn f (enc j) e enc op (fun v j => v = enc j) ns j hf (henc j) hv
    (fun _ j h => h ▸ (henc j).2) rfl (fun _ j a ha h => ⟨_, h ▸ hstep j a ha, rfl⟩)

/-- relational form: `R` is the last of the HAP results `r₀ = a`, `rᵢ₊₁ = hap (f xᵢ rᵢ)` (from the right) -/
theorem C16_foldr_hap_fn_chain (f a R : Term) (xs : List Term) (hf : HapValue f) (ha : HapValue a)
    (hxs : ∀ x ∈ xs, HapValue x) (hch : FoldrHap f a xs R) :
    ∃ fuel c, reduce .HAP 0 fuel (app3 Gen.PList.foldr f a (pairList xs)) = some (R, c) :=
  (plist_foldr_hap_chain hf.closed (hapValue_isWNF hf) ha xs hxs hch).reduce

/-- for `foldr` the literal HAP hypothesis on the binary `f` is the right one -/
theorem C16_foldr_hap_fn {α γ : Type} (f : Term) (e : α → Term) (enc : γ → Term) (op : α → γ → γ)
    (ns : List α) (j : γ) (hf : HapValue f) (hj : HapValue (enc j)) (hv : ∀ a ∈ ns, HapValue (e a))
    (hstep : ∀ a ∈ ns, ∀ j, EvalHap (app2 f (e a) (enc j)) (enc (op a j))) :
    ∃ fuel c, reduce .HAP 0 fuel (app3 Gen.PList.foldr f (enc j) (pairList (ns.map e))) =
      some (enc (ns.foldr op j), c) :=
  C16_foldr_hap_fn_chain f (enc j) _ _ hf hj (hv_map hv) (foldrHap_of_steps e enc op ns j fun a ha j => .of_hap (hstep a ha j))

/-- general form: `f` is also called on the surplus elements of the first list and the junk heads `I`, `TRUE` -/
theorem C16_zip_with_hap_fn {α β : Type} (f : Term) (e1 : α → Term) (e2 : β → Term) (g : α → β → Term)
    (ms : List α) (ns : List β) (hf : HapValue f) (hv1 : ∀ a ∈ ms, HapValue (e1 a)) (hv2 : ∀ a ∈ ns, HapValue (e2 a))
    (hfx : ∀ p ∈ ms.zip ns, ∃ w, EvalCbv (app2 f (e1 p.1) (e2 p.2)) w ∧ EvalHap w (g p.1 p.2))
    (hjk : ∀ a ∈ ms.drop ns.length,
      (∃ r w, EvalCbv (app2 f (e1 a) (abs (var 1))) w ∧ EvalHap w r) ∧
      (∃ r w, EvalCbv (app2 f (e1 a) Gen.Bool.tru) w ∧ EvalHap w r)) :
    ∃ fuel c, reduce .HAP 0 fuel (app3 Gen.PList.zip_with f (pairList (ms.map e1)) (pairList (ns.map e2))) =
      some (pairList ((ms.zip ns).map (fun p => g p.1 p.2)), c) :=
  (plist_zip_with_hap_fn hf.closed (hapValue_isWNF hf) e1 e2 g ms ns hv1 hv2 hfx hjk).reduce

/-- no junk calls when the first list is not the longer one -/
theorem C16_zip_with_hap_fn_le {α β : Type} (f : Term) (e1 : α → Term) (e2 : β → Term) (g : α → β → Term)
    (ms : List α) (ns : List β) (hf : HapValue f) (hv1 : ∀ a ∈ ms, HapValue (e1 a)) (hv2 : ∀ a ∈ ns, HapValue (e2 a))
    (hfx : ∀ p ∈ ms.zip ns, ∃ w, EvalCbv (app2 f (e1 p.1) (e2 p.2)) w ∧ EvalHap w (g p.1 p.2))
    (hlen : ms.length ≤ ns.length) :
    ∃ fuel c, reduce .HAP 0 fuel (app3 Gen.PList.zip_with f (pairList (ms.map e1)) (pairList (ns.map e2))) =
      some (pairList ((ms.zip ns).map (fun p => g p.1 p.2)), c) :=
  C16_zip_with_hap_fn f e1 e2 g ms ns hf hv1 hv2 hfx (by
    rw [List.drop_eq_nil_of_le hlen]; intro a ha; cases ha)

/-! ## the side conditions cannot be replaced by the literal "`f x` evaluates under HAP to `g x`"

All counterexamples use the closed normal form `fn = λa. (a TRUE) (λz. (a FALSE) (z z))` and elements
`elt res = ⟨λv. v ω, λx. res⟩` (a pair, `ω = λx. x x`):  under HAP the operand `λz. (a FALSE) (z z)` is NORMALISED first (to
`λz. res`), then `(λv. v ω) (λz. res)` gives `res`; under CBV the operand is a value as it stands, and
`(λv. v ω) (λz. (λx. res) (z z))` runs into `ω ω`.  Divergence is proved for EVERY fuel (`HigherHap.reduce_hap_diverges`:
the one-step strategy `stepHap` reaches a term that steps to itself; two ground facts checked by the kernel).  `N` in
`diverges_of_cycle (N := 26)` is a number of steps after which the run is at that term (found by running `stepHap`; every
larger `N` does as well).  In `evR .HAP 101 … 30 …`, `evR1 .CBV 101 … 10 …`, 101 is the index of the first placeholder and
30, 10 the fuel (header of `LC/Proofs/Eager/Reflect.lean`). -/

namespace C16Cx

def om : Term := abs (app (var 1) (var 1))
def idT : Term := abs (var 1)
/-- `λa. (a TRUE) (λz. (a FALSE) (z z))` -/
def fn : Term :=
  abs (app (app (var 1) Gen.Bool.tru) (abs (app (app (var 2) Gen.Bool.fls) (app (var 1) (var 1)))))
/-- `⟨λv. v ω, λx. res⟩` (for a closed `res`) -/
def elt (res : Term) : Term := abs (app2 (var 1) (abs (app (var 1) om)) (abs res))
/-- `λs. fn` : a binary function that ignores its first argument -/
def fn2 : Term := abs fn
/-- `λx y. y ω ω` : fine on the Church numeral `0`, divergent on the junk head `I` -/
def fz : Term := abs (abs (app2 (var 1) om om))
/-- `λa. (a TRUE) (λz. (a FALSE) (a FALSE))` and `⟨λy. I, ω⟩`: here CBV converges and HAP diverges -/
def fn' : Term :=
  abs (app (app (var 1) Gen.Bool.tru) (abs (app (app (var 2) Gen.Bool.fls) (app (var 2) Gen.Bool.fls))))
def elt' : Term := abs (app2 (var 1) (abs idT) om)

end C16Cx

open C16Cx in
/-- `map`: `f`, `x`, `g x = I` admissible and `f x` evaluates under HAP to `I` — but `map f [x]` diverges -/
theorem C16_map_hap_fn_needs_cbv :
    HapValue fn ∧ HapValue (elt idT) ∧ HapValue idT ∧ EvalHap (app fn (elt idT)) idT ∧
    ∀ fuel, reduce .HAP 0 fuel (app2 Gen.PList.map fn (pairList [elt idT])) = none := by
  refine ⟨.mk' (by decide) (by decide), .mk' (by decide) (by decide), .mk' (by decide) (by decide), ?_, ?_⟩
  · exact (evR .HAP 101 .nil .nil .nil 30 .c .c (by decide +kernel)).toHap
  · exact diverges_of_cycle (N := 26) (by decide +kernel)

open C16Cx in
/-- conversely to `C16_map_hap_fn_needs_cbv`: `map f [x]` may converge (to `[I]`) although `f x` itself diverges under HAP -/
theorem C16_map_hap_fn_hap_not_needed :
    HapValue fn' ∧ HapValue elt' ∧ EvalCbv (app fn' elt') idT ∧
    (∀ fuel, reduce .HAP 0 fuel (app fn' elt') = none) ∧
    ∃ fuel c, reduce .HAP 0 fuel (app2 Gen.PList.map fn' (pairList [elt'])) = some (pairList [idT], c) := by
  have hf : HapValue fn' := .mk' (by decide) (by decide)
  have hx : HapValue elt' := .mk' (by decide) (by decide)
  have hc : Ev .CBV (app fn' elt') idT := evR1 .CBV 101 .nil .nil 30 .c .c (by decide +kernel)
  refine ⟨hf, hx, hc.toCbv, diverges_of_cycle (N := 10) (by decide +kernel), ?_⟩
  exact C16_map_hap_fn_cbv fn' (fun _ => idT) [elt'] hf (by simpa using hx) (by simpa using hc.toCbv)
    (fun _ _ => .mk' (by decide) (by decide))

open C16Cx in
/-- `filter` (likewise `take_while`, `drop_while`): `p x` evaluates under HAP to `TRUE` — but `filter p [x]` diverges -/
theorem C16_filter_hap_fn_needs_cbv :
    HapValue fn ∧ HapValue (elt Gen.Bool.tru) ∧ EvalHap (app fn (elt Gen.Bool.tru)) Gen.Bool.tru ∧
    (∀ fuel, reduce .HAP 0 fuel (app2 Gen.PList.filter fn (pairList [elt Gen.Bool.tru])) = none) ∧
    (∀ fuel, reduce .HAP 0 fuel (app2 Gen.PList.take_while fn (pairList [elt Gen.Bool.tru])) = none) ∧
    (∀ fuel, reduce .HAP 0 fuel (app2 Gen.PList.drop_while fn (pairList [elt Gen.Bool.tru])) = none) := by
  refine ⟨.mk' (by decide) (by decide), .mk' (by decide) (by decide), ?_, ?_, ?_, ?_⟩
  · exact (evR .HAP 101 .nil .nil .nil 30 .c .c (by decide +kernel)).toHap
  · exact diverges_of_cycle (N := 26) (by decide +kernel)
  · exact diverges_of_cycle (N := 26) (by decide +kernel)
  · exact diverges_of_cycle (N := 26) (by decide +kernel)

open C16Cx in
/-- `foldl`: `f s x` evaluates under HAP to `I` — but `foldl f s [x]` diverges -/
theorem C16_foldl_hap_fn_needs_cbv :
    HapValue fn2 ∧ HapValue (elt idT) ∧ HapValue idT ∧ EvalHap (app2 fn2 idT (elt idT)) idT ∧
    ∀ fuel, reduce .HAP 0 fuel (app3 Gen.PList.foldl fn2 idT (pairList [elt idT])) = none := by
  refine ⟨.mk' (by decide) (by decide), .mk' (by decide) (by decide), .mk' (by decide) (by decide), ?_, ?_⟩
  · exact (evR .HAP 101 .nil .nil .nil 30 .c .c (by decide +kernel)).toHap
  · exact diverges_of_cycle (N := 32) (by decide +kernel)

open C16Cx in
/-- `zip_with`: `zip_with f [0̄] [0̄]` converges, `zip_with f [0̄] []` (expected: `NIL`, no hypothesis on `f` at all in the
literal statement) diverges: `f 0̄ I` is evaluated -/
theorem C16_zip_with_hap_fn_needs_junk :
    HapValue fz ∧
    (∃ fuel c, reduce .HAP 0 fuel (app3 Gen.PList.zip_with fz (pairList [intoChurch 0]) (pairList [intoChurch 0])) =
      some (pairList [om], c)) ∧
    ∀ fuel, reduce .HAP 0 fuel (app3 Gen.PList.zip_with fz (pairList [intoChurch 0]) (pairList [])) = none := by
  refine ⟨.mk' (by decide) (by decide), ⟨200, 55, by decide +kernel⟩, ?_⟩
  exact diverges_of_cycle (N := 27) (by decide +kernel)

/-! ## the instances of C16.lean (function arguments `SUCC`, `IS_ZERO`, `ADD`, `SUB` on Church numerals) -/

open EagerListB in
example (ns : List Nat) :
    ∃ fuel c, reduce .HAP 0 fuel (app2 Gen.PList.map Gen.Church.succ (cl ns)) = some (cl (ns.map (· + 1)), c) :=
  C16_map_succ_hap ns

example (ns : List Nat) :
    ∃ fuel c, reduce .HAP 0 fuel (app2 Gen.PList.filter Gen.Church.is_zero (cl ns)) =
      some (cl (ns.filter (· == 0)), c) :=
  C16_filter_is_zero_hap ns

example (ns : List Nat) :
    ∃ fuel c, reduce .HAP 0 fuel (app2 Gen.PList.take_while Gen.Church.is_zero (cl ns)) =
      some (cl (ns.takeWhile (· == 0)), c) :=
  C16_take_while_is_zero_hap ns

example (ns : List Nat) :
    ∃ fuel c, reduce .HAP 0 fuel (app2 Gen.PList.drop_while Gen.Church.is_zero (cl ns)) =
      some (cl (ns.dropWhile (· == 0)), c) :=
  C16_drop_while_is_zero_hap ns

open EagerListB in
example (s : Nat) (ns : List Nat) :
    ∃ fuel c, reduce .HAP 0 fuel (app3 Gen.PList.foldl Gen.Church.add (intoChurch s) (cl ns)) =
      some (intoChurch (ns.foldl (· + ·) s), c) :=
  C16_foldl_add_hap s ns

example (a : Nat) (ns : List Nat) :
    ∃ fuel c, reduce .HAP 0 fuel (app3 Gen.PList.foldr Gen.Church.add (intoChurch a) (cl ns)) =
      some (intoChurch (ns.foldr (· + ·) a), c) :=
  C16_foldr_add_hap a ns

open EagerListB in
example (ms ns : List Nat) :
    ∃ fuel c, reduce .HAP 0 fuel (app3 Gen.PList.zip_with Gen.Church.sub (cl ms) (cl ns)) =
      some (cl ((ms.zip ns).map (fun p => p.1 - p.2)), c) :=
  C16_zip_with_sub_hap ms ns

/-! non-vacuity of the remaining forms: concrete instances -/

example : ∃ fuel c, reduce .HAP 0 fuel (app3 Gen.PList.zip_with Gen.Bool.tru (cl [1, 2]) (cl [3, 4, 5])) =
    some (cl [1, 2], c) := by
  have := C16_zip_with_hap_fn_le Gen.Bool.tru intoChurch intoChurch (fun m _ => intoChurch m) [1, 2] [3, 4, 5]
    (.mk' (by decide) (by decide)) (fun a _ => hapValue_church a) (fun a _ => hapValue_church a)
    (fun p _ => CbvThenHap.of_ev (evR1 .CBV 101 (.value (hapValue_church p.1) (.value (hapValue_church p.2) .nil)) .nil 10
      (.app (.app .c .ph0) .ph1) .ph0 (by decide +kernel)) (hapValue_church p.1).ev) (by decide)
  simpa [cl] using this

example : ∃ fuel c, reduce .HAP 0 fuel (app3 Gen.PList.foldl Gen.Bool.fls (intoChurch 7) (cl [1, 2, 3])) =
    some (intoChurch 3, c) :=
  C16_foldl_hap_fn_values Gen.Bool.fls intoChurch intoChurch (fun _ a => a) [1, 2, 3] 7
    (.mk' (by decide) (by decide)) hapValue_church (fun a _ => hapValue_church a)
    (fun j a _ => (evR1 .CBV 101 (.value (hapValue_church j) (.value (hapValue_church a) .nil)) .nil 10
      (.app (.app .c .ph0) .ph1) .ph1 (by decide +kernel)).toCbv)

example : ∃ fuel c, reduce .HAP 0 fuel (app3 Gen.PList.foldl Gen.Bool.fls (intoChurch 7) (pairList [intoScott 1])) =
    some (intoScott 1, c) :=
  C16_foldl_hap_fn_chain Gen.Bool.fls (intoChurch 7) (intoScott 1) (intoScott 1) [intoScott 1]
    (.mk' (by decide) (by decide)) (hapValue_church 7) (by simpa using hapValue_scott 1)
    (.cons (evR1 .CBV 101 .nil .nil 30 .c .c (by decide +kernel)).toCbv (.nil _)) (hapValue_scott 1).2

example : ∃ fuel c, reduce .HAP 0 fuel (app3 Gen.PList.foldr Gen.Bool.tru (intoChurch 7) (pairList [intoScott 1])) =
    some (intoScott 1, c) :=
  C16_foldr_hap_fn_chain Gen.Bool.tru (intoChurch 7) (intoScott 1) [intoScott 1]
    (.mk' (by decide) (by decide)) (hapValue_church 7) (by simpa using hapValue_scott 1)
    (.cons .nil (evR .HAP 101 .nil .nil .nil 30 .c .c (by decide +kernel)).toHap)

example : ∃ fuel c, reduce .HAP 0 fuel (app2 Gen.PList.filter Gen.Church.is_zero (pairList [intoChurch 0, intoChurch 2])) =
    some (pairList [intoChurch 0], c) :=
  C16_filter_hap_fn_terms Gen.Church.is_zero (· == intoChurch 0) _ (.mk' (by decide) (by decide))
    (by simp; exact ⟨hapValue_church 0, hapValue_church 2⟩)
    (by simp; exact ⟨(church_is_zero_cbv (onum_intoChurch 0)).toCbv, (church_is_zero_cbv (onum_intoChurch 2)).toCbv⟩)

example : ∃ fuel c, reduce .HAP 0 fuel (app2 Gen.PList.take_while Gen.Church.is_zero (pairList [intoChurch 0, intoChurch 2])) =
    some (pairList [intoChurch 0], c) :=
  C16_take_while_hap_fn_terms Gen.Church.is_zero (· == intoChurch 0) _ (.mk' (by decide) (by decide))
    (by simp; exact ⟨hapValue_church 0, hapValue_church 2⟩)
    (by simp; exact ⟨(church_is_zero_cbv (onum_intoChurch 0)).toCbv, (church_is_zero_cbv (onum_intoChurch 2)).toCbv⟩)

example : ∃ fuel c, reduce .HAP 0 fuel (app2 Gen.PList.drop_while Gen.Church.is_zero (pairList [intoChurch 0, intoChurch 2])) =
    some (pairList [intoChurch 2], c) :=
  C16_drop_while_hap_fn_terms Gen.Church.is_zero (· == intoChurch 0) _ (.mk' (by decide) (by decide))
    (by simp; exact ⟨hapValue_church 0, hapValue_church 2⟩)
    (by simp; exact ⟨(church_is_zero_cbv (onum_intoChurch 0)).toCbv, (church_is_zero_cbv (onum_intoChurch 2)).toCbv⟩)

/-- the hypotheses `EvalCbv …` of this file in terms of the reducer: the big-step semantics of call-by-value is exactly the
terminating unlimited runs of the model -/
theorem C16_evalCbv_iff_reduce (t v : Term) : EvalCbv t v ↔ ∃ fuel c, reduce .CBV 0 fuel t = some (v, c) := by
  constructor
  · exact fun h => (Ev.of_cbv h).reduce
  · rintro ⟨fuel, c, h⟩
    exact (Ev.of_run (o := .CBV) (fuel := fuel) (c := 0) (p := (v, c)) h).toCbv

end LC
