/-
C09 — parse accepts exactly well-formed expressions and returns the term they denote

"For either notation and every input composed of the documented lexical elements (either lambda
glyph, parentheses, whitespace, hexadecimal index digits, or letter-initial alphanumeric names with
binder dots), parse succeeds exactly when the input is well-formed - abstraction bodies extending
as far right as possible, left-associative application, balanced parentheses, non-empty bodies and
groups - and returns the denoted term: digits become indices, names resolve to their innermost
binder, and free names are numbered in order of first appearance above the binders in scope.
Redundant parentheses, whitespace and the choice of glyph never change the result, corresponding
inputs in the two notations give the same term, and ill-formed input yields Err, never a silently
truncated parse. A character that cannot start any token is reported as InvalidCharacter with that
character and its character index, and no string whatsoever makes parse panic."

Specification side
* `LC/Spec/Grammar.lean`: the reference grammar `Gr.DExpr / Gr.DAtoms / Gr.DAtom` over De Bruijn
  tokens (abstraction = `λ` followed by the whole rest of the group; LEFT-recursive application
  spine; parentheses only in pairs; no production for the empty string), the lexical map
  `Gr.tokenOf` and `Gr.Denotes cls s t` := every character of `s` is a token character or white
  space ∧ the token characters of `s` derive `t`.
* `LC/Spec/ClassicSpec.lean`: reference name resolution `Cl.resolveAll` on named tokens (scopes +
  free-name list), renderings `Cl.Renders` of named tokens as strings (any glyph, any whitespace,
  letter-initial alphanumeric names `Cl.WfName`), named terms `Cl.NTerm`, the standard
  named → De Bruijn translation `Cl.toDeBruijn`, all admissible printings `Cl.PrintsN / Cl.PrintsD`
  (necessary parentheses + any number of redundant ones).

Proof side: `LC/Proofs/Syntax/DeBruijn.lean` (lexer, `getAst`, `foldExprs` against the grammar) and
`LC/Proofs/Syntax/Classic.lean` (Classic lexer, `convertClassicTokens` against `Cl.resolveAll`,
printings), with `ClassicShape.lean` (the shape of named tokens: `C09_cla_wellformed_iff*`, `C09_no_truncation_cla`),
`ClassicAll.lean` (all strings; ground renderings by running the lexer, `renders_of_lex`) and `DebugDigits.lean`
(`C11.lex_debug`, for `C09_notations_agree_tree`); the examples evaluate `parse` by the cursor model (`parse_of_cur`,
`LC/Props/C09Cursor.lean`).  This file assembles them.  `parse` is one pipeline for both notations (`parse_eq`): the lexer of
the notation (`tokensFor`; for Classic followed by the name resolution, which is total), then the one
token-level parser `parseTokens`, which accepts exactly the grammar (`C09_token_level`).

Classic lexis: an identifier is a letter followed by alphanumeric characters other than the glyph `λ`
(`Cl.WfName`).  A variable name ends at the end of the input or at the first character that is NOT
alphanumeric or is the glyph `λ`, which is then lexed like any character at top level: whitespace,
a parenthesis, a GLYPH — the backslash (`x\y.y` is `x (\y.y)`, `C09_cla_backslash_ends_name`,
repair F9) or `λ`, although it is a letter for Unicode (`xλy.y` is `x (λy.y)` too,
`C09_cla_lambda_ends_name`, `C09_cla_glyph_ends_name`, repair F11) — and anything else that cannot
start a token is `InvalidCharacter` (`x.y`, `x#`, `λx.x-`: `C09_cla_junk_after_name`,
`C09_cla_junk_dot/_hash/_minus`; repair F10).
A binder name cannot be empty: `λ.x` is `InvalidCharacter 1 '.'` (`C09_cla_empty_binder_name`,
`C09_cla_empty_binder_dot`, repair F12).
(The repairs are commits of the crate which the model follows; DESIGN §8 lists them as F1–F12.)
-/
import LC.Proofs.Syntax.DebugDigits
import LC.Proofs.Syntax.ClassicShape
import LC.Proofs.Syntax.ClassicAll
import LC.Props.C09Cursor

namespace LC
open Term Parser Spec

namespace C09

/-- `Cl.tokenStage` is `parseTokens` read as an `Outcome` (`tokenStage_ofResult`), spelt with the `match` of
`C09_cla_tokens` and `C09_dbr_stages` below.  Those two statements contain the auxiliary matcher that Lean names
after this theorem, the first declaration of the file with that `match`: it stays in front of them, as it is (a
declaration with that `match` put in front of it would rename the matcher inside the two statements, and the
statement pins of the checks, `statements.json`, would not match). -/
theorem tokenStage_eq (ts : List Token) :
    Cl.tokenStage ts =
      (match parseTokens ts with
       | .ok t => Outcome.ok t
       | .error e => Outcome.err e) := by
  rw [tokenStage_ofResult]
  cases parseTokens ts <;> rfl

end C09


/-- C09, De Bruijn notation: `parse` succeeds with `t` exactly when the input is a well-formed
expression denoting `t`, i.e. (`Gr.Denotes`) every character is a token character (either glyph, a
parenthesis, a hexadecimal digit) or white space, and the token characters — digits become
indices — derive `t` in the reference grammar -/
theorem C09_dbr_ok_iff (cls : CharCls) (s : List Nat) (t : Term) :
    parse cls s .DeBruijn = .ok t ↔ Gr.Denotes cls s t := by
  simp only [parse_ok_iff, tokensFor, tokenizeDbr_spec, Gr.Denotes]
  constructor
  · rintro ⟨ts, ⟨hv, rfl⟩, hd⟩
    exact ⟨hv, hd⟩
  · rintro ⟨hv, hd⟩
    exact ⟨_, ⟨hv, rfl⟩, hd⟩

/-- … and returns `Err` (never a panic, never a truncated parse) exactly when it is not -/
theorem C09_dbr_err_iff (cls : CharCls) (s : List Nat) :
    (∃ e, parse cls s .DeBruijn = .err e) ↔ ¬ ∃ t, Gr.Denotes cls s t := by
  simp only [← C09_dbr_ok_iff, parse_eq]
  cases tokensFor cls .DeBruijn s >>= parseTokens <;> simp [Outcome.ofResult]

/-- token level (shared by the two notations): the token-to-term stage of `parse` accepts exactly
the reference grammar and returns the denoted term -/
theorem C09_token_level (ts : List Token) (t : Term) : parseTokens ts = .ok t ↔ Gr.DExpr ts t :=
  parseTokens_iff ts t

theorem C09_token_level_err (ts : List Token) :
    (∃ e, parseTokens ts = .error e) ↔ ¬ ∃ t, Gr.DExpr ts t :=
  parseTokens_rejects_iff ts

/-- the De Bruijn lexer: it succeeds iff all characters are valid, and then returns the token
characters in order (white space dropped, one token per character) -/
theorem C09_dbr_lexer (cls : CharCls) (s : List Nat) (toks : List Token) :
    tokenizeDbr cls s = .ok toks ↔ (∀ c ∈ s, Gr.ValidChar cls c) ∧ toks = Gr.tokensOf cls s :=
  tokenizeDbr_spec cls s toks

/-- `parse` in De Bruijn notation = lexer, then the token-level stage; a lexical error wins -/
theorem C09_dbr_stages (cls : CharCls) (s : List Nat) :
    parse cls s .DeBruijn =
      match tokenizeDbr cls s with
      | .error e => .err e
      | .ok ts =>
        (match parseTokens ts with
         | .ok t => .ok t
         | .error e => .err e) := by
  rw [parse_dbr_eq]
  cases tokenizeDbr cls s with
  | error e => rfl
  | ok ts =>
    simp only [bind, Except.bind]
    cases parseTokens ts <;> rfl


theorem C09_grammar_unambiguous {ts : List Token} {t t' : Term}
    (h : Gr.DExpr ts t) (h' : Gr.DExpr ts t') : t = t' :=
  h.unambiguous h'

/-- the shape of well-formed token lists:
1. abstraction bodies extend as far right as possible: an expression that starts with `λ` is an
   abstraction whose body is the WHOLE rest of the token list;
2. a well-formed expression is non-empty;
3. its parentheses are balanced (`C09D.balAux 0 ts`: reading `ts` from nesting depth 0 never closes
   an unopened parenthesis and ends at depth 0);
4. an empty group `()` anywhere,
5. an empty abstraction body `λ)` anywhere,
6. or an empty abstraction body at the end of the input make the token list ill-formed -/
theorem C09_grammar_shape :
    (∀ ts t, Gr.DExpr (Token.Lambda :: ts) t → ∃ b, t = abs b ∧ Gr.DExpr ts b) ∧
    (∀ ts t, Gr.DExpr ts t → ts ≠ []) ∧
    (∀ ts t, Gr.DExpr ts t → C09D.balAux 0 ts = true) ∧
    (∀ pre post t, ¬ Gr.DExpr (pre ++ Token.Lparen :: Token.Rparen :: post) t) ∧
    (∀ pre post t, ¬ Gr.DExpr (pre ++ Token.Lambda :: Token.Rparen :: post) t) ∧
    (∀ pre t, ¬ Gr.DExpr (pre ++ [Token.Lambda]) t) :=
  ⟨fun _ _ h => h.lam_inv, fun _ _ h => h.ne_nil, fun _ _ h => h.balanced,
   fun pre post t => (not_DExpr_empty pre post t).1,
   fun pre post t => (not_DExpr_empty pre post t).2.1,
   fun pre t => (not_DExpr_empty pre [] t).2.2⟩

/-- the same facts for the parser: the empty input, empty groups and empty bodies are rejected
wherever they occur -/
theorem C09_empty_rejected (pre post : List Token) :
    parseTokens [] = .error .EmptyExpression ∧
    (∃ e, parseTokens (pre ++ Token.Lparen :: Token.Rparen :: post) = .error e) ∧
    (∃ e, parseTokens (pre ++ Token.Lambda :: Token.Rparen :: post) = .error e) ∧
    (∃ e, parseTokens (pre ++ [Token.Lambda]) = .error e) :=
  ⟨by simp [parseTokens, getAst], parseTokens_empty_group pre post, parseTokens_empty_body pre post,
   parseTokens_empty_body_end pre⟩

/-- application associates to the left: a sequence of atoms `a₁ a₂ … aₙ` followed by one more
atom `a` denotes `app (… a₁ a₂ … aₙ) a` (and, by `C09_grammar_unambiguous`, nothing else) -/
theorem C09_grammar_left_assoc {ts us : List Token} {f a t : Term}
    (hf : Gr.DAtoms ts f) (ha : Gr.DAtom us a) (h : Gr.DExpr (ts ++ us) t) : t = app f a :=
  h.unambiguous (.atoms (.snoc hf ha))

/-- an unparenthesised abstraction after an application spine takes the whole rest of the group
as its body and is the last argument of the spine -/
theorem C09_grammar_tail_lam {ts us : List Token} {f b t : Term}
    (hf : Gr.DAtoms ts f) (hb : Gr.DExpr us b) (h : Gr.DExpr (ts ++ Token.Lambda :: us) t) :
    t = app f (abs b) :=
  h.unambiguous (.tailLam hf hb)


/-- the first character that is neither a token character nor white space is reported as
`InvalidCharacter`, with its character index and the character -/
theorem C09_dbr_invalid_char (cls : CharCls) (pre post : List Nat) (c : Nat)
    (hpre : ∀ c' ∈ pre, Gr.ValidChar cls c') (hc : ¬ Gr.ValidChar cls c) :
    parse cls (pre ++ c :: post) .DeBruijn = .err (.InvalidCharacter pre.length c) :=
  parse_dbr_invalid cls pre post c hpre hc

/-- … and whenever the input contains such a character, that is the outcome -/
theorem C09_dbr_invalid_char_exists (cls : CharCls) (s : List Nat)
    (h : ¬ ∀ c ∈ s, Gr.ValidChar cls c) :
    ∃ pre c post, s = pre ++ c :: post ∧ (∀ c' ∈ pre, Gr.ValidChar cls c') ∧ ¬ Gr.ValidChar cls c ∧
      parse cls s .DeBruijn = .err (.InvalidCharacter pre.length c) := by
  cases ht : tokenizeDbr cls s with
  | ok toks => exact absurd ((tokenizeDbr_spec cls s toks).1 ht).1 h
  | error e =>
    obtain ⟨pre, c, post, rfl, h1, h2, _⟩ := (tokenizeDbr_error_iff cls s e).1 ht
    exact ⟨pre, c, post, rfl, h1, h2, parse_dbr_invalid cls pre post c h1 h2⟩


/-- inserting or removing a white-space character anywhere does not change the result (`hn`: the lexer asks for a token
before it asks for white space, so the character must not also be a token character of the classification) -/
theorem C09_dbr_whitespace_invariant (cls : CharCls) (pre post : List Nat) (w : Nat)
    (hw : cls.isWs w = true) (hn : Gr.tokenOf cls w = none) (t : Term) :
    parse cls (pre ++ w :: post) .DeBruijn = .ok t ↔ parse cls (pre ++ post) .DeBruijn = .ok t := by
  simp only [parse_ok_iff, tokensFor, tokenizeDbr_ws_invariant cls pre post w hw hn]

/-- more generally, the outcome of a parse of valid characters depends only on the sequence of
token characters -/
theorem C09_dbr_tokens_only (cls : CharCls) (s s' : List Nat)
    (hs : ∀ c ∈ s, Gr.ValidChar cls c) (hs' : ∀ c ∈ s', Gr.ValidChar cls c)
    (h : Gr.tokensOf cls s = Gr.tokensOf cls s') :
    parse cls s .DeBruijn = parse cls s' .DeBruijn := by
  have h' : tokenizeDbr cls s = tokenizeDbr cls s' := by
    rw [(tokenizeDbr_spec cls s _).2 ⟨hs, rfl⟩, (tokenizeDbr_spec cls s' _).2 ⟨hs', rfl⟩]
    exact congrArg _ h
  rw [parse_dbr_eq, parse_dbr_eq, h']

/-- the choice of glyph (`λ` = 955 or `\` = 92) at any position changes nothing, not even an error -/
theorem C09_dbr_glyph_invariant (cls : CharCls) (pre post : List Nat) :
    parse cls (pre ++ 955 :: post) .DeBruijn = parse cls (pre ++ 92 :: post) .DeBruijn := by
  have h : tokenizeDbr cls (pre ++ 955 :: post) = tokenizeDbr cls (pre ++ 92 :: post) :=
    C09D.tokenizeDbrAux_char_congr cls pre post 955 92 0
      ((tokenOf_glyph cls).1.trans (tokenOf_glyph cls).2.symm) (by simp [(tokenOf_glyph cls).1])
  rw [parse_dbr_eq, parse_dbr_eq, h]

/-- redundant parentheses around a whole expression (grammar and token-level parser) -/
theorem C09_redundant_parens_whole {ts : List Token} {t : Term} :
    (Gr.DExpr ts t → Gr.DExpr (Token.Lparen :: ts ++ [Token.Rparen]) t) ∧
    (parseTokens ts = .ok t → parseTokens (Token.Lparen :: ts ++ [Token.Rparen]) = .ok t) :=
  ⟨fun h => h.paren_whole, fun h => (parseTokens_iff _ _).2 ((parseTokens_iff _ _).1 h).paren_whole⟩

/-- … and on strings: `(s)` parses to the same term as `s` -/
theorem C09_redundant_parens_whole_str (cls : CharCls) (s : List Nat) (t : Term)
    (h : parse cls s .DeBruijn = .ok t) : parse cls (40 :: s ++ [41]) .DeBruijn = .ok t := by
  rw [C09_dbr_ok_iff] at h ⊢
  obtain ⟨hv, hd⟩ := h
  refine ⟨?_, ?_⟩
  · simpa [or_imp, forall_and, C09D.valid_lparen, C09D.valid_rparen] using hv
  · rw [List.cons_append, C09D.tokensOf_lparen, C09D.tokensOf_append, C09D.tokensOf_rparen]
    exact hd.paren_whole

/-- redundant parentheses around an atom (an index or a parenthesised expression), wherever it
occurs: replacing an occurrence of the atom `us` by `(us)` in ANY token list changes nothing —
the same term or the same error — for the parser, and nothing for the grammar -/
theorem C09_redundant_parens_atom (pre us post : List Token) (a : Term) (hu : Gr.DAtom us a) :
    parseTokens (pre ++ (Token.Lparen :: us ++ [Token.Rparen]) ++ post) =
      parseTokens (pre ++ us ++ post) ∧
    ∀ t, Gr.DExpr (pre ++ (Token.Lparen :: us ++ [Token.Rparen]) ++ post) t ↔
      Gr.DExpr (pre ++ us ++ post) t :=
  ⟨parseTokens_paren_atom pre us post a hu, fun t => hu.paren_in_context pre post t⟩

/-- … and on strings: if the token characters of `us` form an atom, `pre (us) post` and
`pre us post` parse to the same term -/
theorem C09_redundant_parens_atom_str (cls : CharCls) (pre us post : List Nat) (a t : Term)
    (hu : Gr.DAtom (Gr.tokensOf cls us) a) :
    parse cls (pre ++ (40 :: us ++ [41]) ++ post) .DeBruijn = .ok t ↔
      parse cls (pre ++ us ++ post) .DeBruijn = .ok t := by
  rw [C09_dbr_ok_iff, C09_dbr_ok_iff]
  unfold Gr.Denotes
  have hv : (∀ c ∈ pre ++ (40 :: us ++ [41]) ++ post, Gr.ValidChar cls c) ↔
      (∀ c ∈ pre ++ us ++ post, Gr.ValidChar cls c) := by
    simp [or_imp, forall_and, C09D.valid_lparen, C09D.valid_rparen]
  have ht : Gr.tokensOf cls (pre ++ (40 :: us ++ [41]) ++ post) =
      Gr.tokensOf cls pre ++ (Token.Lparen :: Gr.tokensOf cls us ++ [Token.Rparen]) ++
        Gr.tokensOf cls post := by
    simp only [C09D.tokensOf_append, List.cons_append, C09D.tokensOf_lparen, C09D.tokensOf_rparen]
    simp [Gr.tokensOf]
  rw [hv, ht, hu.paren_in_context, C09D.tokensOf_append, C09D.tokensOf_append]


/-- the Classic lexer on the documented lexical elements: on ANY rendering of a list of named
tokens — binders `glyph name .` with either glyph, letter-initial alphanumeric names, parentheses,
arbitrary whitespace — it returns exactly that list (so whitespace and glyph are irrelevant) -/
theorem C09_cla_render (cls : CharCls) (hcls : Cl.ClsOk cls) (cts : List CToken) (s : List Nat)
    (h : Cl.Renders cls cts s) : tokenizeCla cls s = .ok cts :=
  tokenizeCla_render cls hcls cts s h

/-- the code's name resolution (deque + counters, with a checked subtraction) is the reference
resolution: it never panics and resolves every name to its innermost binder / numbers free names
in order of first appearance above the binders in scope (`Cl.resolve`) -/
theorem C09_cla_resolution (cts : List CToken) :
    convertClassicTokens cts = Cl.resolveAll cts ∧ convertClassicTokens cts ≠ none :=
  ⟨convert_eq_resolve cts, convert_no_panic cts⟩

/-- Classic parsing = lexer, then the reference name resolution, then the SAME token-level parser
as in De Bruijn notation (which accepts exactly the grammar, `C09_token_level`) -/
theorem C09_cla_tokens (cls : CharCls) (s : List Nat) (cts : List CToken)
    (h : tokenizeCla cls s = .ok cts) :
    ∃ ts, Cl.resolveAll cts = some ts ∧
      parse cls s .Classic =
        (match parseTokens ts with
         | .ok t => .ok t
         | .error e => .err e) := by
  refine ⟨_, resolveAll_eq cts, ?_⟩
  rw [parse_eq, tokensFor_cla h (resolveAll_eq cts), ← C09.tokenStage_eq, tokenStage_ofResult]
  rfl

theorem C09_cla_lex_error (cls : CharCls) (s : List Nat) (e : ParseError)
    (h : tokenizeCla cls s = .error e) : parse cls s .Classic = .err e := by
  rw [parse_err_iff, tokensFor, h]
  exact .inl rfl

/-- C09, Classic notation: given the lexer's tokens (`h1`) and their resolution (`h2`), `parse` succeeds with `t`
exactly when the resolved token list is a well-formed expression denoting `t`; for all strings, without the two
hypotheses: `C09_cla_all_strings`, `C09_cla_err_all_strings` (`C09All.lean`) -/
theorem C09_cla_ok_iff (cls : CharCls) (s : List Nat) (cts : List CToken) (ts : List Token)
    (t : Term) (h1 : tokenizeCla cls s = .ok cts) (h2 : Cl.resolveAll cts = some ts) :
    parse cls s .Classic = .ok t ↔ Gr.DExpr ts t :=
  parse_ok_of_tokens (tokensFor_cla h1 h2) t

theorem C09_cla_err_iff (cls : CharCls) (s : List Nat) (cts : List CToken) (ts : List Token)
    (h1 : tokenizeCla cls s = .ok cts) (h2 : Cl.resolveAll cts = some ts) :
    (∃ e, parse cls s .Classic = .err e) ↔ ¬ ∃ t, Gr.DExpr ts t := by
  rw [← parseTokens_rejects_iff]
  exact exists_congr (parse_err_of_tokens (tokensFor_cla h1 h2))

theorem C09_cla_resolve_total (cts : List CToken) : ∃ ts, Cl.resolveAll cts = some ts :=
  ⟨_, resolveAll_eq cts⟩


/-- `List.idxOf?` (used by the translation below) returns the position of the FIRST occurrence;
in a list of binders ordered innermost first that is the innermost binder of that name -/
theorem C09_idxOf_spec (l : List (List Nat)) (n : List Nat) :
    (∀ p, l.idxOf? n = some p ↔ ∃ h : p < l.length, l[p] = n ∧ ∀ q (hq : q < p), l[q] ≠ n) ∧
    (l.idxOf? n = none ↔ n ∉ l) :=
  ⟨fun _ => List.idxOf?_eq_some_iff, List.idxOf?_eq_none_iff⟩

/-- the defining equations of the standard named → De Bruijn translation
(`binders`: the binders in scope, innermost first; `free`: the free names met so far, in order of
first appearance, threaded left to right):
* a name bound at position `p` of `binders` (its innermost binder) becomes the index `p + 1`;
* a free name already met, of rank `r` in `free`, becomes `binders.length + r + 1`;
* a new free name becomes `binders.length + free.length + 1` and is appended to `free`;
* an abstraction pushes its binder; an application translates the function, then the argument -/
theorem C09_toDeBruijn_spec :
    (∀ t, Cl.toDeBruijn t = (Cl.toDB [] [] t).1) ∧
    (∀ (binders free : List (List Nat)) n p, binders.idxOf? n = some p →
      Cl.toDB binders free (.nvar n) = (var (p + 1), free)) ∧
    (∀ (binders free : List (List Nat)) n r, binders.idxOf? n = none → free.idxOf? n = some r →
      Cl.toDB binders free (.nvar n) = (var (binders.length + r + 1), free)) ∧
    (∀ (binders free : List (List Nat)) n, binders.idxOf? n = none → free.idxOf? n = none →
      Cl.toDB binders free (.nvar n) = (var (binders.length + free.length + 1), free ++ [n])) ∧
    (∀ (binders free : List (List Nat)) n b,
      Cl.toDB binders free (.nlam n b) =
        (abs (Cl.toDB (n :: binders) free b).1, (Cl.toDB (n :: binders) free b).2)) ∧
    (∀ (binders free : List (List Nat)) f a,
      Cl.toDB binders free (.napp f a) =
        (app (Cl.toDB binders free f).1 (Cl.toDB binders (Cl.toDB binders free f).2 a).1,
         (Cl.toDB binders (Cl.toDB binders free f).2 a).2)) := by
  refine ⟨fun _ => rfl, ?_, ?_, ?_, fun _ _ _ _ => rfl, fun _ _ _ _ => rfl⟩
  · intro binders free n p h; simp [Cl.toDB, h]
  · intro binders free n r h1 h2; simp [Cl.toDB, h1, h2]
  · intro binders free n h1 h2; simp [Cl.toDB, h1, h2]

/-- the name resolution of the tokens IS that translation: resolving any admissible printing of a
named term (necessary parentheses + any redundant ones) gives an admissible printing, with the same
parentheses, of its translation -/
theorem C09_cla_resolve_denotes {t : Cl.NTerm} {arg fin : Bool} {cts : List CToken}
    (h : Cl.PrintsN t arg fin cts) :
    ∃ dts, Cl.resolveAll cts = some dts ∧ Cl.PrintsD (Cl.toDeBruijn t) arg fin dts :=
  resolve_prints_toDB h

/-- C09, the denoted term: any rendering (either glyph, any whitespace) of any admissible printing
(any redundant parentheses) of a named term `t` parses, in Classic notation, to its standard
De Bruijn translation: names resolve to their innermost binder, free names are numbered in order
of first appearance above the binders in scope -/
theorem C09_cla_denotes (cls : CharCls) (hcls : Cl.ClsOk cls) (t : Cl.NTerm) (arg fin : Bool)
    (cts : List CToken) (s : List Nat)
    (hp : Cl.PrintsN t arg fin cts) (hr : Cl.Renders cls cts s) :
    parse cls s .Classic = .ok (Cl.toDeBruijn t) :=
  parse_cla_prints cls hcls t arg fin cts s hp hr

/-- in particular for the crate's own parenthesisation discipline (`ctx` = 0 top level, 2 function
position, 3 argument position) -/
theorem C09_cla_denotes_print (cls : CharCls) (hcls : Cl.ClsOk cls) (t : Cl.NTerm) (ctx : Nat)
    (s : List Nat) (h : Cl.Renders cls (Cl.printN t ctx) s) :
    parse cls s .Classic = .ok (Cl.toDeBruijn t) :=
  parse_cla_print cls hcls t ctx s h

/-- whitespace and the choice of glyph never change the result: two renderings of the same named
tokens have the same outcome (term or error) -/
theorem C09_cla_whitespace_glyph_invariant (cls : CharCls) (hcls : Cl.ClsOk cls)
    (cts : List CToken) (s₁ s₂ : List Nat)
    (h₁ : Cl.Renders cls cts s₁) (h₂ : Cl.Renders cls cts s₂) :
    parse cls s₁ .Classic = parse cls s₂ .Classic := by
  simp only [parse_eq, tokensFor, tokenizeCla_render cls hcls cts _ h₁,
    tokenizeCla_render cls hcls cts _ h₂]

/-- whitespace between a variable name and a following BACKSLASH binder is optional: the backslash
(which is not alphanumeric, `Cl.ClsOk`, so can never be part of an identifier) ends the name.  After any prefix `pre` that renders
complete tokens and ends at top level, for any well-formed name `n`, any (possibly empty) run of
whitespace `ws` and any rendering `\ …` that starts with a backslash (necessarily a binder), the
strings `pre n ws \ …` and `pre n \ …` are renderings of the same named tokens … -/
theorem C09_cla_renders_name_backslash (cls : CharCls) (hcls : Cl.ClsOk cls)
    (ts₀ cts : List CToken) (pre n ws s : List Nat)
    (hpre : Cl.Renders cls ts₀ pre) (hend : Cl.EndsTop cls pre) (hn : Cl.WfName cls n)
    (hws : ∀ w ∈ ws, cls.isWs w = true) (hs : Cl.Renders cls cts (cBackslash :: s)) :
    Cl.Renders cls (ts₀ ++ CToken.CName n :: cts) (pre ++ (n ++ (ws ++ cBackslash :: s))) ∧
    Cl.Renders cls (ts₀ ++ CToken.CName n :: cts) (pre ++ (n ++ cBackslash :: s)) :=
  ⟨renders_name_glyph cls hcls ts₀ cts pre n ws s cBackslash (by decide) hpre hend hn hws hs,
   renders_name_glyph cls hcls ts₀ cts pre n [] s cBackslash (by decide) hpre hend hn (by simp) hs⟩

/-- … hence have the same outcome (term or error): inserting or omitting whitespace between a
variable name and a following backslash binder never changes the result -/
theorem C09_cla_whitespace_before_backslash (cls : CharCls) (hcls : Cl.ClsOk cls)
    (ts₀ cts : List CToken) (pre n ws s : List Nat)
    (hpre : Cl.Renders cls ts₀ pre) (hend : Cl.EndsTop cls pre) (hn : Cl.WfName cls n)
    (hws : ∀ w ∈ ws, cls.isWs w = true) (hs : Cl.Renders cls cts (cBackslash :: s)) :
    parse cls (pre ++ (n ++ (ws ++ cBackslash :: s))) .Classic
      = parse cls (pre ++ (n ++ cBackslash :: s)) .Classic :=
  have h := C09_cla_renders_name_backslash cls hcls ts₀ cts pre n ws s hpre hend hn hws hs
  C09_cla_whitespace_glyph_invariant cls hcls _ _ _ h.1 h.2


/-- a character that cannot start a token is reported with its index after
ANY rendering of complete tokens, provided the rendering ends at top level or the character is not
alphanumeric (so that it ends a name the rendering may end in) -/
theorem C09_cla_invalid_char_general (cls : CharCls) (hcls : Cl.ClsOk cls)
    (ts₀ : List CToken) (pre : List Nat) (c : Nat) (post : List Nat)
    (hpre : Cl.Renders cls ts₀ pre) (hend : Cl.EndsTop cls pre ∨ cls.isAlnum c = false)
    (hglyph : isLam c = false) (hlp : c ≠ cLparen) (hrp : c ≠ cRparen)
    (hws : cls.isWs c = false) (halpha : cls.isAlpha c = false) :
    parse cls (pre ++ c :: post) .Classic = .err (.InvalidCharacter pre.length c) :=
  C09_cla_lex_error cls _ _ (C09C.lex_offending hcls
    (.inl ⟨ts₀, C09C.rendersB_of_renders hpre, hend, hglyph, hlp, hrp, hws, halpha⟩) post)

/-- after a prefix that renders complete tokens and ends at top level (with whitespace, a
parenthesis or a binder dot), a character that cannot start any token — neither a glyph, a
parenthesis, whitespace nor a letter — is reported by `parse` as `InvalidCharacter`, with its
character index and the character -/
theorem C09_cla_invalid_char (cls : CharCls) (hcls : Cl.ClsOk cls)
    (ts₀ : List CToken) (pre : List Nat) (c : Nat) (post : List Nat)
    (hpre : Cl.Renders cls ts₀ pre) (hend : Cl.EndsTop cls pre)
    (hglyph : isLam c = false) (hlp : c ≠ cLparen) (hrp : c ≠ cRparen)
    (hws : cls.isWs c = false) (halpha : cls.isAlpha c = false) :
    parse cls (pre ++ c :: post) .Classic = .err (.InvalidCharacter pre.length c) :=
  C09_cla_invalid_char_general cls hcls ts₀ pre c post hpre (.inl hend) hglyph hlp hrp hws halpha

/-- JUNK DIRECTLY AFTER A VARIABLE NAME (the Classic analogue of `C09_dbr_invalid_char` for a
character that follows an identifier without a separator): after a prefix `pre` that renders
complete tokens and ends at top level, and a well-formed name `n` (a letter, then alphanumeric
characters other than the glyph `λ`), a character `c` that can neither continue the name (it is not alphanumeric) nor start
a token (it is not a glyph, a parenthesis, whitespace or a letter) is reported by `parse` as
`InvalidCharacter`, with its character index and the character — it is NOT swallowed into the name
(`x.y`, `x#`, `λx.x-` …).  (Under `Cl.ClsOk` a letter is alphanumeric, so `halpha` follows from
`halnum`; it is kept to state the five conditions side by side.) -/
theorem C09_cla_junk_after_name (cls : CharCls) (hcls : Cl.ClsOk cls)
    (ts₀ : List CToken) (pre n : List Nat) (c : Nat) (rest : List Nat)
    (hpre : Cl.Renders cls ts₀ pre) (hend : Cl.EndsTop cls pre) (hn : Cl.WfName cls n)
    (halnum : cls.isAlnum c = false)
    (hglyph : isLam c = false) (hlp : c ≠ cLparen) (hrp : c ≠ cRparen)
    (hws : cls.isWs c = false) (halpha : cls.isAlpha c = false) :
    parse cls (pre ++ n ++ c :: rest) .Classic
      = .err (.InvalidCharacter (pre.length + n.length) c) := by
  have hr : Cl.Renders cls (ts₀ ++ [.CName n]) (pre ++ (n ++ [])) :=
    C09C.renders_append hcls hpre (.name hn trivial .nil) (.inl hend)
  rw [List.append_nil] at hr
  rw [← List.length_append]
  exact C09_cla_invalid_char_general cls hcls _ _ c rest hr (.inr halnum) hglyph hlp hrp hws halpha

/-- inside a binder (after the glyph and a possibly empty partial name `nm`), a character other than
the dot that cannot continue the name — not a letter if `nm` is empty, not alphanumeric otherwise —
is reported likewise, after ANY rendering of complete tokens (also directly after a variable name:
either glyph ends the name; `xλ1` ↦ `InvalidCharacter 2 '1'`).  (The dot itself is reported too when
`nm` is empty: `C09_cla_empty_binder_name`.) -/
theorem C09_cla_invalid_char_binder_glyph (cls : CharCls) (hcls : Cl.ClsOk cls)
    (ts₀ : List CToken) (pre : List Nat) (g : Nat) (nm : List Nat) (c : Nat) (post : List Nat)
    (hpre : Cl.Renders cls ts₀ pre) (hg : isLam g = true)
    (hnm : ∀ a as, nm = a :: as →
      cls.isAlpha a = true ∧ a ≠ cDot ∧ ∀ d ∈ as, cls.isAlnum d = true ∧ d ≠ cDot)
    (hdot : c ≠ cDot)
    (hbad : if nm = [] then cls.isAlpha c = false else cls.isAlnum c = false) :
    parse cls (pre ++ g :: (nm ++ c :: post)) .Classic
      = .err (.InvalidCharacter (pre.length + 1 + nm.length) c) := by
  have hoff : Cl.Offending cls (pre ++ g :: nm) c := by
    cases nm with
    | nil => exact .inr (.inl ⟨ts₀, pre, g, rfl, C09C.rendersB_of_renders hpre, hg, by simpa using hbad⟩)
    | cons a as =>
      obtain ⟨ha, _, has⟩ := hnm a as rfl
      exact .inr (.inr ⟨ts₀, pre, g, a :: as, rfl, C09C.rendersB_of_renders hpre, hg,
        ⟨a, as, rfl, ha, has⟩, hdot, by simpa using hbad⟩)
  have e : (pre ++ g :: nm).length = pre.length + 1 + nm.length := by
    simp only [List.length_append, List.length_cons]; omega
  have := C09_cla_lex_error cls _ _ (C09C.lex_offending hcls hoff post)
  rwa [e, List.append_assoc, List.cons_append] at this

theorem C09_cla_invalid_char_binder (cls : CharCls) (hcls : Cl.ClsOk cls)
    (ts₀ : List CToken) (pre : List Nat) (g : Nat) (nm : List Nat) (c : Nat) (post : List Nat)
    (hpre : Cl.Renders cls ts₀ pre) (hend : Cl.EndsTop cls pre) (hg : isLam g = true)
    (hnm : ∀ a as, nm = a :: as →
      cls.isAlpha a = true ∧ a ≠ cDot ∧ ∀ d ∈ as, cls.isAlnum d = true ∧ d ≠ cDot)
    (hdot : c ≠ cDot)
    (hbad : if nm = [] then cls.isAlpha c = false else cls.isAlnum c = false) :
    parse cls (pre ++ g :: (nm ++ c :: post)) .Classic
      = .err (.InvalidCharacter (pre.length + 1 + nm.length) c) :=
  C09_cla_invalid_char_binder_glyph cls hcls ts₀ pre g nm c post hpre hg hnm hdot hbad

/-- … and for a binder opened by a backslash directly after a variable name (the backslash ends
the name) -/
theorem C09_cla_invalid_char_binder_backslash (cls : CharCls) (hcls : Cl.ClsOk cls)
    (ts₀ : List CToken) (pre : List Nat) (nm : List Nat) (c : Nat) (post : List Nat)
    (hpre : Cl.Renders cls ts₀ pre)
    (hnm : ∀ a as, nm = a :: as →
      cls.isAlpha a = true ∧ a ≠ cDot ∧ ∀ d ∈ as, cls.isAlnum d = true ∧ d ≠ cDot)
    (hdot : c ≠ cDot)
    (hbad : if nm = [] then cls.isAlpha c = false else cls.isAlnum c = false) :
    parse cls (pre ++ cBackslash :: (nm ++ c :: post)) .Classic
      = .err (.InvalidCharacter (pre.length + 1 + nm.length) c) :=
  C09_cla_invalid_char_binder_glyph cls hcls ts₀ pre cBackslash nm c post hpre (by decide) hnm hdot
    hbad

/-- A GLYPH ENDS A VARIABLE NAME (repair F11 for `λ`, F9 for the backslash): inside a
variable name (`acc` = the characters read so far), EITHER glyph ends the name — `CName acc` is
pushed — and opens a binder.  For the backslash this is because it is not alphanumeric
(`Cl.ClsOk`); the glyph `λ` IS a letter for Unicode, and is excluded from names by an explicit
test of the code. -/
theorem C09_cla_glyph_ends_name (cls : CharCls) (hcls : Cl.ClsOk cls) (acc : List Nat) (i : Nat)
    (g : Nat) (cs : List Nat) (hg : isLam g = true) :
    tokenizeClaAux cls (.name acc) i (g :: cs)
      = (CToken.CName acc :: ·) <$> tokenizeClaAux cls (.lam [] true) (i + 1) cs := by
  rw [C09C.lex_name_end (C09C.nameEnd_glyph hcls hg cs), C09C.lex_top_glyph hg]

/-- … so directly after a variable name the two glyphs are interchangeable: inside a name, the
lexer does the same on `λ …` as on `\ …`, for every classification satisfying `Cl.ClsOk` -/
theorem C09_cla_glyph_after_name_invariant (cls : CharCls) (hcls : Cl.ClsOk cls) (acc : List Nat)
    (i : Nat) (cs : List Nat) :
    tokenizeClaAux cls (.name acc) i (cLambda :: cs)
      = tokenizeClaAux cls (.name acc) i (cBackslash :: cs) := by
  rw [C09_cla_glyph_ends_name cls hcls acc i cLambda cs (by decide),
    C09_cla_glyph_ends_name cls hcls acc i cBackslash cs (by decide)]

/-- the same for `parse`: after ANY rendering `pre` of complete tokens — whether it ends at top
level or inside a variable name — the strings `pre λ …` and `pre \ …` have the same outcome (term
or error).  (Not so INSIDE A BINDER name, where `λ` is still an ordinary letter: `λxλy.x` has one
binder named `xλy`, while `λx\y.x` is `InvalidCharacter 2 '\'`; see the examples below.) -/
theorem C09_cla_glyph_after_tokens_invariant (cls : CharCls) (hcls : Cl.ClsOk cls)
    (ts₀ : List CToken) (pre s : List Nat) (hpre : Cl.Renders cls ts₀ pre) :
    parse cls (pre ++ cLambda :: s) .Classic = parse cls (pre ++ cBackslash :: s) .Classic := by
  have h : tokenizeCla cls (pre ++ cLambda :: s) = tokenizeCla cls (pre ++ cBackslash :: s) := by
    unfold tokenizeCla
    have hB := C09C.rendersB_of_renders hpre
    rw [C09C.lexB_prefix hcls hB 0 _ (Or.inr (C09C.nameEnd_glyph hcls (by decide) s)),
      C09C.lexB_prefix hcls hB 0 _ (Or.inr (C09C.nameEnd_glyph hcls (by decide) s)),
      C09C.lex_top_glyph (by decide), C09C.lex_top_glyph (by decide)]
  simp only [parse_eq, tokensFor, h]

/-- whitespace between a variable name and a following binder is optional, WHICHEVER the glyph
(generalises `C09_cla_renders_name_backslash` to `λ`): the strings `pre n ws g …` and `pre n g …`
are renderings of the same named tokens … -/
theorem C09_cla_renders_name_glyph (cls : CharCls) (hcls : Cl.ClsOk cls)
    (ts₀ cts : List CToken) (pre n ws s : List Nat) (g : Nat) (hg : isLam g = true)
    (hpre : Cl.Renders cls ts₀ pre) (hend : Cl.EndsTop cls pre) (hn : Cl.WfName cls n)
    (hws : ∀ w ∈ ws, cls.isWs w = true) (hs : Cl.Renders cls cts (g :: s)) :
    Cl.Renders cls (ts₀ ++ CToken.CName n :: cts) (pre ++ (n ++ (ws ++ g :: s))) ∧
    Cl.Renders cls (ts₀ ++ CToken.CName n :: cts) (pre ++ (n ++ g :: s)) :=
  ⟨renders_name_glyph cls hcls ts₀ cts pre n ws s g hg hpre hend hn hws hs,
   renders_name_glyph cls hcls ts₀ cts pre n [] s g hg hpre hend hn (by simp) hs⟩

/-- … hence have the same outcome (term or error) -/
theorem C09_cla_whitespace_before_glyph (cls : CharCls) (hcls : Cl.ClsOk cls)
    (ts₀ cts : List CToken) (pre n ws s : List Nat) (g : Nat) (hg : isLam g = true)
    (hpre : Cl.Renders cls ts₀ pre) (hend : Cl.EndsTop cls pre) (hn : Cl.WfName cls n)
    (hws : ∀ w ∈ ws, cls.isWs w = true) (hs : Cl.Renders cls cts (g :: s)) :
    parse cls (pre ++ (n ++ (ws ++ g :: s))) .Classic
      = parse cls (pre ++ (n ++ g :: s)) .Classic :=
  have h := C09_cla_renders_name_glyph cls hcls ts₀ cts pre n ws s g hg hpre hend hn hws hs
  C09_cla_whitespace_glyph_invariant cls hcls _ _ _ h.1 h.2

/-- AN EMPTY BINDER NAME IS A LEXICAL ERROR (repair F12): a glyph directly followed by
the dot is reported as `InvalidCharacter` AT THE DOT, for every classification in which the dot is
not a letter (`hdot`: true of Rust's `char::is_alphabetic`; `Cl.ClsOk` says nothing about the dot,
so this is a separate hypothesis, and `Cl.ClsOk` itself is not needed). -/
theorem C09_cla_empty_binder_name (cls : CharCls) (hdot : cls.isAlpha cDot = false)
    (g : Nat) (hg : isLam g = true) (i : Nat) (cs : List Nat) :
    tokenizeClaAux cls .top i (g :: cDot :: cs) = .error (.InvalidCharacter (i + 1) cDot) := by
  rw [C09C.lex_top_glyph hg, C09C.lex_lam_first_bad hdot]

/-- … so `parse` returns that error on every input that starts with an empty binder … -/
theorem C09_cla_empty_binder_name_parse (cls : CharCls) (hdot : cls.isAlpha cDot = false)
    (g : Nat) (hg : isLam g = true) (cs : List Nat) :
    parse cls (g :: cDot :: cs) .Classic = .err (.InvalidCharacter 1 cDot) :=
  C09_cla_lex_error cls _ _ (C09_cla_empty_binder_name cls hdot g hg 0 cs)

/-- … and wherever an empty binder follows ANY rendering `pre` of complete tokens (also directly
after a variable name, which the glyph ends): the dot is reported with its character index -/
theorem C09_cla_empty_binder_name_after (cls : CharCls) (hcls : Cl.ClsOk cls)
    (hdot : cls.isAlpha cDot = false) (ts₀ : List CToken) (pre : List Nat) (g : Nat)
    (post : List Nat) (hpre : Cl.Renders cls ts₀ pre) (hg : isLam g = true) :
    parse cls (pre ++ g :: cDot :: post) .Classic
      = .err (.InvalidCharacter (pre.length + 1) cDot) := by
  have := C09_cla_lex_error cls _ _ (C09C.lex_offending hcls
    (.inr (.inl ⟨ts₀, pre, g, rfl, C09C.rendersB_of_renders hpre, hg, hdot⟩)) post)
  simpa using this

section
open C09C.Examples (asciiCls asciiCls_ok wf_x)

-- The ground examples from here on are evaluated by the kernel (`by decide +kernel`); that two results of a lexer or of
-- the parser are equal is decidable by `C09D.decEqResult`, switched on for them.
attribute [local instance] C09D.decEqResult

/-- `C09_cla_glyph_ends_name` on `xλy.y` and `x\y.y` (the lexer is inside the name `x`, at
character 1): `CName x`, then the binder -/
example : tokenizeClaAux asciiCls (.name [120]) 1 [955, 121, 46, 121]
    = (CToken.CName [120] :: ·) <$> tokenizeClaAux asciiCls (.lam [] true) 2 [121, 46, 121] :=
  C09_cla_glyph_ends_name asciiCls asciiCls_ok [120] 1 955 _ (by decide)
example : tokenizeClaAux asciiCls (.name [120]) 1 [92, 121, 46, 121]
    = (CToken.CName [120] :: ·) <$> tokenizeClaAux asciiCls (.lam [] true) 2 [121, 46, 121] :=
  C09_cla_glyph_ends_name asciiCls asciiCls_ok [120] 1 92 _ (by decide)

/-- `xλy.y` lexes exactly as `x\y.y`: `x`, `λy.`, `y` (by evaluation, and from the theorems) -/
example : tokenizeCla asciiCls [120, 955, 121, 46, 121]
    = .ok [.CName [120], .CLambda [121], .CName [121]] := by decide +kernel
example : tokenizeCla asciiCls [120, 955, 121, 46, 121]
    = tokenizeCla asciiCls [120, 92, 121, 46, 121] := by decide +kernel
example : tokenizeClaAux asciiCls (.name [120]) 1 (cLambda :: [121, 46, 121])
    = tokenizeClaAux asciiCls (.name [120]) 1 (cBackslash :: [121, 46, 121]) :=
  C09_cla_glyph_after_name_invariant asciiCls asciiCls_ok [120] 1 _
example : parse asciiCls ([120] ++ cLambda :: [121, 46, 121]) .Classic
    = parse asciiCls ([120] ++ cBackslash :: [121, 46, 121]) .Classic :=
  C09_cla_glyph_after_tokens_invariant asciiCls asciiCls_ok [.CName [120]] [120] _
    (.name (n := [120]) wf_x trivial .nil)

/-- `xλ1`: the binder opened by `λ` directly after a name is validated; `1` is character 2 -/
example : parse asciiCls ([120] ++ 955 :: ([] ++ 49 :: [])) .Classic
    = .err (.InvalidCharacter 2 49) :=
  C09_cla_invalid_char_binder_glyph asciiCls asciiCls_ok [.CName [120]] [120] 955 [] 49 []
    (.name (n := [120]) wf_x trivial .nil) (by decide) (by intro a as h; cases h) (by decide)
    (by decide)

/-- `λ.x`, `\.x`: an empty binder name; the dot is character 1 -/
example : tokenizeClaAux asciiCls .top 0 (955 :: cDot :: [120])
    = .error (.InvalidCharacter (0 + 1) cDot) :=
  C09_cla_empty_binder_name asciiCls (by decide) 955 (by decide) 0 _
example : parse asciiCls (955 :: cDot :: [120]) .Classic = .err (.InvalidCharacter 1 cDot) :=
  C09_cla_empty_binder_name_parse asciiCls (by decide) 955 (by decide) _
example : parse asciiCls (92 :: cDot :: [120]) .Classic = .err (.InvalidCharacter 1 cDot) :=
  C09_cla_empty_binder_name_parse asciiCls (by decide) 92 (by decide) _
example : parse asciiCls [955, 46, 120] .Classic = .err (.InvalidCharacter 1 46) :=
  parse_of_cur (r := .error _) (by decide +kernel)

/-- `xλ.x`: an empty binder directly after a name; the dot is character 2 -/
example : parse asciiCls ([120] ++ 955 :: cDot :: [120]) .Classic
    = .err (.InvalidCharacter (1 + 1) cDot) :=
  C09_cla_empty_binder_name_after asciiCls asciiCls_ok (by decide) [.CName [120]] [120] 955 [120]
    (.name (n := [120]) wf_x trivial .nil) (by decide)

/-- an unterminated (possibly empty) binder at the end of the input is
pushed as it is (`λx`, `λ`; the token-level stage then rejects the empty body), and INSIDE A BINDER
name `λ` is an ordinary letter (`λxλy.x` has ONE binder, named `xλy`; `\λ.x` has a binder named
`λ`) whereas the backslash is not (`λx\y.x` ↦ `InvalidCharacter 2 '\'`) -/
example : tokenizeCla asciiCls [955, 120] = .ok [.CLambda [120]] := by decide +kernel
example : tokenizeCla asciiCls [955] = .ok [.CLambda []] := by decide +kernel
example : tokenizeCla asciiCls [955, 120, 955, 121, 46, 120]
    = .ok [.CLambda [120, 955, 121], .CName [120]] := by decide +kernel
example : tokenizeCla asciiCls [92, 955, 46, 120] = .ok [.CLambda [955], .CName [120]] := by decide +kernel
example : tokenizeCla asciiCls [955, 120, 92, 121, 46, 120]
    = .error (.InvalidCharacter 2 92) := by decide +kernel

end


/-- corresponding inputs in the two notations give the same result: a Classic input whose named
tokens resolve to the De Bruijn tokens of a De Bruijn input has the same outcome -/
theorem C09_notations_agree (cls : CharCls) (s s' : List Nat) (cts : List CToken)
    (ts : List Token) (hc : tokenizeCla cls s = .ok cts) (hd : tokenizeDbr cls s' = .ok ts)
    (hr : Cl.resolveAll cts = some ts) :
    parse cls s .Classic = parse cls s' .DeBruijn := by
  rw [parse_eq, parse_eq, tokensFor_cla hc hr, tokensFor, hd]

/-- tree level, on tokens (no restriction on the indices): the named tokens of the printing of a
named term resolve to the De Bruijn printing of its translation, and that printing is read back by
the token-level parser as the translation -/
theorem C09_notations_agree_tokens (t : Cl.NTerm) (ctx : Nat) :
    Cl.resolveAll (Cl.printN t ctx) = some (Cl.printD (Cl.toDeBruijn t) ctx) ∧
    parseTokens (Cl.printD (Cl.toDeBruijn t) ctx) = .ok (Cl.toDeBruijn t) :=
  ⟨resolve_print_toDB t ctx, C09C.parseTokens_printD _ ctx⟩

/-- the same for all admissible printings (any redundant parentheses, the same on both sides) -/
theorem C09_notations_agree_prints {t : Cl.NTerm} {arg fin : Bool} {cts : List CToken}
    (h : Cl.PrintsN t arg fin cts) :
    ∃ dts, Cl.resolveAll cts = some dts ∧ Cl.PrintsD (Cl.toDeBruijn t) arg fin dts ∧
      parseTokens dts = .ok (Cl.toDeBruijn t) := by
  obtain ⟨dts, h1, h2⟩ := resolve_prints_toDB h
  exact ⟨dts, h1, h2, C09C.parseTokens_prints h2⟩

/-- every admissible printing of a De Bruijn term (any indices, any redundant parentheses) is a
well-formed expression denoting that term -/
theorem C09_prints_wellformed {t : Term} {arg fin : Bool} {dts : List Token}
    (h : Cl.PrintsD t arg fin dts) : Gr.DExpr dts t :=
  (C09C.dexpr_of_printsD h).1

/-- tree level, on strings: ANY De Bruijn input `s'` whose tokens are an admissible printing of the
translation of `t`, and ANY rendering `s` of an admissible printing of the named term `t`, parse
(each in its notation) to the same term, the translation of `t` -/
theorem C09_notations_agree_strings (cls : CharCls) (hcls : Cl.ClsOk cls) (t : Cl.NTerm)
    (arg fin arg' fin' : Bool) (cts : List CToken) (s : List Nat) (dts : List Token) (s' : List Nat)
    (hp : Cl.PrintsN t arg fin cts) (hr : Cl.Renders cls cts s)
    (hp' : Cl.PrintsD (Cl.toDeBruijn t) arg' fin' dts) (hd : tokenizeDbr cls s' = .ok dts) :
    parse cls s .Classic = .ok (Cl.toDeBruijn t) ∧ parse cls s' .DeBruijn = .ok (Cl.toDeBruijn t) := by
  refine ⟨parse_cla_prints cls hcls t arg fin cts s hp hr, ?_⟩
  exact (parse_ok_of_tokens (n := .DeBruijn) hd _).2 (C09C.dexpr_of_printsD hp').1

/-- tree level, with the crate's own De Bruijn printer (`Display.debug`, one hexadecimal digit per
index, hence the restriction to indices in 1..=15): the Debug output of the translation of `t`
lexes to the De Bruijn token printing of the translation — the tokens which the Classic printing
of `t` resolves to — and parses, in De Bruijn notation, to the same term as any rendering of any
admissible Classic printing of `t` -/
theorem C09_notations_agree_tree (cls : CharCls) (hcls : Cl.ClsOk cls) (hx : C11.HexOk cls)
    (lam : Nat) (hl : lam = 955 ∨ lam = 92) (t : Cl.NTerm)
    (hs : smallIdx (Cl.toDeBruijn t) = true)
    (arg fin : Bool) (cts : List CToken) (s : List Nat)
    (hp : Cl.PrintsN t arg fin cts) (hr : Cl.Renders cls cts s) :
    tokenizeDbr cls (Display.debug lam (Cl.toDeBruijn t)) = .ok (Cl.printD (Cl.toDeBruijn t) 0) ∧
    Cl.resolveAll (Cl.printN t 0) = some (Cl.printD (Cl.toDeBruijn t) 0) ∧
    parse cls s .Classic = parse cls (Display.debug lam (Cl.toDeBruijn t)) .DeBruijn ∧
    parse cls s .Classic = .ok (Cl.toDeBruijn t) := by
  have h1 := C11.lex_debug cls hx lam hl _ hs
  have h2 := parse_cla_prints cls hcls t arg fin cts s hp hr
  have h3 : parse cls (Display.debug lam (Cl.toDeBruijn t)) .DeBruijn = .ok (Cl.toDeBruijn t) :=
    dbr_stages h1 (congrArg Outcome.ofResult (C09C.parseTokens_printD _ 0))
  exact ⟨h1, resolve_print_toDB t 0, h2.trans h3.symm, h2⟩


/-- De Bruijn notation: a successful parse has derived the WHOLE token list of the input -/
theorem C09_no_truncation_dbr (cls : CharCls) (s : List Nat) (t : Term)
    (h : parse cls s .DeBruijn = .ok t) :
    tokenizeDbr cls s = .ok (Gr.tokensOf cls s) ∧ Gr.DExpr (Gr.tokensOf cls s) t := by
  obtain ⟨hv, hd⟩ := (C09_dbr_ok_iff cls s t).1 h
  exact ⟨(tokenizeDbr_spec cls s _).2 ⟨hv, rfl⟩, hd⟩

/-- Classic notation: the Rust conversion stops at an unmatched `)` (its output is then a proper
prefix of the input); such an input is an `Err`, not a parse of the prefix -/
theorem C09_cla_unmatched_rparen (cls : CharCls) (s : List Nat) (cts : List CToken)
    (h : tokenizeCla cls s = .ok cts) (hc : Cl.closesOk cts 0 = false) :
    ∃ e, parse cls s .Classic = .err e := by
  obtain ⟨ts, hts⟩ := C09_cla_resolve_total cts
  rw [C09_cla_err_iff cls s cts ts h hts]
  rintro ⟨t, ht⟩
  exact C09.unmatched_not_DExpr cts ts hts hc t ht

/-- Classic notation: a successful parse has derived a token list with exactly one token per named
token of the input, of the same kind (`Lambda`↔binder, parentheses↔parentheses, `Number`↔name):
nothing was cut off at an unmatched `)` -/
theorem C09_no_truncation_cla (cls : CharCls) (s : List Nat) (cts : List CToken) (t : Term)
    (hp : parse cls s .Classic = .ok t) (hc : tokenizeCla cls s = .ok cts) :
    ∃ ts, Cl.resolveAll cts = some ts ∧ ts.length = cts.length ∧
      ts.map Cl.shape = cts.map Cl.cshape ∧ Cl.closesOk cts 0 = true ∧ Gr.DExpr ts t := by
  obtain ⟨ts, hts⟩ := C09_cla_resolve_total cts
  have hd : Gr.DExpr ts t := (C09_cla_ok_iff cls s cts ts t hc hts).1 hp
  have hok : Cl.closesOk cts 0 = true := by
    cases hcl : Cl.closesOk cts 0 with
    | true => rfl
    | false => exact absurd hd (C09.unmatched_not_DExpr cts ts hts hcl t)
  obtain ⟨toks, h1, h2, h3⟩ := convert_length cts hok
  rw [convert_eq_resolve, hts] at h1
  cases h1
  exact ⟨ts, hts, h2, h3, hok, hd⟩

/-- the well-formed named-token lists are exactly the admissible printings of named terms (at
whole-expression position: `arg = false`, `fin = true`) -/
theorem C09_cla_wellformed_iff_printing (cts : List CToken) :
    (∃ u, Gr.DExpr (cts.map Cl.cshape) u) ↔ ∃ t, Cl.PrintsN t false true cts := by
  constructor
  · rintro ⟨u, hu⟩
    exact C09.prints_of_DExpr hu cts (C09.map_shape_cshape cts).symm
  · rintro ⟨t, ht⟩
    obtain ⟨u, hu⟩ := C09.printsD_of_printsN ht
    exact ⟨u, (C09C.dexpr_of_printsD hu).1⟩

/-- C09, Classic notation, "succeeds exactly when the input is well-formed": whether a Classic
input parses depends only on the SHAPE of its named tokens (`Cl.cshape`: binder ↦ `λ`, parentheses,
name ↦ an index) — it parses iff that shape is a well-formed expression of the grammar -/
theorem C09_cla_wellformed_iff (cls : CharCls) (s : List Nat) (cts : List CToken)
    (h : tokenizeCla cls s = .ok cts) :
    (∃ t, parse cls s .Classic = .ok t) ↔ ∃ u, Gr.DExpr (cts.map Cl.cshape) u := by
  rw [C09_cla_wellformed_iff_printing]
  constructor
  · rintro ⟨t, ht⟩
    obtain ⟨ts, _, _, h3, _, h5⟩ := C09_no_truncation_cla cls s cts t ht h
    exact C09.prints_of_DExpr h5 cts h3.symm
  · rintro ⟨nt, hp⟩
    exact ⟨_, parse_cla_of_lex_prints h hp⟩

/-- for inputs composed of the documented lexical elements: `parse` succeeds exactly when the shape
of the named tokens is a well-formed expression -/
theorem C09_cla_rendered_wellformed_iff (cls : CharCls) (hcls : Cl.ClsOk cls) (cts : List CToken)
    (s : List Nat) (hr : Cl.Renders cls cts s) :
    (∃ t, parse cls s .Classic = .ok t) ↔ ∃ u, Gr.DExpr (cts.map Cl.cshape) u :=
  C09_cla_wellformed_iff cls s cts (tokenizeCla_render cls hcls cts s hr)

/-- C09, Classic notation, complete form.  For every input `s` composed of the documented lexical
elements (a rendering of named tokens `cts`):
* `parse` succeeds exactly when `cts` is an admissible printing of some named term, i.e.
  (`C09_cla_wellformed_iff_printing`) exactly when the input is well-formed;
* and then, for EVERY named term `nt` that `cts` is a printing of, the result is the standard
  De Bruijn translation of `nt` (so all such `nt` have the same translation) -/
theorem C09_cla_complete (cls : CharCls) (hcls : Cl.ClsOk cls) (cts : List CToken) (s : List Nat)
    (hr : Cl.Renders cls cts s) :
    ((∃ t, parse cls s .Classic = .ok t) ↔ ∃ nt, Cl.PrintsN nt false true cts) ∧
    (∀ nt, Cl.PrintsN nt false true cts → parse cls s .Classic = .ok (Cl.toDeBruijn nt)) :=
  ⟨(C09_cla_rendered_wellformed_iff cls hcls cts s hr).trans (C09_cla_wellformed_iff_printing cts),
   fun nt hp => parse_cla_prints cls hcls nt false true cts s hp hr⟩

/-- C09, no silently truncated parse, both notations: whenever `parse` succeeds, the WHOLE token
list of the input is derived in the grammar -/
theorem C09_no_truncation (cls : CharCls) (s : List Nat) (n : Notation) (t : Term)
    (h : parse cls s n = .ok t) :
    match n with
    | .DeBruijn => tokenizeDbr cls s = .ok (Gr.tokensOf cls s) ∧ Gr.DExpr (Gr.tokensOf cls s) t
    | .Classic => ∃ cts ts, tokenizeCla cls s = .ok cts ∧ Cl.resolveAll cts = some ts ∧
        ts.length = cts.length ∧ ts.map Cl.shape = cts.map Cl.cshape ∧ Gr.DExpr ts t := by
  cases n with
  | DeBruijn => exact C09_no_truncation_dbr cls s t h
  | Classic =>
    cases hc : tokenizeCla cls s with
    | error e => rw [C09_cla_lex_error cls s e hc] at h; cases h
    | ok cts =>
      obtain ⟨ts, h1, h2, h3, _, h4⟩ := C09_no_truncation_cla cls s cts t h hc
      exact ⟨cts, ts, rfl, h1, h2, h3, h4⟩

/-- C09: no string whatsoever makes `parse` panic.  `.panic` of the model stands for the one checked operation of the
single pass, `stack.len() - inner_stack_count` in `_convert_classic_tokens`; the other partial operations of
`src/parser.rs` are in the cursor model (`C09Cursor.lean`). -/
theorem C09_no_panic (cls : CharCls) (s : List Nat) (n : Notation) : parse cls s n ≠ .panic := by
  rw [parse_eq]
  exact ofResult_ne_panic _

theorem C09_ok_or_err (cls : CharCls) (s : List Nat) (n : Notation) :
    (∃ t, parse cls s n = .ok t) ∨ (∃ e, parse cls s n = .err e) := by
  cases h : parse cls s n with
  | ok t => exact .inl ⟨t, rfl⟩
  | err e => exact .inr ⟨e, rfl⟩
  | panic => exact absurd h (C09_no_panic cls s n)

/-! ## non-vacuity: concrete inputs

Code points: `λ` 955, `\` 92, `(` 40, `)` 41, `.` 46, space 32, `#` 35, `0`..`9` 48..57,
`a` 97, `b` 98, `x` 120, `y` 121, `z` 122.  The classification is the ASCII (+ `λ`) one of
`LC/Proofs/Syntax/Classic.lean`. -/

namespace C09.Examples
open C09C.Examples (asciiCls asciiCls_ok asciiCls_dot nameEnd_of wf_single wf_x wf_y renders₁ renders₂ renders₆
  renders₇)
open Parser.CToken Parser.Token Cl.NTerm

attribute [local instance] C09D.decEqResult

theorem asciiCls_hexOk : C11.HexOk asciiCls where
  digit := by decide


/-- `λλλ31(21)` -/
theorem ex_S : parse asciiCls [955, 955, 955, 51, 49, 40, 50, 49, 41] .DeBruijn
    = .ok (abs (abs (abs (app (app (var 3) (var 1)) (app (var 2) (var 1)))))) :=
  parse_of_cur (r := .ok _) (by decide +kernel)

/-- hence that string is well-formed and denotes the S combinator (`C09_dbr_ok_iff`, →) … -/
example : Gr.Denotes asciiCls [955, 955, 955, 51, 49, 40, 50, 49, 41]
    (abs (abs (abs (app (app (var 3) (var 1)) (app (var 2) (var 1)))))) :=
  (C09_dbr_ok_iff _ _ _).1 ex_S

/-- … and conversely a derivation in the grammar gives the parse (`C09_dbr_ok_iff`, ←):
`1λ2` ↦ `app (var 1) (abs (var 2))`, the abstraction being the last argument of the spine -/
example : parse asciiCls [49, 955, 50] .DeBruijn = .ok (app (var 1) (abs (var 2))) :=
  (C09_dbr_ok_iff _ _ _).2 ⟨by decide,
    Gr.DExpr.tailLam (ts := [Number 1]) (.one (.idx 1)) (.atoms (.one (.idx 2)))⟩

example : parse asciiCls [49, 955, 50] .DeBruijn = .ok (app (var 1) (abs (var 2))) :=
  parse_of_cur (r := .ok _) (by decide +kernel)

/-- ` \ \λ (3 1)((2) 1) `: white space, glyphs and redundant parentheses change nothing -/
example : parse asciiCls
      [32, 92, 32, 92, 955, 32, 40, 51, 32, 49, 41, 40, 40, 50, 41, 32, 49, 41, 32] .DeBruijn
    = .ok (abs (abs (abs (app (app (var 3) (var 1)) (app (var 2) (var 1)))))) :=
  parse_of_cur (r := .ok _) (by decide +kernel)

/-- `(λλλ31(21))` by `C09_redundant_parens_whole_str` -/
example : parse asciiCls (40 :: [955, 955, 955, 51, 49, 40, 50, 49, 41] ++ [41]) .DeBruijn
    = .ok (abs (abs (abs (app (app (var 3) (var 1)) (app (var 2) (var 1)))))) :=
  C09_redundant_parens_whole_str _ _ _ ex_S

/-- `λλλ3(1)(21)` by `C09_redundant_parens_atom_str` (parentheses around the atom `1`) -/
example : parse asciiCls ([955, 955, 955, 51] ++ (40 :: [49] ++ [41]) ++ [40, 50, 49, 41]) .DeBruijn
    = .ok (abs (abs (abs (app (app (var 3) (var 1)) (app (var 2) (var 1)))))) :=
  (C09_redundant_parens_atom_str asciiCls [955, 955, 955, 51] [49] [40, 50, 49, 41] (var 1) _
    (Gr.DAtom.idx 1)).2 ex_S

/-- `\λλ31(21)` by `C09_dbr_glyph_invariant` -/
example : parse asciiCls ([] ++ 92 :: [955, 955, 51, 49, 40, 50, 49, 41]) .DeBruijn
    = .ok (abs (abs (abs (app (app (var 3) (var 1)) (app (var 2) (var 1)))))) :=
  (C09_dbr_glyph_invariant asciiCls [] _).symm.trans ex_S

/-- `λ λλ31(21)` by `C09_dbr_whitespace_invariant` -/
example : parse asciiCls ([955] ++ 32 :: [955, 955, 51, 49, 40, 50, 49, 41]) .DeBruijn
    = .ok (abs (abs (abs (app (app (var 3) (var 1)) (app (var 2) (var 1)))))) :=
  (C09_dbr_whitespace_invariant asciiCls [955] _ 32 (by decide) (by decide) _).2 ex_S

/-- left-associative application and grouping: `1 2 3`, `1(2 3)` -/
example : parse asciiCls [49, 32, 50, 32, 51] .DeBruijn = .ok (app (app (var 1) (var 2)) (var 3)) :=
  parse_of_cur (r := .ok _) (by decide +kernel)
example : parse asciiCls [49, 40, 50, 32, 51, 41] .DeBruijn = .ok (app (var 1) (app (var 2) (var 3))) :=
  parse_of_cur (r := .ok _) (by decide +kernel)

/-- `(1`: unclosed parenthesis -/
theorem ex_unclosed : parse asciiCls [40, 49] .DeBruijn = .err .InvalidExpression :=
  parse_of_cur (r := .error _) (by decide +kernel)

/-- `1)2`: unmatched closing parenthesis — an `Err`, not a parse of the prefix `1` -/
theorem ex_unmatched : parse asciiCls [49, 41, 50] .DeBruijn = .err .InvalidExpression :=
  parse_of_cur (r := .error _) (by decide +kernel)

/-- so these strings are not well-formed (`C09_dbr_err_iff`) -/
example : ¬ ∃ t, Gr.Denotes asciiCls [40, 49] t := (C09_dbr_err_iff _ _).1 ⟨_, ex_unclosed⟩
example : ¬ ∃ t, Gr.Denotes asciiCls [49, 41, 50] t := (C09_dbr_err_iff _ _).1 ⟨_, ex_unmatched⟩

/-- the empty input, `()`, `λ`, `1λ`, `λ)`: empty expression / group / body -/
example : parse asciiCls [] .DeBruijn = .err .EmptyExpression :=
  parse_of_cur (r := .error _) (by decide +kernel)
example : parse asciiCls [32, 32] .DeBruijn = .err .EmptyExpression :=
  parse_of_cur (r := .error _) (by decide +kernel)
example : parse asciiCls [40, 41] .DeBruijn = .err .EmptyExpression :=
  parse_of_cur (r := .error _) (by decide +kernel)
example : parse asciiCls [955] .DeBruijn = .err .EmptyExpression :=
  parse_of_cur (r := .error _) (by decide +kernel)
example : parse asciiCls [49, 955] .DeBruijn = .err .EmptyExpression :=
  parse_of_cur (r := .error _) (by decide +kernel)
example : ∃ e, parseTokens ([Lparen] ++ Lambda :: Rparen :: []) = .error e :=
  (C09_empty_rejected [Lparen] []).2.2.1

/-- `λ1x2`: `x` (120) is not a token character; it is character number 2 -/
example : parse asciiCls ([955, 49] ++ 120 :: [50]) .DeBruijn = .err (.InvalidCharacter 2 120) :=
  C09_dbr_invalid_char asciiCls [955, 49] [50] 120 (by decide) (by decide)
example : parse asciiCls [955, 49, 120, 50] .DeBruijn = .err (.InvalidCharacter 2 120) :=
  parse_of_cur (r := .error _) (by decide +kernel)

/-- no truncation: the whole token list `λ λ λ 3 1 ( 2 1 )` is derived -/
example : Gr.DExpr [Lambda, Lambda, Lambda, Number 3, Number 1, Lparen, Number 2, Number 1, Rparen]
    (abs (abs (abs (app (app (var 3) (var 1)) (app (var 2) (var 1)))))) :=
  (C09_no_truncation_dbr _ _ _ ex_S).2


theorem wf_a : Cl.WfName asciiCls [97] :=
  wf_single 97 (by decide) (by decide) (by decide)

/-- the named term `λx.λy.x y z` -/
def t₁ : Cl.NTerm := nlam [120] (nlam [121] (napp (napp (nvar [120]) (nvar [121])) (nvar [122])))

/-- the named term `a λb.b a` = `a (λb.b a)` -/
def t₂ : Cl.NTerm := napp (nvar [97]) (nlam [98] (napp (nvar [98]) (nvar [97])))

/-- bound names count binders from the inside; the free `z` is numbered above the two binders -/
example : Cl.toDeBruijn t₁ = abs (abs (app (app (var 2) (var 1)) (var 3))) := by decide
/-- the free `a` is `1` at top level and `2` under the binder -/
example : Cl.toDeBruijn t₂ = app (var 1) (abs (app (var 1) (var 2))) := by decide
/-- shadowing, `λx.λx.x` ↦ `λλ1`: a name resolves to its innermost binder -/
example : Cl.toDeBruijn (nlam [120] (nlam [120] (nvar [120]))) = abs (abs (var 1)) := by decide
/-- free names in order of first appearance: `b a b` ↦ `1 2 1` -/
example : Cl.toDeBruijn (napp (napp (nvar [98]) (nvar [97])) (nvar [98]))
    = app (app (var 1) (var 2)) (var 1) := by decide

/-- `λx.λy.x y z` (`C09_cla_denotes` on the rendering `renders₁` of the crate's printing) -/
theorem ex_cla₁ : parse asciiCls [955, 120, 46, 955, 121, 46, 120, 32, 121, 32, 122] .Classic
    = .ok (abs (abs (app (app (var 2) (var 1)) (var 3)))) :=
  C09_cla_denotes_print asciiCls asciiCls_ok t₁ 0 _ renders₁

/-- `  \x. \y.x  y z ` (other glyph, other whitespace): same result, by the theorem and by
`C09_cla_whitespace_glyph_invariant` -/
example : parse asciiCls [32, 32, 92, 120, 46, 32, 92, 121, 46, 120, 32, 32, 121, 32, 122, 32] .Classic
    = .ok (abs (abs (app (app (var 2) (var 1)) (var 3)))) :=
  C09_cla_denotes_print asciiCls asciiCls_ok t₁ 0 _ renders₂
example : parse asciiCls [32, 32, 92, 120, 46, 32, 92, 121, 46, 120, 32, 32, 121, 32, 122, 32] .Classic
    = parse asciiCls [955, 120, 46, 955, 121, 46, 120, 32, 121, 32, 122] .Classic :=
  C09_cla_whitespace_glyph_invariant asciiCls asciiCls_ok _ _ _ renders₂ renders₁

/-- `x\y.y`: a backslash ends a variable name and opens a binder — the string lexes as `x`, `\y.`,
`y` and denotes `x (λy.y)` (`C09_cla_backslash_ends_name`, by evaluation of the model).  Here from the general theorem
`C09_cla_denotes`: `x\y.y` is a rendering (`renders₆`) of an admissible printing of the named term `x (λy.y)` -/
example : parse asciiCls [120, 92, 121, 46, 121] .Classic
    = .ok (Cl.toDeBruijn (napp (nvar [120]) (nlam [121] (nvar [121])))) :=
  C09_cla_denotes asciiCls asciiCls_ok _ false true _ _
    (.app (c₁ := [_]) (c₂ := [_, _]) .var (.lam .var)) renders₆

/-- `x  \y.y` (whitespace inserted) has the same outcome (`C09_cla_whitespace_before_backslash`) -/
example : parse asciiCls ([] ++ ([120] ++ ([32, 32] ++ 92 :: [121, 46, 121]))) .Classic
    = parse asciiCls ([] ++ ([120] ++ 92 :: [121, 46, 121])) .Classic :=
  C09_cla_whitespace_before_backslash asciiCls asciiCls_ok [] [CLambda [121], CName [121]]
    [] [120] [32, 32] [121, 46, 121] .nil (by intro c h; simp at h) wf_x (by decide)
    (.lam (g := 92) (n := [121]) (by decide) wf_y (.name (n := [121]) wf_y trivial .nil))

/-- the other glyph `λ`, although a letter, ends a variable name too (repair F11):
`xλy.y` lexes as `x`, `λy.`, `y` — the same tokens as `x\y.y` — and denotes `x (λy.y)`
(`C09_cla_lambda_ends_name`, by evaluation of the model).  Here from the general theorem `C09_cla_denotes`: `xλy.y` is a
rendering (`renders₇`) of an admissible printing of the named term `x (λy.y)` … -/
example : parse asciiCls [120, 955, 121, 46, 121] .Classic
    = .ok (Cl.toDeBruijn (napp (nvar [120]) (nlam [121] (nvar [121])))) :=
  C09_cla_denotes asciiCls asciiCls_ok _ false true _ _
    (.app (c₁ := [_]) (c₂ := [_, _]) .var (.lam .var)) renders₇

/-- … and `xλy.y`, `x\y.y` are two renderings of the same named tokens, hence parse alike
(`C09_cla_whitespace_glyph_invariant`) -/
example : parse asciiCls [120, 955, 121, 46, 121] .Classic
    = parse asciiCls [120, 92, 121, 46, 121] .Classic :=
  C09_cla_whitespace_glyph_invariant asciiCls asciiCls_ok _ _ _ renders₇ renders₆

/-- `x  λy.y` (whitespace inserted) has the same outcome (`C09_cla_whitespace_before_glyph`) -/
example : parse asciiCls ([] ++ ([120] ++ ([32, 32] ++ 955 :: [121, 46, 121]))) .Classic
    = parse asciiCls ([] ++ ([120] ++ 955 :: [121, 46, 121])) .Classic :=
  C09_cla_whitespace_before_glyph asciiCls asciiCls_ok [] [CLambda [121], CName [121]]
    [] [120] [32, 32] [121, 46, 121] 955 (by decide) .nil (by intro c h; simp at h) wf_x (by decide)
    (.lam (g := 955) (n := [121]) (by decide) wf_y (.name (n := [121]) wf_y trivial .nil))

/-- `xλy` alone is the name `x` followed by the unterminated binder `λy`, whose body is empty -/
example : parse asciiCls [120, 955, 121] .Classic = .err .EmptyExpression :=
  parse_of_cur (r := .error _) (by decide +kernel)

/-- junk directly after a name (`C09_cla_junk_dot`, `C09_cla_junk_hash`, `C09_cla_junk_minus`: `x.y`, `x#`, `λx.x-`, by
evaluation of the model).  Here `λx.x-` from the general theorem `C09_cla_junk_after_name`: it is the rendering `λx.` of
a binder (ending at top level, with its dot), the name `x`, and the character `-` (45) -/
example : parse asciiCls ([955, 120, 46] ++ [120] ++ 45 :: []) .Classic
    = .err (.InvalidCharacter (3 + 1) 45) :=
  C09_cla_junk_after_name asciiCls asciiCls_ok [CLambda [120]] [955, 120, 46] [120] 45 []
    (.lam (g := 955) (n := [120]) (by decide) wf_x .nil)
    (by intro c h; simp at h; subst h; decide) wf_x
    (by decide) (by decide) (by decide) (by decide) (by decide) (by decide)

/-- … and `x.y`: empty prefix, the name `x`, the dot -/
example : parse asciiCls ([] ++ [120] ++ 46 :: [121]) .Classic
    = .err (.InvalidCharacter (0 + 1) 46) :=
  C09_cla_junk_after_name asciiCls asciiCls_ok [] [] [120] 46 [121] .nil
    (by intro c h; simp at h) wf_x
    (by decide) (by decide) (by decide) (by decide) (by decide) (by decide)

/-- `x\1`: the binder opened by the backslash is validated; `1` is character number 2 -/
example : parse asciiCls ([120] ++ 92 :: ([] ++ 49 :: [])) .Classic
    = .err (.InvalidCharacter 2 49) :=
  C09_cla_invalid_char_binder_backslash asciiCls asciiCls_ok [CName [120]] [120] [] 49 []
    (.name (n := [120]) wf_x trivial .nil) (by intro a as h; cases h) (by decide) (by decide)

/-- `a λb.b a` is a rendering of its tokens … -/
theorem renders₃ : Cl.Renders asciiCls [CName [97], CLambda [98], CName [98], CName [97]]
    [97, 32, 955, 98, 46, 98, 32, 97] :=
  C09A.renders_of_lex asciiCls_ok asciiCls_dot (by decide +kernel)

/-- … which are an admissible printing of `t₂`: the abstraction stays bare in final position -/
theorem prints₃ : Cl.PrintsN t₂ false true [CName [97], CLambda [98], CName [98], CName [97]] :=
  .app (c₁ := [_]) (c₂ := [_, _, _]) .var (.lam (.app (c₁ := [_]) (c₂ := [_]) .var .var))

/-- `a λb.b a` ↦ `1 λ 1 2` (`C09_cla_denotes`) -/
theorem ex_cla₂ : parse asciiCls [97, 32, 955, 98, 46, 98, 32, 97] .Classic
    = .ok (app (var 1) (abs (app (var 1) (var 2)))) :=
  C09_cla_denotes asciiCls asciiCls_ok t₂ false true _ _ prints₃ renders₃

/-- the same by one run of the cursor model -/
example : parse asciiCls [97, 32, 955, 98, 46, 98, 32, 97] .Classic
    = .ok (app (var 1) (abs (app (var 1) (var 2)))) :=
  parse_of_cur (r := .ok _) (by decide +kernel)

/-- `(a) (\b.((b) a))`: redundant parentheses (and the other glyph) change nothing -/
theorem renders₄ : Cl.Renders asciiCls
    [CLparen, CName [97], CRparen, CLparen, CLambda [98], CLparen, CLparen, CName [98], CRparen,
      CName [97], CRparen, CRparen]
    [40, 97, 41, 32, 40, 92, 98, 46, 40, 40, 98, 41, 32, 97, 41, 41] :=
  C09A.renders_of_lex asciiCls_ok asciiCls_dot (by decide +kernel)

theorem prints₄ : Cl.PrintsN t₂ false true
    [CLparen, CName [97], CRparen, CLparen, CLambda [98], CLparen, CLparen, CName [98], CRparen,
      CName [97], CRparen, CRparen] :=
  .app (c₁ := [_, _, _]) (c₂ := [_, _, _, _, _, _, _, _, _]) (.paren (cts := [_]) .var)
    (.paren (cts := [_, _, _, _, _, _, _]) (.lam (.paren (cts := [_, _, _, _])
      (.app (c₁ := [_, _, _]) (c₂ := [_]) (.paren (cts := [_]) .var) .var))))

example : parse asciiCls [40, 97, 41, 32, 40, 92, 98, 46, 40, 40, 98, 41, 32, 97, 41, 41] .Classic
    = .ok (app (var 1) (abs (app (var 1) (var 2)))) :=
  C09_cla_denotes asciiCls asciiCls_ok t₂ false true _ _ prints₄ renders₄

/-- `C09_cla_tokens` / `C09_cla_ok_iff` / `C09_no_truncation_cla` on `a λb.b a`: the named tokens,
their resolution, and the derivation of the WHOLE resolved token list -/
example : Gr.DExpr [Number 1, Lambda, Number 1, Number 2] (app (var 1) (abs (app (var 1) (var 2)))) :=
  (C09_cla_ok_iff asciiCls [97, 32, 955, 98, 46, 98, 32, 97]
    [CName [97], CLambda [98], CName [98], CName [97]] [Number 1, Lambda, Number 1, Number 2] _
    rfl (by decide)).1 ex_cla₂
example : ∃ ts, Cl.resolveAll [CName [97], CLambda [98], CName [98], CName [97]] = some ts ∧
    ts.length = 4 ∧ Gr.DExpr ts (app (var 1) (abs (app (var 1) (var 2)))) := by
  obtain ⟨ts, h1, h2, _, _, h3⟩ := C09_no_truncation_cla asciiCls _
    [CName [97], CLambda [98], CName [98], CName [97]] _ ex_cla₂ rfl
  exact ⟨ts, h1, h2, h3⟩

/-- `λa.a) b`: an unmatched `)` in Classic notation.  The conversion stops after the `)` (its
output `λ 1 )` is a proper prefix), and the result is an `Err`, not the parse `λ1` of the prefix -/
theorem ex_cla_unmatched :
    parse asciiCls [955, 97, 46, 97, 41, 32, 98] .Classic = .err .InvalidExpression :=
  parse_of_cur (r := .error _) (by decide +kernel)

/-- the same from the general theorem `C09_cla_unmatched_rparen` -/
example : ∃ e, parse asciiCls [955, 97, 46, 97, 41, 32, 98] .Classic = .err e :=
  C09_cla_unmatched_rparen asciiCls _ [CLambda [97], CName [97], CRparen, CName [98]] rfl (by decide)

/-- `(a`: unclosed parenthesis; `λa.`: empty body; `()`: empty group -/
example : parse asciiCls [40, 97] .Classic = .err .InvalidExpression :=
  parse_of_cur (r := .error _) (by decide +kernel)
example : parse asciiCls [955, 97, 46] .Classic = .err .EmptyExpression :=
  parse_of_cur (r := .error _) (by decide +kernel)
example : parse asciiCls [40, 41] .Classic = .err .EmptyExpression :=
  parse_of_cur (r := .error _) (by decide +kernel)

/-- well-formedness depends on the token shapes only (`C09_cla_wellformed_iff`): `a λb.b a` has
the shape `0 λ 0 0` -/
example : ∃ u, Gr.DExpr [Number 0, Lambda, Number 0, Number 0] u :=
  (C09_cla_wellformed_iff asciiCls [97, 32, 955, 98, 46, 98, 32, 97]
    [CName [97], CLambda [98], CName [98], CName [97]] rfl).1 ⟨_, ex_cla₂⟩

/-- `C09_cla_complete` on `a λb.b a`: its tokens are a printing of `t₂`, so it parses … -/
example : ∃ t, parse asciiCls [97, 32, 955, 98, 46, 98, 32, 97] .Classic = .ok t :=
  (C09_cla_complete asciiCls asciiCls_ok _ _ renders₃).1.2 ⟨t₂, prints₃⟩

/-- … while the tokens of `λa.a) b` are not a printing of any named term -/
theorem renders₅ : Cl.Renders asciiCls [CLambda [97], CName [97], CRparen, CName [98]]
    [955, 97, 46, 97, 41, 32, 98] :=
  C09A.renders_of_lex asciiCls_ok asciiCls_dot (by decide +kernel)

example : ¬ ∃ nt, Cl.PrintsN nt false true [CLambda [97], CName [97], CRparen, CName [98]] := by
  intro h
  obtain ⟨t, ht⟩ := (C09_cla_complete asciiCls asciiCls_ok _ _ renders₅).1.2 h
  rw [ex_cla_unmatched] at ht
  cases ht

/-- `x #x`: `#` (35) cannot start a token; it is character number 2 -/
example : parse asciiCls ([120, 32] ++ 35 :: [120]) .Classic = .err (.InvalidCharacter 2 35) :=
  C09_cla_invalid_char asciiCls asciiCls_ok [CName [120]] [120, 32] 35 [120]
    (.name (n := [120]) wf_x (nameEnd_of (by decide)) (.ws (by decide) .nil))
    (by intro c h; simp at h; subst h; decide)
    (by decide) (by decide) (by decide) (by decide) (by decide)
example : parse asciiCls [120, 32, 35, 120] .Classic = .err (.InvalidCharacter 2 35) :=
  parse_of_cur (r := .error _) (by decide +kernel)

/-- `λa.λb a` (the crate's own test): the space cannot continue the binder `b`; character 5 -/
example : parse asciiCls ([955, 97, 46] ++ 955 :: ([98] ++ 32 :: [97])) .Classic
    = .err (.InvalidCharacter 5 32) :=
  C09_cla_invalid_char_binder asciiCls asciiCls_ok [CLambda [97]] [955, 97, 46] 955 [98] 32 [97]
    (.lam (g := 955) (n := [97]) (by decide) wf_a .nil)
    (by intro c h; simp at h; subst h; decide) (by decide)
    (by intro a as h; cases h; simp; decide) (by decide) (by decide)


/-- `λx.λy.x y z` (Classic) and `λλ213` (De Bruijn) are corresponding inputs (`C09_notations_agree`) -/
example : parse asciiCls [955, 120, 46, 955, 121, 46, 120, 32, 121, 32, 122] .Classic
    = parse asciiCls [955, 955, 50, 49, 51] .DeBruijn :=
  C09_notations_agree asciiCls _ _
    [CLambda [120], CLambda [121], CName [120], CName [121], CName [122]]
    [Lambda, Lambda, Number 2, Number 1, Number 3] rfl rfl (by decide)

/-- tree level: the Debug output `λλ213` of the translation of `t₁` parses (De Bruijn notation) to
the same term as the Classic rendering of `t₁` (`C09_notations_agree_tree`) -/
example : parse asciiCls [955, 120, 46, 955, 121, 46, 120, 32, 121, 32, 122] .Classic
    = parse asciiCls (Display.debug 955 (Cl.toDeBruijn t₁)) .DeBruijn :=
  (C09_notations_agree_tree asciiCls asciiCls_ok asciiCls_hexOk 955 (.inl rfl) t₁ (by decide)
    _ _ _ _ (C09C.printN_prints t₁ 0) renders₁).2.2.1
example : Display.debug 955 (Cl.toDeBruijn t₁) = [955, 955, 50, 49, 51] := by decide +kernel

/-- `a λb.b a` (Classic) and `1λ12` (De Bruijn), through `C09_notations_agree_strings` -/
example : parse asciiCls [97, 32, 955, 98, 46, 98, 32, 97] .Classic
      = .ok (Cl.toDeBruijn t₂) ∧
    parse asciiCls [49, 955, 49, 50] .DeBruijn = .ok (Cl.toDeBruijn t₂) :=
  C09_notations_agree_strings asciiCls asciiCls_ok t₂ false true false true _ _
    [Number 1, Lambda, Number 1, Number 2] _ prints₃ renders₃
    (.app (t₁ := [_]) (t₂ := [_, _, _]) .var (.lam (.app (t₁ := [_]) (t₂ := [_]) .var .var))) rfl

/-- no panic, whatever the input: here a lone `)` -/
example : parse asciiCls [41] .Classic = .err .InvalidExpression :=
  parse_of_cur (r := .error _) (by decide +kernel)
example : parse asciiCls [41] .Classic ≠ .panic := C09_no_panic _ _ _

end C09.Examples

attribute [local instance] C09D.decEqResult in
/-- the string `x\y.y`: the backslash ends the variable name `x` (repair F9) -/
theorem C09_cla_backslash_ends_name :
    parse C09C.Examples.asciiCls [120, 92, 121, 46, 121] .Classic = .ok (app (var 1) (abs (var 1))) :=
  parse_of_cur (r := .ok _) (by decide +kernel)

attribute [local instance] C09D.decEqResult in
/-- the string `xλy.y`: the glyph `λ` ends the variable name `x` too, although it is a letter (repair
F11) -/
theorem C09_cla_lambda_ends_name :
    parse C09C.Examples.asciiCls [120, 955, 121, 46, 121] .Classic = .ok (app (var 1) (abs (var 1))) :=
  parse_of_cur (r := .ok _) (by decide +kernel)

/-- the string `λ.x`: a binder name cannot be empty (repair F12) -/
theorem C09_cla_empty_binder_dot :
    parse C09C.Examples.asciiCls [955, 46, 120] .Classic = .err (.InvalidCharacter 1 46) :=
  rfl

/-- the string `x.y`: the dot cannot continue the name `x` and cannot start a token (repair F10) -/
theorem C09_cla_junk_dot :
    parse C09C.Examples.asciiCls [120, 46, 121] .Classic = .err (.InvalidCharacter 1 46) :=
  rfl

/-- the string `x#` -/
theorem C09_cla_junk_hash :
    parse C09C.Examples.asciiCls [120, 35] .Classic = .err (.InvalidCharacter 1 35) :=
  rfl

/-- the string `λx.x-`: the `-` is not swallowed into the name of the bound variable -/
theorem C09_cla_junk_minus :
    parse C09C.Examples.asciiCls [955, 120, 46, 120, 45] .Classic
      = .err (.InvalidCharacter 4 45) :=
  rfl

end LC
