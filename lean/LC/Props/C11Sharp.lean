/-
C11, sharpness of the input domain — the restriction "all indices in 1..=15" of the Debug / De Bruijn round trip
is NECESSARY, and what exactly happens outside it.

* a term containing `UD` (index 0): Debug prints the word `undefined`; the De Bruijn lexer rejects its first
  letter: `parse` returns `Err(InvalidCharacter(k, 'u'))` where `k` is the (character) index of the FIRST `u` of
  the output, i.e. of the `undefined` printed for the first `UD` in printing order (`C11_ud_not_parsed`,
  `C11_ud_first_occurrence`);
* a `UD`-free term with an index ≥ 16: Debug prints the index with several hexadecimal digits; the output is still
  a well-formed De Bruijn string, but the parser reads one index per CHARACTER: the result is `readBack t`, in which
  every numeral has become the application of its digits, a digit `0` being `UD` (`C11_large_index_reads_digits`),
  and that is never `t` (`C11_large_index_not_roundtrip`);
* together: the round trip holds IFF all indices are in 1..=15 (`C11_roundtrip_iff`).

Hypotheses on the classification: `C11.HexOk` (as in `C11_roundtrip`) and, for the terms with `UD`, that `u`
(117) is neither a hexadecimal digit nor whitespace (facts about Rust's `to_digit(16)` / `is_whitespace`; without
them a classification that, say, ignored the letters of `undefined` would lex the word differently).
-/
import LC.Props.C11

namespace LC
open Term Parser Display
open Spec (hasUD)
open C11S


/-- `C11S.hexDigits n` are the hexadecimal digits of `n`, most significant first: each is below 16, their value
is `n`, there is at least one, no leading `0` (for `n ≠ 0`), and `{:X}` prints exactly them -/
theorem C11_hexDigits_spec (n : Nat) :
    (∀ d ∈ hexDigits n, d < 16) ∧ hexValue (hexDigits n) = n ∧ hexDigits n ≠ [] ∧
      (n ≠ 0 → (hexDigits n).head? ≠ some 0) ∧ hexUpper n = (hexDigits n).map hexDigit :=
  ⟨hexDigits_lt n, hexValue_hexDigits n, hexDigits_ne_nil n, hexDigits_head n, hexUpper_eq n⟩

theorem C11_hexDigits_length (n : Nat) : (hexDigits n).length = 1 ↔ n < 16 := by
  constructor
  · intro h
    refine Nat.lt_of_not_le (fun h16 => ?_)
    have := hexDigits_large n h16
    omega
  · intro h; rw [hexDigits_small n h]; rfl

example : hexDigits 16 = [1, 0] := by decide +kernel
example : hexDigits 255 = [15, 15] := by decide +kernel
example : hexDigits 4096 = [1, 0, 0, 0] := by decide +kernel
example : hexUpper 2748 = [65, 66, 67] := by decide +kernel   -- `ABC`


/-- the Debug output of a term with `UD` contains the word `undefined`; before its first occurrence there is no
`u`, so the first `u` of the output is the initial of the `undefined` printed for the first `UD` in printing
order, and the nine characters from there on are that word -/
theorem C11_ud_first_occurrence (lam : Nat) (hl : lam = 955 ∨ lam = 92) (t : Term)
    (h : hasUD t = true) :
    ∃ pre post, debug lam t = pre ++ str "undefined" ++ post ∧ 117 ∉ pre ∧
      (∀ c ∈ pre, c = lam ∨ c = 40 ∨ c = 41 ∨ ∃ d, d < 16 ∧ c = hexDigit d) ∧
      (debug lam t).idxOf 117 = pre.length := by
  obtain ⟨pre, post, he, hg⟩ := show_split lam t 0 h
  refine ⟨pre, post, by rw [C10S.str_undefined]; exact he, ?_, hg, ?_⟩
  · exact fun hm => goodChar_ne_u hl (hg 117 hm) rfl
  · rw [debug, he, C10S.undefined_split, idxOf_u lam hl pre _ hg]

/-- C11, sharpness (index 0): the Debug output of a term containing `UD` does NOT parse in De Bruijn notation:
the result is `Err(InvalidCharacter(k, 'u'))`, `k` the index of the first `u` of the output -/
theorem C11_ud_not_parsed (cls : CharCls) (hc : C11.HexOk cls) (hu : cls.digit16 117 = none)
    (hw : cls.isWs 117 = false) (lam : Nat) (hl : lam = 955 ∨ lam = 92) (t : Term)
    (h : hasUD t = true) :
    parse cls (debug lam t) .DeBruijn = .err (.InvalidCharacter ((debug lam t).idxOf 117) 117) := by
  obtain ⟨pre, post, he, hg⟩ := show_split lam t 0 h
  rw [debug, he, C10S.undefined_split, idxOf_u lam hl pre _ hg]
  exact parse_dbr_invalid cls pre _ 117 (fun c hc' => goodChar_valid hc hl (hg c hc'))
    (u_not_valid hu hw)

/-- the index, structurally: `C11S.udOffset` counts what is printed before the first `UD` — an opening
parenthesis where the context demands one, the glyph of each abstraction entered, the whole output of every
`UD`-free operator passed -/
theorem C11_ud_index (lam : Nat) (hl : lam = 955 ∨ lam = 92) (t : Term) (h : hasUD t = true) :
    (debug lam t).idxOf 117 = udOffset lam t 0 :=
  idxOf_show lam hl t 0 h

theorem C11_udOffset_cases (lam : Nat) :
    (∀ i ctx, udOffset lam (var i) ctx = 0) ∧
    (∀ b ctx, udOffset lam (abs b) ctx = (if ctx > 1 then 1 else 0) + (1 + udOffset lam b 0)) ∧
    (∀ l r ctx, udOffset lam (app l r) ctx = (if ctx == 3 then 1 else 0) +
      (if hasUD l then udOffset lam l 2 else (showDbr lam l 2).length + udOffset lam r 3)) :=
  ⟨fun _ _ => rfl, fun _ _ => rfl, fun _ _ _ => rfl⟩

/-- in particular it is an error, whatever the index -/
theorem C11_ud_parse_error (cls : CharCls) (hc : C11.HexOk cls) (hu : cls.digit16 117 = none)
    (hw : cls.isWs 117 = false) (lam : Nat) (hl : lam = 955 ∨ lam = 92) (t : Term)
    (h : hasUD t = true) :
    ∃ e, parse cls (debug lam t) .DeBruijn = .err e :=
  ⟨_, C11_ud_not_parsed cls hc hu hw lam hl t h⟩


/-- C11, outside the domain (large indices): the Debug output of every `UD`-free term parses in De Bruijn
notation, to `readBack t` — every index read as the string of its hexadecimal digits, one index per digit, `0`
being `UD` -/
theorem C11_large_index_reads_digits (cls : CharCls) (hc : C11.HexOk cls) (lam : Nat)
    (hl : lam = 955 ∨ lam = 92) (t : Term) (h : hasUD t = false) :
    parse cls (debug lam t) .DeBruijn = .ok (readBack t) :=
  dbr_stages (lex_debugH cls hc lam hl t h)
    (by rw [← toks_readBack_top, C09C.parseTokens_printD]; rfl)

/-- what `readBack` does, case by case: a numeral standing alone (whole term, body, operator) is the
left-nested application of its digits; a numeral in operand position continues the application it stands in;
everything else is kept -/
theorem C11_readBack_cases :
    (∀ i, readBack (var i) = digitsTerm (hexDigits i)) ∧
    (∀ b, readBack (abs b) = abs (readBack b)) ∧
    (∀ l i, readBack (app l (var i)) = appVars (readBack l) (hexDigits i)) ∧
    (∀ l r, (∀ i, r ≠ var i) → readBack (app l r) = app (readBack l) (readBack r)) ∧
    (∀ d ds, digitsTerm (d :: ds) = appVars (var d) ds) ∧
    (∀ f, appVars f [] = f) ∧
    (∀ f d ds, appVars f (d :: ds) = appVars (app f (var d)) ds) :=
  ⟨fun _ => rfl, fun _ => rfl, fun _ _ => rfl, readBack_app_nonvar, fun _ _ => rfl, fun _ => rfl,
    fun _ _ _ => rfl⟩

/-- `var 16` prints `10`, read as `1 0`; `1 (var 16)` prints `110`, read as `(1 1) 0`; `var 171` prints `AB`,
read as `10 11`; `λ.(var 256) 1` prints `λ1001`, read as `λ. 1 0 0 1` -/
example : readBack (var 16) = app (var 1) (var 0) := by decide +kernel
example : readBack (app (var 1) (var 16)) = app (app (var 1) (var 1)) (var 0) := by decide +kernel
example : readBack (var 171) = app (var 10) (var 11) := by decide +kernel
example : readBack (abs (app (var 256) (var 1))) =
    abs (app (app (app (var 1) (var 0)) (var 0)) (var 1)) := by decide +kernel

/-- on the domain of C11 nothing changes -/
theorem C11_readBack_small (t : Term) (h : smallIdx t = true) : readBack t = t :=
  readBack_small t h

/-- outside it (and without `UD`) the term read back has more variable occurrences than `t`: one per
hexadecimal digit -/
theorem C11_readBack_more_vars (t : Term) (hu : hasUD t = false) (hs : smallIdx t = false) :
    C11.numVars t < C11.numVars (readBack t) := by
  rw [numVars_readBack]; exact digitCount_gt t hu hs

theorem C11_readBack_ne (t : Term) (hu : hasUD t = false) (hs : smallIdx t = false) :
    readBack t ≠ t := by
  intro he
  have := C11_readBack_more_vars t hu hs
  rw [he] at this
  exact Nat.lt_irrefl _ this

/-- C11, sharpness (indices ≥ 16): for a `UD`-free term with an index outside 1..=15 the Debug output is a
well-formed De Bruijn string — it parses — but the result is NOT `t` -/
theorem C11_large_index_not_roundtrip (cls : CharCls) (hc : C11.HexOk cls) (lam : Nat)
    (hl : lam = 955 ∨ lam = 92) (t : Term) (hu : hasUD t = false) (hs : smallIdx t = false) :
    ∃ u, parse cls (debug lam t) .DeBruijn = .ok u ∧ u ≠ t :=
  ⟨readBack t, C11_large_index_reads_digits cls hc lam hl t hu, C11_readBack_ne t hu hs⟩


/-- C11, both directions: parsing the Debug output gives back the term IFF all its indices are in 1..=15 -/
theorem C11_roundtrip_iff (cls : CharCls) (hc : C11.HexOk cls) (hu : cls.digit16 117 = none)
    (hw : cls.isWs 117 = false) (lam : Nat) (hl : lam = 955 ∨ lam = 92) (t : Term) :
    parse cls (debug lam t) .DeBruijn = .ok t ↔ smallIdx t = true := by
  constructor
  · intro hp
    cases hud : hasUD t with
    | true =>
      rw [C11_ud_not_parsed cls hc hu hw lam hl t hud] at hp
      exact Outcome.noConfusion hp
    | false =>
      cases hs : smallIdx t with
      | true => rfl
      | false =>
        rw [C11_large_index_reads_digits cls hc lam hl t hud] at hp
        exact absurd (Outcome.ok.inj hp) (C11_readBack_ne t hud hs)
  · exact C11_roundtrip cls hc lam hl t


namespace C11S.Examples

theorem ascii_u_digit : C11.asciiCls.digit16 117 = none := by decide
theorem ascii_u_ws : C11.asciiCls.isWs 117 = false := by decide

/-- `λ.(λ.1 F) (UD 2)` prints `λ(λ1F)(undefined2)`: the first `u` has index 7 -/
def withUD : Term := abs (app (abs (app (var 1) (var 15))) (app (var 0) (var 2)))

example : hasUD withUD = true := by decide
example : udOffset 955 withUD 0 = 7 := by decide +kernel
example : debug 955 withUD =
    [955, 40, 955, 49, 70, 41, 40, 117, 110, 100, 101, 102, 105, 110, 101, 100, 50, 41] := by
  decide +kernel

example : parse C11.asciiCls (debug 955 withUD) .DeBruijn = .err (.InvalidCharacter 7 117) := by
  have h := C11_ud_not_parsed C11.asciiCls C11.asciiCls_hexOk ascii_u_digit ascii_u_ws 955 (.inl rfl)
    withUD (by decide)
  have hi : (debug 955 withUD).idxOf 117 = 7 := by decide +kernel
  rwa [hi] at h

/-- two `UD`s and a large index before them: `(var 16) UD UD` prints `10undefinedundefined`, error at 2 -/
example : parse C11.asciiCls (debug 92 (app (app (var 16) (var 0)) (var 0))) .DeBruijn
    = .err (.InvalidCharacter 2 117) := by
  have h := C11_ud_not_parsed C11.asciiCls C11.asciiCls_hexOk ascii_u_digit ascii_u_ws 92 (.inr rfl)
    (app (app (var 16) (var 0)) (var 0)) (by decide)
  have hi : (debug 92 (app (app (var 16) (var 0)) (var 0))).idxOf 117 = 2 := by decide +kernel
  rwa [hi] at h

/-- `λ.(var 27) (var 16) (λ.(var 300))` prints `λ1B10(λ12C)` and reads back as `λ. 1 11 1 0 (λ. 1 2 12)` -/
def large : Term := abs (app (app (var 27) (var 16)) (abs (var 300)))

example : hasUD large = false ∧ smallIdx large = false := by decide
example : debug 955 large = [955, 49, 66, 49, 48, 40, 955, 49, 50, 67, 41] := by decide +kernel

example : parse C11.asciiCls (debug 955 large) .DeBruijn =
    .ok (abs (app (app (app (app (var 1) (var 11)) (var 1)) (var 0))
      (abs (app (app (var 1) (var 2)) (var 12))))) := by
  have h := C11_large_index_reads_digits C11.asciiCls C11.asciiCls_hexOk 955 (.inl rfl) large (by decide)
  have hr : readBack large = abs (app (app (app (app (var 1) (var 11)) (var 1)) (var 0))
      (abs (app (app (var 1) (var 2)) (var 12)))) := by decide +kernel
  rwa [hr] at h

example : ∃ u, parse C11.asciiCls (debug 955 large) .DeBruijn = .ok u ∧ u ≠ large :=
  C11_large_index_not_roundtrip C11.asciiCls C11.asciiCls_hexOk 955 (.inl rfl) large (by decide) (by decide)

/-- the equivalence, instantiated in both directions -/
example : parse C11.asciiCls (debug 955 C11.sample) .DeBruijn = .ok C11.sample :=
  (C11_roundtrip_iff C11.asciiCls C11.asciiCls_hexOk ascii_u_digit ascii_u_ws 955 (.inl rfl) C11.sample).2
    (by decide)

example : parse C11.asciiCls (debug 955 large) .DeBruijn ≠ .ok large := fun h =>
  absurd ((C11_roundtrip_iff C11.asciiCls C11.asciiCls_hexOk ascii_u_digit ascii_u_ws 955 (.inl rfl)
    large).1 h) (by decide)

example : parse C11.asciiCls (debug 955 withUD) .DeBruijn ≠ .ok withUD := fun h =>
  absurd ((C11_roundtrip_iff C11.asciiCls C11.asciiCls_hexOk ascii_u_digit ascii_u_ws 955 (.inl rfl)
    withUD).1 h) (by decide)

end C11S.Examples

end LC
