/-
C17 — Combinators and sum/product data types obey their equations for all payloads

"For arbitrary argument terms (not only numerals), each standard combinator satisfies its defining
equation (I x = x, K x y = x, S x y z = x z (y z), B, C, W, R, omega, iota; Y f and T f are
beta-convertible with f applied to themselves, Z f with f (lambda v. Z f v)), and the data-type
eliminators undo their constructors: fst/snd/swap/curry/uncurry on pair, pi!(i, n) on tuple!,
is_some/is_none/map/map_or/unwrap_or/and_then on some/none, and
is_ok/is_err/option_ok/option_err/unwrap_or/map/map_err/and_then on ok/err. The boolean connectives
(and, or, not, xor, nor, xnor, nand, imply, if_else) realise their truth tables, and the From
conversions for bool, pairs, options and results of closed payloads produce the normal forms of the
corresponding constructor applications."

Method (reflection, `LC/Proofs/Reflection.lean`, `LC/Proofs/NorRead.lean`): every law is obtained by RUNNING the small-step
normal-order reducer `stepNor` (via `norSteps k`) on the generated constant applied to placeholders for the arbitrary
argument terms (`law_of_norSteps`, i.e. stability of `↠` under parallel substitution).  A call
`norR k [x, y] reading reading run` reads the two sides of the statement (`.c` a closed constant, `.p0 .p1 …` the arguments,
`.s0 …` an argument under binders, where it appears shifted, `.bv` a bound variable, `.app₂ .app₃ .abs` the constructors,
`.cell a b` the pair `tuple2 a b`, which is what `fromPair a b` unfolds to); `run` is the evaluation.  `norSteps k` stops at a
normal form: where the right-hand side of a law is normal, `k` (mostly 30) is a bound that suffices, not a count; where it is
not normal (`C17_iota_def_star`, `C17_Y`, `C17_T_star`, `C17_Z`, `C17_curry_star`) `k` is the exact number of steps.  The constants
are referred to by name only (`LC.Gen.*` is regenerated from the Rust crate on every run): a behaviour-preserving
change of a Rust definition keeps the proofs valid, a behaviour-changing one breaks the `decide`.
The projections `pi!(i, n)` are the exception: one law for tuples of any length, by induction on the length.
-/
import LC.Proofs.NorRead
import LC.Proofs.Confluence
import LC.Proofs.ReduceLemmas
import LC.Model.Encode
import LC.Gen.All

namespace LC
open Term Spec Enc

namespace C17

/- This file does not import `Proofs/Num/Toolkit.lean` (the toolkit imports this file): `app2`, `app3` and `↠` are those
of the toolkit, declared here for the statements of this file (abbreviations of the same nested `app`, a notation for the
same `Star`). -/

abbrev app2 (f a b : Term) : Term := app (app f a) b

abbrev app3 (f a b c : Term) : Term := app (app (app f a) b) c

@[inherit_doc] scoped infix:50 " ↠ " => Star

/-- β-convertibility `t =β u`, witnessed by a common reduct (by Church–Rosser this is the
equivalence generated by β, see `Conv.trans`) -/
def Conv (t u : Term) : Prop := ∃ w, t ↠ w ∧ u ↠ w

theorem Conv.of_star {t u : Term} (h : t ↠ u) : Conv t u := ⟨u, h, Star.refl _⟩

theorem Conv.refl (t : Term) : Conv t t := ⟨t, Star.refl _, Star.refl _⟩

theorem Conv.symm {t u : Term} (h : Conv t u) : Conv u t :=
  let ⟨w, h1, h2⟩ := h; ⟨w, h2, h1⟩

theorem Conv.trans {t u v : Term} (h1 : Conv t u) (h2 : Conv u v) : Conv t v := by
  obtain ⟨w1, a1, b1⟩ := h1
  obtain ⟨w2, a2, b2⟩ := h2
  obtain ⟨w, c1, c2⟩ := church_rosser b1 a2
  exact ⟨w, a1.trans c1, b2.trans c2⟩

theorem star_of_norSteps (k : Nat) (t u : Term) (h : norSteps k t = u) : t ↠ u :=
  h ▸ star_norSteps k t

/-- a convertibility law from two runs that meet, read like `norR`: the placeholder terms behind `T'` and `U'` normal-order
reduce in at most `k₁` resp. `k₂` steps to the same term -/
theorem convR (k₁ k₂ : Nat) (xs : List Term) {T T' U U' : Term} (hT : PInst xs 0 T T') (hU : PInst xs 0 U U')
    (run : norSteps k₁ T = norSteps k₂ U) : Conv T' U' :=
  ⟨_, norR k₁ xs hT rfl run, norR k₂ xs hU rfl rfl⟩

/-- refutation by computation (used for the negative examples): if `t` normalises to `n`, it cannot
reduce to a different normal form `u` -/
theorem not_star_of_norSteps (k : Nat) (t n u : Term) (h : norSteps k t = n)
    (hn : isNormal n = true) (hu : isNormal u = true) (hne : n ≠ u) : ¬ t ↠ u := fun hs =>
  hne (normal_unique (star_of_norSteps k t n h) hs ((isNormal_iff_normal _).1 hn)
    ((isNormal_iff_normal _).1 hu))

/- sample payloads of the `example`s after the laws: open terms, free indices outside and under binders, `p₃` with the
placeholder index `0` -/
def p₁ : Term := app (var 3) (abs (var 2))
def p₂ : Term := abs (app (var 1) (var 4))
def p₃ : Term := app (app (var 0) (var 7)) (abs (abs (var 1)))

end C17
open C17

theorem C17_I (x : Term) : app Gen.Comb.I x ↠ x :=
  norR 30 [x] (.app .c .p0) .p0 (by decide +kernel)

example : app Gen.Comb.I p₁ ↠ p₁ := C17_I _

theorem C17_K (x y : Term) : app2 Gen.Comb.K x y ↠ x :=
  norR 30 [x, y] (.app₂ .c .p0 .p1) .p0 (by decide +kernel)

example : app2 Gen.Comb.K p₁ p₂ ↠ p₁ := C17_K _ _

-- … and not to `y`
example : ¬ app2 Gen.Comb.K (var 1) (var 2) ↠ var 2 :=
  not_star_of_norSteps 30 _ (var 1) _ (by decide) (by decide) (by decide) (by decide)

theorem C17_S (x y z : Term) : app3 Gen.Comb.S x y z ↠ app (app x z) (app y z) :=
  norR 30 [x, y, z] (.app₃ .c .p0 .p1 .p2) (.app₂ .p0 .p2 (.app .p1 .p2)) (by decide +kernel)

example : app3 Gen.Comb.S p₁ p₂ p₃ ↠ app (app p₁ p₃) (app p₂ p₃) := C17_S _ _ _

theorem C17_B (x y z : Term) : app3 Gen.Comb.B x y z ↠ app x (app y z) :=
  norR 30 [x, y, z] (.app₃ .c .p0 .p1 .p2) (.app .p0 (.app .p1 .p2)) (by decide +kernel)

example : app3 Gen.Comb.B p₁ p₂ p₃ ↠ app p₁ (app p₂ p₃) := C17_B _ _ _

theorem C17_C (x y z : Term) : app3 Gen.Comb.C x y z ↠ app (app x z) y :=
  norR 30 [x, y, z] (.app₃ .c .p0 .p1 .p2) (.app₂ .p0 .p2 .p1) (by decide +kernel)

example : app3 Gen.Comb.C p₁ p₂ p₃ ↠ app (app p₁ p₃) p₂ := C17_C _ _ _

theorem C17_W (x y : Term) : app2 Gen.Comb.W x y ↠ app (app x y) y :=
  norR 30 [x, y] (.app₂ .c .p0 .p1) (.app₂ .p0 .p1 .p1) (by decide +kernel)

example : app2 Gen.Comb.W p₁ p₂ ↠ app (app p₁ p₂) p₂ := C17_W _ _

theorem C17_R (x f : Term) : app2 Gen.Comb.R x f ↠ app f x :=
  norR 30 [x, f] (.app₂ .c .p0 .p1) (.app .p1 .p0) (by decide +kernel)

example : app2 Gen.Comb.R p₁ p₂ ↠ app p₂ p₁ := C17_R _ _

theorem C17_o (x : Term) : app Gen.Comb.o x ↠ app x x :=
  norR 30 [x] (.app .c .p0) (.app .p0 .p0) (by decide +kernel)

example : app Gen.Comb.o p₁ ↠ app p₁ p₁ := C17_o _

/-- Ω reduces to itself in a positive number of steps (the proof exhibits one step): it diverges -/
theorem C17_O : ∃ k, k ≥ 1 ∧ Steps k Gen.Comb.O Gen.Comb.O :=
  ⟨1, Nat.le_refl 1, Steps.succ (stepNor_beta (by decide : stepNor Gen.Comb.O = some Gen.Comb.O))
    (Steps.zero _)⟩

theorem C17_O_def : Gen.Comb.O = app Gen.Comb.o Gen.Comb.o := by decide

/-- all one-step β-reducts of a term (every redex position) -/
def C17.reducts : Term → List Term
  | var _ => []
  | abs b => (reducts b).map abs
  | app l r =>
    (match l with | abs b => [contract b r] | _ => []) ++
      ((reducts l).map (fun l' => app l' r) ++ (reducts r).map (fun r' => app l r'))

theorem C17.mem_reducts {t u : Term} (h : Beta t u) : u ∈ reducts t := by
  induction h with
  | red b a => simp [reducts, substTop_eq]
  | congAbs _ ih => simp only [reducts, List.mem_map]; exact ⟨_, ih, rfl⟩
  | congAppL _ ih =>
    simp only [reducts, List.mem_append, List.mem_map]; exact Or.inr (Or.inl ⟨_, ih, rfl⟩)
  | congAppR _ ih =>
    simp only [reducts, List.mem_append, List.mem_map]; exact Or.inr (Or.inr ⟨_, ih, rfl⟩)

/-- Ω diverges: its only reduct (under any strategy, any number of steps) is Ω itself, so it has no
normal form -/
theorem C17_O_diverges :
    (∀ u, Gen.Comb.O ↠ u → u = Gen.Comb.O) ∧ ¬ ∃ n, Gen.Comb.O ↠ n ∧ Normal n := by
  have h1 : ∀ u, Beta Gen.Comb.O u → u = Gen.Comb.O := fun u h =>
    (by decide : ∀ v ∈ reducts Gen.Comb.O, v = Gen.Comb.O) u (mem_reducts h)
  have h2 : ∀ t u, t ↠ u → t = Gen.Comb.O → u = Gen.Comb.O := by
    intro t u h
    induction h with
    | refl _ => exact id
    | head hb _ ih => intro e; subst e; exact ih (h1 _ hb)
  refine ⟨fun u h => h2 _ u h rfl, ?_⟩
  rintro ⟨n, hn, hN⟩
  rw [h2 _ n hn rfl] at hN
  exact hN _ (stepNor_beta (by decide : stepNor Gen.Comb.O = some Gen.Comb.O))

/-- iota generates I, K and S (ground facts; the normal forms are syntactically the generated
constants, as the documentation in `combinators.rs` states) -/
theorem C17_iota :
    app Gen.Comb.i Gen.Comb.i ↠ Gen.Comb.I ∧
    app Gen.Comb.i (app Gen.Comb.i (app Gen.Comb.i Gen.Comb.i)) ↠ Gen.Comb.K ∧
    app Gen.Comb.i (app Gen.Comb.i (app Gen.Comb.i (app Gen.Comb.i Gen.Comb.i))) ↠ Gen.Comb.S := by
  refine ⟨?_, ?_, ?_⟩ <;> exact star_of_norSteps 60 _ _ (by decide)

theorem C17_iota_def_star (x : Term) : app Gen.Comb.i x ↠ app2 x Gen.Comb.S Gen.Comb.K :=
  norR 1 [x] (.app .c .p0) (.app₂ .p0 .c .c) (by decide +kernel)

theorem C17_iota_def (x : Term) : Conv (app Gen.Comb.i x) (app2 x Gen.Comb.S Gen.Comb.K) :=
  Conv.of_star (C17_iota_def_star x)

example : Conv (app Gen.Comb.i p₁) (app2 p₁ Gen.Comb.S Gen.Comb.K) := C17_iota_def _

/-- Y f =β f (Y f): two steps on the left and one on the right meet (both sides diverge, so the
step counts of the two certificates are exact) -/
theorem C17_Y (f : Term) : Conv (app Gen.Comb.Y f) (app f (app Gen.Comb.Y f)) :=
  convR 2 1 [f] (.app .c .p0) (.app .p0 (.app .c .p0)) (by decide +kernel)

example : Conv (app Gen.Comb.Y p₁) (app p₁ (app Gen.Comb.Y p₁)) := C17_Y _

/-- Turing's Θ: Θ f ↠ f (Θ f), by reduction alone -/
theorem C17_T_star (f : Term) : app Gen.Comb.T f ↠ app f (app Gen.Comb.T f) :=
  norR 2 [f] (.app .c .p0) (.app .p0 (.app .c .p0)) (by decide +kernel)

example : app Gen.Comb.T p₁ ↠ app p₁ (app Gen.Comb.T p₁) := C17_T_star _

theorem C17_T (f : Term) : Conv (app Gen.Comb.T f) (app f (app Gen.Comb.T f)) :=
  Conv.of_star (C17_T_star f)

/-- Z f =β f (λv. Z f v), general form: `shiftFV 1 0 f` is `f` placed under the new binder `λv` -/
theorem C17_Z (f : Term) :
    Conv (app Gen.Comb.Z f) (app f (abs (app (app Gen.Comb.Z (shiftFV 1 0 f)) (var 1)))) :=
  convR 2 1 [f] (.app .c .p0) (.app .p0 (.abs (.app₂ .c .s0 .bv))) (by decide +kernel)

theorem C17_Z_closed (f : Term) (hf : closedAt 0 f = true) :
    Conv (app Gen.Comb.Z f) (app f (abs (app (app Gen.Comb.Z f) (var 1)))) := by
  simpa [shiftFV_closed 1 0 hf] using C17_Z f

example : Conv (app Gen.Comb.Z p₁)
    (app p₁ (abs (app (app Gen.Comb.Z (app (var 4) (abs (var 3)))) (var 1)))) := C17_Z p₁

theorem C17_fst (a b : Term) : app Gen.Pair.fst (app2 Gen.Pair.pair a b) ↠ a :=
  norR 30 [a, b] (.app .c (.app₂ .c .p0 .p1)) .p0 (by decide +kernel)

example : app Gen.Pair.fst (app2 Gen.Pair.pair p₁ p₂) ↠ p₁ := C17_fst _ _

theorem C17_snd (a b : Term) : app Gen.Pair.snd (app2 Gen.Pair.pair a b) ↠ b :=
  norR 30 [a, b] (.app .c (.app₂ .c .p0 .p1)) .p1 (by decide +kernel)

example : app Gen.Pair.snd (app2 Gen.Pair.pair p₁ p₂) ↠ p₂ := C17_snd _ _

theorem C17_swap (a b : Term) :
    Conv (app Gen.Pair.swap (app2 Gen.Pair.pair a b)) (app2 Gen.Pair.pair b a) :=
  convR 30 30 [a, b] (.app .c (.app₂ .c .p0 .p1)) (.app₂ .c .p1 .p0) (by decide +kernel)

example : Conv (app Gen.Pair.swap (app2 Gen.Pair.pair p₁ p₂)) (app2 Gen.Pair.pair p₂ p₁) :=
  C17_swap _ _

theorem C17_curry_star (f a b : Term) :
    app3 Gen.Pair.curry f a b ↠ app f (app2 Gen.Pair.pair a b) :=
  norR 3 [f, a, b] (.app₃ .c .p0 .p1 .p2) (.app .p0 (.app₂ .c .p1 .p2)) (by decide +kernel)

theorem C17_curry (f a b : Term) :
    Conv (app3 Gen.Pair.curry f a b) (app f (app2 Gen.Pair.pair a b)) :=
  Conv.of_star (C17_curry_star f a b)

example : Conv (app3 Gen.Pair.curry p₁ p₂ p₃) (app p₁ (app2 Gen.Pair.pair p₂ p₃)) :=
  C17_curry _ _ _

theorem C17_uncurry_star (f a b : Term) :
    app2 Gen.Pair.uncurry f (app2 Gen.Pair.pair a b) ↠ app2 f a b :=
  norR 30 [f, a, b] (.app₂ .c .p0 (.app₂ .c .p1 .p2)) (.app₂ .p0 .p1 .p2) (by decide +kernel)

theorem C17_uncurry (f a b : Term) :
    Conv (app2 Gen.Pair.uncurry f (app2 Gen.Pair.pair a b)) (app2 f a b) :=
  Conv.of_star (C17_uncurry_star f a b)

example : Conv (app2 Gen.Pair.uncurry p₁ (app2 Gen.Pair.pair p₂ p₃)) (app2 p₁ p₂ p₃) :=
  C17_uncurry _ _ _

/-! ## options (argument orders as documented in `option.rs`) -/

theorem C17_is_some_none : app Gen.Opt.is_some Gen.Opt.none ↠ Gen.Bool.fls :=
  norR 30 [] .c .c (by decide +kernel)

theorem C17_is_some_some (x : Term) : app Gen.Opt.is_some (app Gen.Opt.some x) ↠ Gen.Bool.tru :=
  norR 30 [x] (.app .c (.app .c .p0)) .c (by decide +kernel)

example : app Gen.Opt.is_some (app Gen.Opt.some p₁) ↠ Gen.Bool.tru := C17_is_some_some _

theorem C17_is_none_none : app Gen.Opt.is_none Gen.Opt.none ↠ Gen.Bool.tru :=
  norR 30 [] .c .c (by decide +kernel)

theorem C17_is_none_some (x : Term) : app Gen.Opt.is_none (app Gen.Opt.some x) ↠ Gen.Bool.fls :=
  norR 30 [x] (.app .c (.app .c .p0)) .c (by decide +kernel)

example : app Gen.Opt.is_none (app Gen.Opt.some p₁) ↠ Gen.Bool.fls := C17_is_none_some _

theorem C17_opt_map_none (f : Term) : app2 Gen.Opt.map f Gen.Opt.none ↠ Gen.Opt.none :=
  norR 30 [f] (.app₂ .c .p0 .c) .c (by decide +kernel)

example : app2 Gen.Opt.map p₁ Gen.Opt.none ↠ Gen.Opt.none := C17_opt_map_none _

theorem C17_opt_map_some (f x : Term) :
    Conv (app2 Gen.Opt.map f (app Gen.Opt.some x)) (app Gen.Opt.some (app f x)) :=
  convR 30 30 [f, x] (.app₂ .c .p0 (.app .c .p1)) (.app .c (.app .p0 .p1)) (by decide +kernel)

example : Conv (app2 Gen.Opt.map p₁ (app Gen.Opt.some p₂)) (app Gen.Opt.some (app p₁ p₂)) :=
  C17_opt_map_some _ _

theorem C17_opt_map_or_none (d f : Term) : app3 Gen.Opt.map_or d f Gen.Opt.none ↠ d :=
  norR 30 [d, f] (.app₃ .c .p0 .p1 .c) .p0 (by decide +kernel)

example : app3 Gen.Opt.map_or p₁ p₂ Gen.Opt.none ↠ p₁ := C17_opt_map_or_none _ _

theorem C17_opt_map_or_some (d f x : Term) :
    app3 Gen.Opt.map_or d f (app Gen.Opt.some x) ↠ app f x :=
  norR 30 [d, f, x] (.app₃ .c .p0 .p1 (.app .c .p2)) (.app .p1 .p2) (by decide +kernel)

example : app3 Gen.Opt.map_or p₁ p₂ (app Gen.Opt.some p₃) ↠ app p₂ p₃ := C17_opt_map_or_some _ _ _

theorem C17_opt_unwrap_or_none (d : Term) : app2 Gen.Opt.unwrap_or d Gen.Opt.none ↠ d :=
  norR 30 [d] (.app₂ .c .p0 .c) .p0 (by decide +kernel)

example : app2 Gen.Opt.unwrap_or p₁ Gen.Opt.none ↠ p₁ := C17_opt_unwrap_or_none _

theorem C17_opt_unwrap_or_some (d x : Term) :
    app2 Gen.Opt.unwrap_or d (app Gen.Opt.some x) ↠ x :=
  norR 30 [d, x] (.app₂ .c .p0 (.app .c .p1)) .p1 (by decide +kernel)

example : app2 Gen.Opt.unwrap_or p₁ (app Gen.Opt.some p₂) ↠ p₂ := C17_opt_unwrap_or_some _ _

/-- and_then none f = none (option first, function second) -/
theorem C17_opt_and_then_none (f : Term) : app2 Gen.Opt.and_then Gen.Opt.none f ↠ Gen.Opt.none :=
  norR 30 [f] (.app₂ .c .c .p0) .c (by decide +kernel)

example : app2 Gen.Opt.and_then Gen.Opt.none p₁ ↠ Gen.Opt.none := C17_opt_and_then_none _

theorem C17_opt_and_then_some (x f : Term) :
    app2 Gen.Opt.and_then (app Gen.Opt.some x) f ↠ app f x :=
  norR 30 [x, f] (.app₂ .c (.app .c .p0) .p1) (.app .p1 .p0) (by decide +kernel)

example : app2 Gen.Opt.and_then (app Gen.Opt.some p₁) p₂ ↠ app p₂ p₁ := C17_opt_and_then_some _ _

/-! ## results (argument orders as documented in `result.rs`) -/

theorem C17_is_ok_ok (x : Term) : app Gen.Res.is_ok (app Gen.Res.ok x) ↠ Gen.Bool.tru :=
  norR 30 [x] (.app .c (.app .c .p0)) .c (by decide +kernel)

example : app Gen.Res.is_ok (app Gen.Res.ok p₁) ↠ Gen.Bool.tru := C17_is_ok_ok _

theorem C17_is_ok_err (x : Term) : app Gen.Res.is_ok (app Gen.Res.err x) ↠ Gen.Bool.fls :=
  norR 30 [x] (.app .c (.app .c .p0)) .c (by decide +kernel)

example : app Gen.Res.is_ok (app Gen.Res.err p₁) ↠ Gen.Bool.fls := C17_is_ok_err _

theorem C17_is_err_ok (x : Term) : app Gen.Res.is_err (app Gen.Res.ok x) ↠ Gen.Bool.fls :=
  norR 30 [x] (.app .c (.app .c .p0)) .c (by decide +kernel)

example : app Gen.Res.is_err (app Gen.Res.ok p₁) ↠ Gen.Bool.fls := C17_is_err_ok _

theorem C17_is_err_err (x : Term) : app Gen.Res.is_err (app Gen.Res.err x) ↠ Gen.Bool.tru :=
  norR 30 [x] (.app .c (.app .c .p0)) .c (by decide +kernel)

example : app Gen.Res.is_err (app Gen.Res.err p₁) ↠ Gen.Bool.tru := C17_is_err_err _

theorem C17_option_ok_ok (x : Term) :
    Conv (app Gen.Res.option_ok (app Gen.Res.ok x)) (app Gen.Opt.some x) :=
  convR 30 30 [x] (.app .c (.app .c .p0)) (.app .c .p0) (by decide +kernel)

example : Conv (app Gen.Res.option_ok (app Gen.Res.ok p₁)) (app Gen.Opt.some p₁) :=
  C17_option_ok_ok _

theorem C17_option_ok_err (x : Term) :
    app Gen.Res.option_ok (app Gen.Res.err x) ↠ Gen.Opt.none :=
  norR 30 [x] (.app .c (.app .c .p0)) .c (by decide +kernel)

example : app Gen.Res.option_ok (app Gen.Res.err p₁) ↠ Gen.Opt.none := C17_option_ok_err _

theorem C17_option_err_ok (x : Term) :
    app Gen.Res.option_err (app Gen.Res.ok x) ↠ Gen.Opt.none :=
  norR 30 [x] (.app .c (.app .c .p0)) .c (by decide +kernel)

example : app Gen.Res.option_err (app Gen.Res.ok p₁) ↠ Gen.Opt.none := C17_option_err_ok _

theorem C17_option_err_err (x : Term) :
    Conv (app Gen.Res.option_err (app Gen.Res.err x)) (app Gen.Opt.some x) :=
  convR 30 30 [x] (.app .c (.app .c .p0)) (.app .c .p0) (by decide +kernel)

example : Conv (app Gen.Res.option_err (app Gen.Res.err p₁)) (app Gen.Opt.some p₁) :=
  C17_option_err_err _

theorem C17_res_unwrap_or_ok (d x : Term) : app2 Gen.Res.unwrap_or d (app Gen.Res.ok x) ↠ x :=
  norR 30 [d, x] (.app₂ .c .p0 (.app .c .p1)) .p1 (by decide +kernel)

example : app2 Gen.Res.unwrap_or p₁ (app Gen.Res.ok p₂) ↠ p₂ := C17_res_unwrap_or_ok _ _

theorem C17_res_unwrap_or_err (d x : Term) : app2 Gen.Res.unwrap_or d (app Gen.Res.err x) ↠ d :=
  norR 30 [d, x] (.app₂ .c .p0 (.app .c .p1)) .p0 (by decide +kernel)

example : app2 Gen.Res.unwrap_or p₁ (app Gen.Res.err p₂) ↠ p₁ := C17_res_unwrap_or_err _ _

theorem C17_res_map_ok (f x : Term) :
    Conv (app2 Gen.Res.map f (app Gen.Res.ok x)) (app Gen.Res.ok (app f x)) :=
  convR 30 30 [f, x] (.app₂ .c .p0 (.app .c .p1)) (.app .c (.app .p0 .p1)) (by decide +kernel)

example : Conv (app2 Gen.Res.map p₁ (app Gen.Res.ok p₂)) (app Gen.Res.ok (app p₁ p₂)) :=
  C17_res_map_ok _ _

theorem C17_res_map_err (f x : Term) :
    Conv (app2 Gen.Res.map f (app Gen.Res.err x)) (app Gen.Res.err x) :=
  convR 30 30 [f, x] (.app₂ .c .p0 (.app .c .p1)) (.app .c .p1) (by decide +kernel)

example : Conv (app2 Gen.Res.map p₁ (app Gen.Res.err p₂)) (app Gen.Res.err p₂) :=
  C17_res_map_err _ _

theorem C17_res_map_err_ok (f x : Term) :
    Conv (app2 Gen.Res.map_err f (app Gen.Res.ok x)) (app Gen.Res.ok x) :=
  convR 30 30 [f, x] (.app₂ .c .p0 (.app .c .p1)) (.app .c .p1) (by decide +kernel)

example : Conv (app2 Gen.Res.map_err p₁ (app Gen.Res.ok p₂)) (app Gen.Res.ok p₂) :=
  C17_res_map_err_ok _ _

theorem C17_res_map_err_err (f x : Term) :
    Conv (app2 Gen.Res.map_err f (app Gen.Res.err x)) (app Gen.Res.err (app f x)) :=
  convR 30 30 [f, x] (.app₂ .c .p0 (.app .c .p1)) (.app .c (.app .p0 .p1)) (by decide +kernel)

example : Conv (app2 Gen.Res.map_err p₁ (app Gen.Res.err p₂)) (app Gen.Res.err (app p₁ p₂)) :=
  C17_res_map_err_err _ _

/-- and_then (ok x) f = f x (result first, function second) -/
theorem C17_res_and_then_ok (x f : Term) :
    app2 Gen.Res.and_then (app Gen.Res.ok x) f ↠ app f x :=
  norR 30 [x, f] (.app₂ .c (.app .c .p0) .p1) (.app .p1 .p0) (by decide +kernel)

example : app2 Gen.Res.and_then (app Gen.Res.ok p₁) p₂ ↠ app p₂ p₁ := C17_res_and_then_ok _ _

theorem C17_res_and_then_err (x f : Term) :
    Conv (app2 Gen.Res.and_then (app Gen.Res.err x) f) (app Gen.Res.err x) :=
  convR 30 30 [x, f] (.app₂ .c (.app .c .p0) .p1) (.app .c .p0) (by decide +kernel)

example : Conv (app2 Gen.Res.and_then (app Gen.Res.err p₁) p₂) (app Gen.Res.err p₁) :=
  C17_res_and_then_err _ _

/-- the truth tables of `not`, `and`, `or`, `xor`, `nor`, `xnor`, `nand`, `imply` (rows TT, TF, FT,
FF) and of `if_else` on boolean branches -/
theorem C17_bool_table :
    (app Gen.Bool.not Gen.Bool.tru ↠ Gen.Bool.fls ∧ app Gen.Bool.not Gen.Bool.fls ↠ Gen.Bool.tru) ∧
    (app2 Gen.Bool.and Gen.Bool.tru Gen.Bool.tru ↠ Gen.Bool.tru ∧
     app2 Gen.Bool.and Gen.Bool.tru Gen.Bool.fls ↠ Gen.Bool.fls ∧
     app2 Gen.Bool.and Gen.Bool.fls Gen.Bool.tru ↠ Gen.Bool.fls ∧
     app2 Gen.Bool.and Gen.Bool.fls Gen.Bool.fls ↠ Gen.Bool.fls) ∧
    (app2 Gen.Bool.or Gen.Bool.tru Gen.Bool.tru ↠ Gen.Bool.tru ∧
     app2 Gen.Bool.or Gen.Bool.tru Gen.Bool.fls ↠ Gen.Bool.tru ∧
     app2 Gen.Bool.or Gen.Bool.fls Gen.Bool.tru ↠ Gen.Bool.tru ∧
     app2 Gen.Bool.or Gen.Bool.fls Gen.Bool.fls ↠ Gen.Bool.fls) ∧
    (app2 Gen.Bool.xor Gen.Bool.tru Gen.Bool.tru ↠ Gen.Bool.fls ∧
     app2 Gen.Bool.xor Gen.Bool.tru Gen.Bool.fls ↠ Gen.Bool.tru ∧
     app2 Gen.Bool.xor Gen.Bool.fls Gen.Bool.tru ↠ Gen.Bool.tru ∧
     app2 Gen.Bool.xor Gen.Bool.fls Gen.Bool.fls ↠ Gen.Bool.fls) ∧
    (app2 Gen.Bool.nor Gen.Bool.tru Gen.Bool.tru ↠ Gen.Bool.fls ∧
     app2 Gen.Bool.nor Gen.Bool.tru Gen.Bool.fls ↠ Gen.Bool.fls ∧
     app2 Gen.Bool.nor Gen.Bool.fls Gen.Bool.tru ↠ Gen.Bool.fls ∧
     app2 Gen.Bool.nor Gen.Bool.fls Gen.Bool.fls ↠ Gen.Bool.tru) ∧
    (app2 Gen.Bool.xnor Gen.Bool.tru Gen.Bool.tru ↠ Gen.Bool.tru ∧
     app2 Gen.Bool.xnor Gen.Bool.tru Gen.Bool.fls ↠ Gen.Bool.fls ∧
     app2 Gen.Bool.xnor Gen.Bool.fls Gen.Bool.tru ↠ Gen.Bool.fls ∧
     app2 Gen.Bool.xnor Gen.Bool.fls Gen.Bool.fls ↠ Gen.Bool.tru) ∧
    (app2 Gen.Bool.nand Gen.Bool.tru Gen.Bool.tru ↠ Gen.Bool.fls ∧
     app2 Gen.Bool.nand Gen.Bool.tru Gen.Bool.fls ↠ Gen.Bool.tru ∧
     app2 Gen.Bool.nand Gen.Bool.fls Gen.Bool.tru ↠ Gen.Bool.tru ∧
     app2 Gen.Bool.nand Gen.Bool.fls Gen.Bool.fls ↠ Gen.Bool.tru) ∧
    (app2 Gen.Bool.imply Gen.Bool.tru Gen.Bool.tru ↠ Gen.Bool.tru ∧
     app2 Gen.Bool.imply Gen.Bool.tru Gen.Bool.fls ↠ Gen.Bool.fls ∧
     app2 Gen.Bool.imply Gen.Bool.fls Gen.Bool.tru ↠ Gen.Bool.tru ∧
     app2 Gen.Bool.imply Gen.Bool.fls Gen.Bool.fls ↠ Gen.Bool.tru) ∧
    (app3 Gen.Bool.if_else Gen.Bool.tru Gen.Bool.tru Gen.Bool.tru ↠ Gen.Bool.tru ∧
     app3 Gen.Bool.if_else Gen.Bool.tru Gen.Bool.tru Gen.Bool.fls ↠ Gen.Bool.tru ∧
     app3 Gen.Bool.if_else Gen.Bool.tru Gen.Bool.fls Gen.Bool.tru ↠ Gen.Bool.fls ∧
     app3 Gen.Bool.if_else Gen.Bool.tru Gen.Bool.fls Gen.Bool.fls ↠ Gen.Bool.fls ∧
     app3 Gen.Bool.if_else Gen.Bool.fls Gen.Bool.tru Gen.Bool.tru ↠ Gen.Bool.tru ∧
     app3 Gen.Bool.if_else Gen.Bool.fls Gen.Bool.tru Gen.Bool.fls ↠ Gen.Bool.fls ∧
     app3 Gen.Bool.if_else Gen.Bool.fls Gen.Bool.fls Gen.Bool.tru ↠ Gen.Bool.tru ∧
     app3 Gen.Bool.if_else Gen.Bool.fls Gen.Bool.fls Gen.Bool.fls ↠ Gen.Bool.fls) := by
  refine ⟨⟨?_, ?_⟩, ⟨?_, ?_, ?_, ?_⟩, ⟨?_, ?_, ?_, ?_⟩, ⟨?_, ?_, ?_, ?_⟩, ⟨?_, ?_, ?_, ?_⟩,
    ⟨?_, ?_, ?_, ?_⟩, ⟨?_, ?_, ?_, ?_⟩, ⟨?_, ?_, ?_, ?_⟩, ⟨?_, ?_, ?_, ?_, ?_, ?_, ?_, ?_⟩⟩ <;>
    exact star_of_norSteps 20 _ _ (by decide)

/-- the encoding of a Rust `bool` by the generated constants -/
def C17.ofBool (b : Bool) : Term := if b then Gen.Bool.tru else Gen.Bool.fls

/-- the tables above as one statement: on encoded truth values each connective computes the operation on `Bool` -/
theorem C17_bool_fun (p q r : Bool) :
    app Gen.Bool.not (ofBool p) ↠ ofBool (!p) ∧
    app2 Gen.Bool.and (ofBool p) (ofBool q) ↠ ofBool (p && q) ∧
    app2 Gen.Bool.or (ofBool p) (ofBool q) ↠ ofBool (p || q) ∧
    app2 Gen.Bool.xor (ofBool p) (ofBool q) ↠ ofBool (p != q) ∧
    app2 Gen.Bool.nor (ofBool p) (ofBool q) ↠ ofBool (!(p || q)) ∧
    app2 Gen.Bool.xnor (ofBool p) (ofBool q) ↠ ofBool (p == q) ∧
    app2 Gen.Bool.nand (ofBool p) (ofBool q) ↠ ofBool (!(p && q)) ∧
    app2 Gen.Bool.imply (ofBool p) (ofBool q) ↠ ofBool (!p || q) ∧
    app3 Gen.Bool.if_else (ofBool p) (ofBool q) (ofBool r) ↠ ofBool (if p then q else r) := by
  cases p <;> cases q <;>
    (refine ⟨?_, ?_, ?_, ?_, ?_, ?_, ?_, ?_, by cases r <;> exact star_of_norSteps 20 _ _ (by decide)⟩ <;>
      exact star_of_norSteps 20 _ _ (by decide))

/-- the two truth values are distinct normal forms; a term reduces to at most one normal form (`normal_unique`), so a line
of the tables above excludes the other truth value (the `example` below is one instance) -/
theorem C17_tru_ne_fls :
    Gen.Bool.tru ≠ Gen.Bool.fls ∧ isNormal Gen.Bool.tru = true ∧ isNormal Gen.Bool.fls = true := by
  decide

example : ¬ app2 Gen.Bool.and Gen.Bool.tru Gen.Bool.fls ↠ Gen.Bool.tru :=
  not_star_of_norSteps 20 _ Gen.Bool.fls _ (by decide) (by decide) (by decide) (by decide)

theorem C17_if_else (a b : Term) :
    app3 Gen.Bool.if_else Gen.Bool.tru a b ↠ a ∧ app3 Gen.Bool.if_else Gen.Bool.fls a b ↠ b :=
  ⟨norR 30 [a, b] (.app₃ .c .c .p0 .p1) .p0 (by decide +kernel),
   norR 30 [a, b] (.app₃ .c .c .p0 .p1) .p1 (by decide +kernel)⟩

example :
    app3 Gen.Bool.if_else Gen.Bool.tru p₁ p₂ ↠ p₁ ∧ app3 Gen.Bool.if_else Gen.Bool.fls p₁ p₂ ↠ p₂ :=
  C17_if_else _ _

theorem C17_tru_fls (a b : Term) : app2 Gen.Bool.tru a b ↠ a ∧ app2 Gen.Bool.fls a b ↠ b :=
  ⟨norR 30 [a, b] (.app₂ .c .p0 .p1) .p0 (by decide +kernel), norR 30 [a, b] (.app₂ .c .p0 .p1) .p1 (by decide +kernel)⟩

/-! ## `From` conversions

The Rust conversions build the term directly around the payload (no shifting): for arbitrary
payloads the constructor application reduces to the conversion of the payload *placed under the new
binders* (`shiftFV`), which for closed payloads is the payload itself. -/

/-- pair a b ↠ λ. 1 a b, arbitrary payloads (placed under the one new binder) -/
theorem C17_from_pair_open (a b : Term) :
    app2 Gen.Pair.pair a b ↠ fromPair (shiftFV 1 0 a) (shiftFV 1 0 b) :=
  norR 30 [a, b] (.app₂ .c .p0 .p1) (.cell .s0 .s1) (by decide +kernel)

theorem C17_from_pair (a b : Term) (ha : closedAt 0 a = true) (hb : closedAt 0 b = true) :
    app2 Gen.Pair.pair a b ↠ fromPair a b := by
  simpa [shiftFV_closed 1 0 ha, shiftFV_closed 1 0 hb] using C17_from_pair_open a b

/-- some x ↠ λλ. 1 x, arbitrary payload (placed under the two new binders) -/
theorem C17_from_some_open (x : Term) :
    app Gen.Opt.some x ↠ fromOption (some (shiftFV 2 0 x)) :=
  norR 30 [x] (.app .c .p0) (.abs (.abs (.app .bv .s0))) (by decide +kernel)

theorem C17_from_some (x : Term) (hx : closedAt 0 x = true) :
    app Gen.Opt.some x ↠ fromOption (some x) := by
  simpa [shiftFV_closed 2 0 hx] using C17_from_some_open x

theorem C17_from_none : fromOption none = Gen.Opt.none := by decide

/-- ok x ↠ λλ. 2 x, arbitrary payload -/
theorem C17_from_ok_open (x : Term) :
    app Gen.Res.ok x ↠ fromResult (.ok (shiftFV 2 0 x)) :=
  norR 30 [x] (.app .c .p0) (.abs (.abs (.app .bv .s0))) (by decide +kernel)

theorem C17_from_ok (x : Term) (hx : closedAt 0 x = true) :
    app Gen.Res.ok x ↠ fromResult (.ok x) := by
  simpa [shiftFV_closed 2 0 hx] using C17_from_ok_open x

/-- err x ↠ λλ. 1 x, arbitrary payload -/
theorem C17_from_err_open (x : Term) :
    app Gen.Res.err x ↠ fromResult (.error (shiftFV 2 0 x)) :=
  norR 30 [x] (.app .c .p0) (.abs (.abs (.app .bv .s0))) (by decide +kernel)

theorem C17_from_err (x : Term) (hx : closedAt 0 x = true) :
    app Gen.Res.err x ↠ fromResult (.error x) := by
  simpa [shiftFV_closed 2 0 hx] using C17_from_err_open x

theorem C17_from_bool : fromBool true = Gen.Bool.tru ∧ fromBool false = Gen.Bool.fls := by decide

/-- the conversions of normal payloads are normal forms (closedness is not even needed here) -/
theorem C17_from_normal (a b : Term) (ha : isNormal a = true) (hb : isNormal b = true) :
    isNormal (fromPair a b) = true ∧
    isNormal (fromOption (some a)) = true ∧ isNormal (fromOption none) = true ∧
    isNormal (fromResult (.ok a)) = true ∧ isNormal (fromResult (.error a)) = true ∧
    (∀ p : Bool, isNormal (fromBool p) = true) := by
  refine ⟨?_, ?_, ?_, ?_, ?_, ?_⟩
  · simp [fromPair, isNormal, isAbs, ha, hb]
  · simp [fromOption, isNormal, isAbs, ha]
  · decide
  · simp [fromResult, isNormal, isAbs, ha]
  · simp [fromResult, isNormal, isAbs, ha]
  · decide

/-- hence, for closed normal payloads, the conversion IS the (unique) normal form of the constructor
application: every reduction of `pair a b` / `some a` / `ok a` / `err a` to a normal form ends in
the `From` term -/
theorem C17_from_nf (a b n : Term) (ha : closedAt 0 a = true) (hb : closedAt 0 b = true)
    (na : isNormal a = true) (nb : isNormal b = true) (hn : Normal n) :
    (app2 Gen.Pair.pair a b ↠ n → n = fromPair a b) ∧
    (app Gen.Opt.some a ↠ n → n = fromOption (some a)) ∧
    (app Gen.Res.ok a ↠ n → n = fromResult (.ok a)) ∧
    (app Gen.Res.err a ↠ n → n = fromResult (.error a)) := by
  have N := C17_from_normal a b na nb
  refine ⟨fun h => ?_, fun h => ?_, fun h => ?_, fun h => ?_⟩
  · exact normal_unique h (C17_from_pair a b ha hb) hn ((isNormal_iff_normal _).1 N.1)
  · exact normal_unique h (C17_from_some a ha) hn ((isNormal_iff_normal _).1 N.2.1)
  · exact normal_unique h (C17_from_ok a ha) hn ((isNormal_iff_normal _).1 N.2.2.2.1)
  · exact normal_unique h (C17_from_err a ha) hn ((isNormal_iff_normal _).1 N.2.2.2.2.1)

/-- more generally the payloads need not be normal: if closed payloads reduce to `a'`, `b'` (their normal forms in
particular), the constructor applications reduce to the conversions of `a'`, `b'` -/
theorem C17_from_reduce (a b a' b' : Term) (ha : closedAt 0 a = true) (hb : closedAt 0 b = true)
    (ra : a ↠ a') (rb : b ↠ b') :
    app2 Gen.Pair.pair a b ↠ fromPair a' b' ∧
    app Gen.Opt.some a ↠ fromOption (some a') ∧
    app Gen.Res.ok a ↠ fromResult (.ok a') ∧
    app Gen.Res.err a ↠ fromResult (.error a') := by
  refine ⟨?_, ?_, ?_, ?_⟩
  · exact (C17_from_pair a b ha hb).trans
      (Star.congAbs (Star.congApp (Star.congAppR _ ra) rb))
  · exact (C17_from_some a ha).trans (Star.congAbs (Star.congAbs (Star.congAppR _ ra)))
  · exact (C17_from_ok a ha).trans (Star.congAbs (Star.congAbs (Star.congAppR _ ra)))
  · exact (C17_from_err a ha).trans (Star.congAbs (Star.congAbs (Star.congAppR _ ra)))

-- non-vacuity: closed, non-trivial payloads (a combinator and a redex)
example : app2 Gen.Pair.pair Gen.Comb.S (app Gen.Comb.I Gen.Comb.K)
    ↠ fromPair Gen.Comb.S (app Gen.Comb.I Gen.Comb.K) := C17_from_pair _ _ (by decide) (by decide)
example : app Gen.Opt.some Gen.Comb.Y ↠ fromOption (some Gen.Comb.Y) := C17_from_some _ (by decide)
example : app Gen.Res.ok Gen.Comb.Y ↠ fromResult (.ok Gen.Comb.Y) := C17_from_ok _ (by decide)
example : app Gen.Res.err Gen.Comb.Y ↠ fromResult (.error Gen.Comb.Y) := C17_from_err _ (by decide)
-- open payloads: the payload appears shifted under the new binders …
example : app2 Gen.Pair.pair p₁ p₂
    ↠ fromPair (app (var 4) (abs (var 3))) (abs (app (var 1) (var 5))) := C17_from_pair_open p₁ p₂
-- … and the unshifted statement is FALSE for open payloads (`pair (var 1) (var 1)` normalises to
-- `λ. 1 2 2`, whereas the Rust conversion of `(Var(1), Var(1))` is `λ. 1 1 1`: it captures)
example : ¬ app2 Gen.Pair.pair (var 1) (var 1) ↠ fromPair (var 1) (var 1) :=
  not_star_of_norSteps 30 _ (fromPair (var 2) (var 2)) _ (by decide) (by decide) (by decide)
    (by decide)

/-! ## tuples: `pi!(i, n)` on `tuple!`

`tuple!(x₁, …, xₙ)` is `λ. 1 x₁ … xₙ` built around the components WITHOUT shifting them, so a law
for arbitrary (possibly open) components must place them under the tuple's binder (`shiftFV 1 0`);
for closed components this is the component itself.  The unshifted statement is false for open
components (counterexample at the end of the section). -/

abbrev C17.up (x : Term) : Term := shiftFV 1 0 x

namespace C17

theorem absN_succ' (n : Nat) (t : Term) : absN (n + 1) t = abs (absN n t) := by
  induction n generalizing t with
  | zero => rfl
  | succ n ih => exact ih (abs t)

theorem applyAux_absN (r : Term) (d k : Nat) (t : Term) :
    applyAux r d (absN k t) = absN k (applyAux r (d + k) t) := by
  induction k generalizing d with
  | zero => rfl
  | succ k ih =>
    rw [absN_succ', absN_succ']
    simp only [applyAux]
    rw [ih]; congr 3; omega

theorem applyAux_foldl (r : Term) (d : Nat) (ys : List Term) (t : Term) :
    applyAux r d (ys.foldl app t) = (ys.map (applyAux r d)).foldl app (applyAux r d t) := by
  induction ys generalizing t with
  | nil => rfl
  | cons y ys ih => simp [List.foldl, ih, applyAux]

theorem star_foldl {t t' : Term} (h : t ↠ t') (ys : List Term) :
    ys.foldl app t ↠ ys.foldl app t' := by
  induction ys generalizing t t' with
  | nil => exact h
  | cons y ys ih => exact ih (Star.congAppL y h)

/-- a constant function of `k` arguments returns its body: `(λ^k. c↑k) y₁ … y_k ↠ c` -/
theorem sel_const (ys : List Term) (c : Term) :
    ys.foldl app (absN ys.length (shiftFV ys.length 0 c)) ↠ c := by
  induction ys with
  | nil => simp [absN, shiftFV_zero]; exact Star.refl _
  | cons y ys ih =>
    simp only [List.length_cons, List.foldl, absN_succ']
    refine Star.trans (star_foldl (Star.redc _ y) ys) ?_
    have e : contract (absN ys.length (shiftFV (ys.length + 1) 0 c)) y
        = absN ys.length (shiftFV ys.length 0 c) := by
      rw [contract, applyAux_absN,
        applyAux_shiftFV_cancel' y (1 + ys.length) 0 ys.length (by omega) (by omega) c]
    rw [e]; exact ih

/-- the selector `λ^n. m` applied to `n` arbitrary arguments returns argument number `n - m`
(zero-based) -/
theorem sel_star (ys : List Term) (m : Nat) (h1 : 1 ≤ m) (h2 : m ≤ ys.length) :
    ys.foldl app (absN ys.length (var m)) ↠ ys.getD (ys.length - m) (var 0) := by
  induction ys with
  | nil => simp at h2; omega
  | cons y ys ih =>
    simp only [List.length_cons, List.foldl, absN_succ']
    refine Star.trans (star_foldl (Star.redc _ y) ys) ?_
    rw [contract, applyAux_absN]
    by_cases hm : m = ys.length + 1
    · subst hm
      have e : applyAux y (1 + ys.length) (var (ys.length + 1)) = shiftFV ys.length 0 y := by
        have : ys.length + 1 = 1 + ys.length := by omega
        simp [applyAux, this]
      rw [e]
      simpa using sel_const ys y
    · have hm' : m ≤ ys.length := by simp at h2; omega
      have e : applyAux y (1 + ys.length) (var m) = var m := by
        have a1 : ¬ m = 1 + ys.length := by omega
        have a2 : ¬ m > 1 + ys.length := by omega
        simp [applyAux, a1, a2]
      rw [e]
      have e2 : ys.length + 1 - m = (ys.length - m) + 1 := by omega
      rw [e2]
      simpa using ih hm'

theorem applyAux_sel (r : Term) (d n m : Nat) (hd : 1 ≤ d) (hm : m ≤ n) :
    applyAux r d (absN n (var m)) = absN n (var m) := by
  have a1 : ¬ (m = d + n) := by omega
  have a2 : ¬ (m > d + n) := by omega
  rw [applyAux_absN]; simp [applyAux, a1, a2]

/-- `(λ. 1 (λ^n. m)) (λ. 1 x↑ xs↑…) ↠ (x :: xs)[n - m]`, `n = |x :: xs|` -/
theorem tuple_sel (x : Term) (xs : List Term) (m : Nat) (h1 : 1 ≤ m) (h2 : m ≤ xs.length + 1) :
    app (abs (app (var 1) (absN (xs.length + 1) (var m))))
        (tuple (shiftFV 1 0 x) (xs.map (shiftFV 1 0)))
      ↠ (x :: xs).getD (xs.length + 1 - m) (var 0) := by
  generalize hsel : absN (xs.length + 1) (var m) = sel
  generalize hT : tuple (shiftFV 1 0 x) (xs.map (shiftFV 1 0)) = T
  have hs : ∀ r d, 1 ≤ d → applyAux r d sel = sel := by
    intro r d hd; rw [← hsel]; exact applyAux_sel r d _ m hd h2
  have s1 : app (abs (app (var 1) sel)) T ↠ app T sel := by
    have := Star.redc (app (var 1) sel) T
    simpa [contract, applyAux, shiftFV_zero, hs T 1 (Nat.le_refl 1)] using this
  have s2 : app T sel ↠ (x :: xs).foldl app sel := by
    have := Star.redc (List.foldl app (app (var 1) (shiftFV 1 0 x)) (xs.map (shiftFV 1 0))) sel
    rw [contract, applyAux_foldl] at this
    rw [← hT]
    simpa [applyAux, shiftFV_zero, applyAux_shiftFV_cancel sel 1 0 (Nat.le_refl 1) rfl,
      List.map_map, Function.comp_def, tuple] using this
  have s3 := sel_star (x :: xs) m h1 (by simpa using h2)
  rw [List.length_cons, hsel] at s3
  exact (s1.trans s2).trans s3

end C17

/-- C17, tuples of any length, arbitrary components (placed under the tuple's binder): `pi!(i+1, n)`
selects component number `i` (zero-based) of `tuple!(x, xs…)`, `n = 1 + |xs|` -/
theorem C17_tuple_open (x : Term) (xs : List Term) (i : Nat) (hi : i < (x :: xs).length) :
    app (pi (i + 1) (x :: xs).length) (tuple (shiftFV 1 0 x) (xs.map (shiftFV 1 0)))
      ↠ (x :: xs)[i] := by
  have hi' : i ≤ xs.length := by simp at hi; omega
  have h := tuple_sel x xs (xs.length + 1 - i) (by omega) (by omega)
  have e1 : xs.length + 1 - (xs.length + 1 - i) = i := by omega
  have e2 : (x :: xs).getD i (var 0) = (x :: xs)[i] := by
    simp [List.getD, List.getElem?_eq_getElem hi]
  have e3 : xs.length + 1 + 1 - (i + 1) = xs.length + 1 - i := by omega
  rw [e1, e2] at h
  simpa [pi, e3] using h

/-- C17, tuples of any length with closed components: `pi!(i+1, n)` on `tuple!(x, xs…)` yields the
component number `i` (zero-based) -/
theorem C17_tuple (x : Term) (xs : List Term) (i : Nat) (hi : i < (x :: xs).length)
    (hc : ∀ y ∈ x :: xs, closedAt 0 y = true) :
    app (pi (i + 1) (x :: xs).length) (tuple x xs) ↠ (x :: xs)[i] := by
  have h := C17_tuple_open x xs i hi
  have e1 : shiftFV 1 0 x = x := shiftFV_closed 1 0 (hc x (by simp))
  have e2 : xs.map (shiftFV 1 0) = xs := by
    conv => rhs; rw [← List.map_id xs]
    apply List.map_congr_left
    intro y hy; exact shiftFV_closed 1 0 (hc y (by simp [hy]))
  rwa [e1, e2] at h

theorem C17_tuple2_open (x₁ x₂ : Term) :
    app (pi 1 2) (tuple (up x₁) [up x₂]) ↠ x₁ ∧
    app (pi 2 2) (tuple (up x₁) [up x₂]) ↠ x₂ := by
  refine ⟨?_, ?_⟩
  · exact C17_tuple_open x₁ [x₂] 0 (by simp)
  · exact C17_tuple_open x₁ [x₂] 1 (by simp)

theorem C17_tuple2 (x₁ x₂ : Term)
    (h₁ : closedAt 0 x₁ = true) (h₂ : closedAt 0 x₂ = true) :
    app (pi 1 2) (tuple x₁ [x₂]) ↠ x₁ ∧
    app (pi 2 2) (tuple x₁ [x₂]) ↠ x₂ := by
  simpa [up, shiftFV_closed 1 0 h₁, shiftFV_closed 1 0 h₂] using C17_tuple2_open x₁ x₂

theorem C17_tuple3_open (x₁ x₂ x₃ : Term) :
    app (pi 1 3) (tuple (up x₁) [up x₂, up x₃]) ↠ x₁ ∧
    app (pi 2 3) (tuple (up x₁) [up x₂, up x₃]) ↠ x₂ ∧
    app (pi 3 3) (tuple (up x₁) [up x₂, up x₃]) ↠ x₃ := by
  refine ⟨?_, ?_, ?_⟩
  · exact C17_tuple_open x₁ [x₂, x₃] 0 (by simp)
  · exact C17_tuple_open x₁ [x₂, x₃] 1 (by simp)
  · exact C17_tuple_open x₁ [x₂, x₃] 2 (by simp)

theorem C17_tuple3 (x₁ x₂ x₃ : Term)
    (h₁ : closedAt 0 x₁ = true) (h₂ : closedAt 0 x₂ = true) (h₃ : closedAt 0 x₃ = true) :
    app (pi 1 3) (tuple x₁ [x₂, x₃]) ↠ x₁ ∧
    app (pi 2 3) (tuple x₁ [x₂, x₃]) ↠ x₂ ∧
    app (pi 3 3) (tuple x₁ [x₂, x₃]) ↠ x₃ := by
  simpa [up, shiftFV_closed 1 0 h₁, shiftFV_closed 1 0 h₂, shiftFV_closed 1 0 h₃]
    using C17_tuple3_open x₁ x₂ x₃

theorem C17_tuple4_open (x₁ x₂ x₃ x₄ : Term) :
    app (pi 1 4) (tuple (up x₁) [up x₂, up x₃, up x₄]) ↠ x₁ ∧
    app (pi 2 4) (tuple (up x₁) [up x₂, up x₃, up x₄]) ↠ x₂ ∧
    app (pi 3 4) (tuple (up x₁) [up x₂, up x₃, up x₄]) ↠ x₃ ∧
    app (pi 4 4) (tuple (up x₁) [up x₂, up x₃, up x₄]) ↠ x₄ := by
  refine ⟨?_, ?_, ?_, ?_⟩
  · exact C17_tuple_open x₁ [x₂, x₃, x₄] 0 (by simp)
  · exact C17_tuple_open x₁ [x₂, x₃, x₄] 1 (by simp)
  · exact C17_tuple_open x₁ [x₂, x₃, x₄] 2 (by simp)
  · exact C17_tuple_open x₁ [x₂, x₃, x₄] 3 (by simp)

theorem C17_tuple4 (x₁ x₂ x₃ x₄ : Term)
    (h₁ : closedAt 0 x₁ = true) (h₂ : closedAt 0 x₂ = true) (h₃ : closedAt 0 x₃ = true)
    (h₄ : closedAt 0 x₄ = true) :
    app (pi 1 4) (tuple x₁ [x₂, x₃, x₄]) ↠ x₁ ∧
    app (pi 2 4) (tuple x₁ [x₂, x₃, x₄]) ↠ x₂ ∧
    app (pi 3 4) (tuple x₁ [x₂, x₃, x₄]) ↠ x₃ ∧
    app (pi 4 4) (tuple x₁ [x₂, x₃, x₄]) ↠ x₄ := by
  simpa [up, shiftFV_closed 1 0 h₁, shiftFV_closed 1 0 h₂, shiftFV_closed 1 0 h₃,
    shiftFV_closed 1 0 h₄] using C17_tuple4_open x₁ x₂ x₃ x₄

theorem C17_tuple5_open (x₁ x₂ x₃ x₄ x₅ : Term) :
    app (pi 1 5) (tuple (up x₁) [up x₂, up x₃, up x₄, up x₅]) ↠ x₁ ∧
    app (pi 2 5) (tuple (up x₁) [up x₂, up x₃, up x₄, up x₅]) ↠ x₂ ∧
    app (pi 3 5) (tuple (up x₁) [up x₂, up x₃, up x₄, up x₅]) ↠ x₃ ∧
    app (pi 4 5) (tuple (up x₁) [up x₂, up x₃, up x₄, up x₅]) ↠ x₄ ∧
    app (pi 5 5) (tuple (up x₁) [up x₂, up x₃, up x₄, up x₅]) ↠ x₅ := by
  refine ⟨?_, ?_, ?_, ?_, ?_⟩
  · exact C17_tuple_open x₁ [x₂, x₃, x₄, x₅] 0 (by simp)
  · exact C17_tuple_open x₁ [x₂, x₃, x₄, x₅] 1 (by simp)
  · exact C17_tuple_open x₁ [x₂, x₃, x₄, x₅] 2 (by simp)
  · exact C17_tuple_open x₁ [x₂, x₃, x₄, x₅] 3 (by simp)
  · exact C17_tuple_open x₁ [x₂, x₃, x₄, x₅] 4 (by simp)

theorem C17_tuple5 (x₁ x₂ x₃ x₄ x₅ : Term)
    (h₁ : closedAt 0 x₁ = true) (h₂ : closedAt 0 x₂ = true) (h₃ : closedAt 0 x₃ = true)
    (h₄ : closedAt 0 x₄ = true) (h₅ : closedAt 0 x₅ = true) :
    app (pi 1 5) (tuple x₁ [x₂, x₃, x₄, x₅]) ↠ x₁ ∧
    app (pi 2 5) (tuple x₁ [x₂, x₃, x₄, x₅]) ↠ x₂ ∧
    app (pi 3 5) (tuple x₁ [x₂, x₃, x₄, x₅]) ↠ x₃ ∧
    app (pi 4 5) (tuple x₁ [x₂, x₃, x₄, x₅]) ↠ x₄ ∧
    app (pi 5 5) (tuple x₁ [x₂, x₃, x₄, x₅]) ↠ x₅ := by
  simpa [up, shiftFV_closed 1 0 h₁, shiftFV_closed 1 0 h₂, shiftFV_closed 1 0 h₃,
    shiftFV_closed 1 0 h₄, shiftFV_closed 1 0 h₅] using C17_tuple5_open x₁ x₂ x₃ x₄ x₅

theorem C17_tuple6_open (x₁ x₂ x₃ x₄ x₅ x₆ : Term) :
    app (pi 1 6) (tuple (up x₁) [up x₂, up x₃, up x₄, up x₅, up x₆]) ↠ x₁ ∧
    app (pi 2 6) (tuple (up x₁) [up x₂, up x₃, up x₄, up x₅, up x₆]) ↠ x₂ ∧
    app (pi 3 6) (tuple (up x₁) [up x₂, up x₃, up x₄, up x₅, up x₆]) ↠ x₃ ∧
    app (pi 4 6) (tuple (up x₁) [up x₂, up x₃, up x₄, up x₅, up x₆]) ↠ x₄ ∧
    app (pi 5 6) (tuple (up x₁) [up x₂, up x₃, up x₄, up x₅, up x₆]) ↠ x₅ ∧
    app (pi 6 6) (tuple (up x₁) [up x₂, up x₃, up x₄, up x₅, up x₆]) ↠ x₆ := by
  refine ⟨?_, ?_, ?_, ?_, ?_, ?_⟩
  · exact C17_tuple_open x₁ [x₂, x₃, x₄, x₅, x₆] 0 (by simp)
  · exact C17_tuple_open x₁ [x₂, x₃, x₄, x₅, x₆] 1 (by simp)
  · exact C17_tuple_open x₁ [x₂, x₃, x₄, x₅, x₆] 2 (by simp)
  · exact C17_tuple_open x₁ [x₂, x₃, x₄, x₅, x₆] 3 (by simp)
  · exact C17_tuple_open x₁ [x₂, x₃, x₄, x₅, x₆] 4 (by simp)
  · exact C17_tuple_open x₁ [x₂, x₃, x₄, x₅, x₆] 5 (by simp)

theorem C17_tuple6 (x₁ x₂ x₃ x₄ x₅ x₆ : Term)
    (h₁ : closedAt 0 x₁ = true) (h₂ : closedAt 0 x₂ = true) (h₃ : closedAt 0 x₃ = true)
    (h₄ : closedAt 0 x₄ = true) (h₅ : closedAt 0 x₅ = true) (h₆ : closedAt 0 x₆ = true) :
    app (pi 1 6) (tuple x₁ [x₂, x₃, x₄, x₅, x₆]) ↠ x₁ ∧
    app (pi 2 6) (tuple x₁ [x₂, x₃, x₄, x₅, x₆]) ↠ x₂ ∧
    app (pi 3 6) (tuple x₁ [x₂, x₃, x₄, x₅, x₆]) ↠ x₃ ∧
    app (pi 4 6) (tuple x₁ [x₂, x₃, x₄, x₅, x₆]) ↠ x₄ ∧
    app (pi 5 6) (tuple x₁ [x₂, x₃, x₄, x₅, x₆]) ↠ x₅ ∧
    app (pi 6 6) (tuple x₁ [x₂, x₃, x₄, x₅, x₆]) ↠ x₆ := by
  simpa [up, shiftFV_closed 1 0 h₁, shiftFV_closed 1 0 h₂, shiftFV_closed 1 0 h₃,
    shiftFV_closed 1 0 h₄, shiftFV_closed 1 0 h₅, shiftFV_closed 1 0 h₆]
    using C17_tuple6_open x₁ x₂ x₃ x₄ x₅ x₆

-- non-vacuity: open components (shifted form) and closed non-trivial components
example : app (pi 2 3) (tuple (up p₁) [up p₂, up p₃]) ↠ p₂ :=
  (C17_tuple3_open p₁ p₂ p₃).2.1
example : app (pi 2 3) (tuple (app (var 4) (abs (var 3))) [abs (app (var 1) (var 5)),
    app (app (var 0) (var 8)) (abs (abs (var 1)))]) ↠ abs (app (var 1) (var 4)) :=
  (C17_tuple3_open p₁ p₂ p₃).2.1
example : app (pi 3 3) (tuple Gen.Comb.S [Gen.Comb.Y, app Gen.Comb.I Gen.Comb.K])
    ↠ app Gen.Comb.I Gen.Comb.K :=
  (C17_tuple3 _ _ _ (by decide) (by decide) (by decide)).2.2
/-- the unshifted law is FALSE for open components: `tuple!(Var(1), Var(5))` captures `Var(1)`, and
`pi!(1, 2)` extracts the selector `λλ2` instead of `Var(1)` -/
example : ¬ app (pi 1 2) (tuple (var 1) [var 5]) ↠ var 1 :=
  not_star_of_norSteps 30 _ (abs (abs (var 2))) _ (by decide) (by decide) (by decide) (by decide)

-- a 7-tuple (beyond the enumerated sizes), fifth component, open payloads
example : app (pi 5 7) (tuple (shiftFV 1 0 p₁)
    ([p₂, p₃, p₁, app p₂ p₃, p₂, p₃].map (shiftFV 1 0))) ↠ app p₂ p₃ :=
  C17_tuple_open p₁ [p₂, p₃, p₁, app p₂ p₃, p₂, p₃] 4 (by decide)

end LC
