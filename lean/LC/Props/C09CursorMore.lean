/-
C09, cursor model: the loop heads ACTUALLY visited.

`LC/Props/C09Cursor.lean` proves the cursor invariants for the states of the relations `ConvLoopAt` / `AstLoopAt`
("some activation is at its loop head with these values"), which are hand-written transition systems.  That these
are the states the functions `convLoopC` / `astLoopC` really go through is proved here:
`LC/Proofs/Syntax/CursorTrace.lean` instruments the two loops: `convLoopT` / `astLoopT` are the
same recursions which also return the list of the loop-head states they visit (also when the run fails).

`*pos ≤ tokens.len()` at every loop head is FALSE for `_convert_classic_tokens` (see C09Cursor.lean):
`C09_cursor_trace_pos_overshoot` exhibits a visited loop head with `*pos = tokens.len() + 1`.  What holds is
`≤ 2 * tokens.len()`, and `≤ tokens.len()` for `_get_ast`.
-/
import LC.Proofs.Syntax.CursorTrace
import LC.Props.C09Cursor

namespace LC
open Term Parser Cursor

/-- C09 (cursor trace): the instrumented loops ARE the cursor loops — erasing the trace (first component) gives
back `convLoopC`, `astLoopC`, `convertCur`, `getAstCur` exactly, for every fuel and every state -/
theorem C09_cursor_trace_erase (cts : List CToken) (toks : List Token) (fuel : Nat)
    (stack : List (List Nat)) (pos : Nat) (output : List Token) (inner : Nat) (nested : Bool)
    (expr : List Expression) :
    (convLoopT cts fuel stack pos output inner).2 = convLoopC cts fuel stack pos output inner ∧
    (astLoopT toks fuel pos nested expr).2 = astLoopC toks fuel pos nested expr ∧
    (convertCurT cts).2 = convertCur cts ∧
    (getAstCurT toks).2 = getAstCur toks :=
  ⟨convLoopT_erase cts fuel stack pos output inner, astLoopT_erase toks fuel pos nested expr,
    convertCurT_erase cts, getAstCurT_erase toks⟩

/-- the trace is not empty by construction: with fuel it starts with the state the loop is entered in (and every
recursive invocation records its own start state the same way) -/
theorem C09_cursor_trace_head (cts : List CToken) (toks : List Token) (fuel : Nat)
    (stack : List (List Nat)) (pos : Nat) (output : List Token) (inner : Nat) (nested : Bool)
    (expr : List Expression) :
    (convLoopT cts (fuel + 1) stack pos output inner).1.head? = some ⟨stack, pos, output, inner⟩ ∧
    (astLoopT toks (fuel + 1) pos nested expr).1.head? = some ⟨pos, nested, expr⟩ := by
  obtain ⟨tr, h⟩ := convLoopT_head cts fuel stack pos output inner
  obtain ⟨tr', h'⟩ := astLoopT_head toks fuel pos nested expr
  rw [h, h']; exact ⟨rfl, rfl⟩

/-- `λx.(x y) y`: the seven loop heads of the run, in order — the top-level activation at 0, 1, the callee at 2, 3, 4
(where it returns at the `)`), the caller again at 5, 6 — and the result -/
example : convertCurT [.CLambda [120], .CLparen, .CName [120], .CName [121], .CRparen, .CName [121]] =
    ([⟨[], 0, [], 0⟩, ⟨[[120]], 1, [.Lambda], 1⟩,
      ⟨[[120]], 2, [], 0⟩, ⟨[[120]], 3, [.Number 1], 0⟩, ⟨[[121], [120]], 4, [.Number 1, .Number 2], 0⟩,
      ⟨[[121], [120]], 5, [.Lambda, .Lparen, .Number 1, .Number 2, .Rparen], 1⟩,
      ⟨[[121], [120]], 6, [.Lambda, .Lparen, .Number 1, .Number 2, .Rparen, .Number 2], 1⟩],
     some [.Lambda, .Lparen, .Number 1, .Number 2, .Rparen, .Number 2]) := by decide +kernel

example : getAstCurT [.Lparen, .Number 1, .Rparen, .Lambda] =
    ([⟨0, false, []⟩, ⟨1, true, []⟩, ⟨2, true, [.Variable 1]⟩,
      ⟨3, false, [.Sequence [.Variable 1]]⟩, ⟨4, false, [.Sequence [.Variable 1], .Abstraction]⟩],
     some (.ok (.Sequence [.Sequence [.Variable 1], .Abstraction]))) := rfl

/-- C09 (cursor trace), SOUNDNESS of the reachability relations: every loop head visited while
`convert_classic_tokens(cts)` runs satisfies `ConvLoopAt cts`, every loop head visited while `get_ast(toks)` runs
satisfies `AstLoopAt toks` -/
theorem C09_cursor_trace_sound (cts : List CToken) (toks : List Token) :
    (∀ st ∈ (convertCurT cts).1, ConvLoopAt cts st.stack st.pos st.output st.inner) ∧
    (∀ st ∈ (getAstCurT toks).1, AstLoopAt toks st.pos st.nested st.expr) := by
  constructor
  · exact convLoopT_sound cts _ [] 0 [] 0 .top
  · intro st hst
    unfold getAstCurT at hst
    cases he : toks.isEmpty with
    | true => simp [he] at hst
    | false =>
      simp only [he, Bool.false_eq_true, if_false] at hst
      exact astLoopT_sound toks _ 0 false [] .top st hst

/-- non-vacuity: the trace of `x ( y` contains the caller's loop head after the callee ran into the end of the
input, and `C09_cursor_trace_sound` gives `ConvLoopAt` for it -/
example : ConvLoopAt [.CName [120], .CLparen, .CName [121]] [[121], [120]] 4
    [.Number 1, .Lparen, .Number 2] 0 :=
  (C09_cursor_trace_sound [.CName [120], .CLparen, .CName [121]] []).1
    ⟨[[121], [120]], 4, [.Number 1, .Lparen, .Number 2], 0⟩ (by decide +kernel)

/-- C09 (cursor trace), soundness for a run of the loops from ANY state that satisfies the relation, with ANY fuel
(also a run that fails or runs out of fuel only visits such states) -/
theorem C09_cursor_trace_sound_from (cts : List CToken) (toks : List Token) (fuel : Nat) :
    (∀ stack pos output inner, ConvLoopAt cts stack pos output inner →
      ∀ st ∈ (convLoopT cts fuel stack pos output inner).1,
        ConvLoopAt cts st.stack st.pos st.output st.inner) ∧
    (∀ pos nested expr, AstLoopAt toks pos nested expr →
      ∀ st ∈ (astLoopT toks fuel pos nested expr).1, AstLoopAt toks st.pos st.nested st.expr) :=
  ⟨convLoopT_sound cts fuel, astLoopT_sound toks fuel⟩

/-- C09 (cursor trace), the relations are EXACT: a state satisfies `ConvLoopAt cts` / `AstLoopAt toks` if and only
if it is one of the loop heads visited by `convert_classic_tokens(cts)` / `get_ast(toks)` (for `get_ast` on a
non-empty token slice: on an empty one `_get_ast` returns before its loop, while `AstLoopAt [] 0 false []` holds) -/
theorem C09_cursor_trace_exact (cts : List CToken) (toks : List Token) :
    (∀ st : ConvHead, st ∈ (convertCurT cts).1 ↔ ConvLoopAt cts st.stack st.pos st.output st.inner) ∧
    (toks ≠ [] →
      ∀ st : AstHead, st ∈ (getAstCurT toks).1 ↔ AstLoopAt toks st.pos st.nested st.expr) := by
  constructor
  · exact convLoopT_trace_iff cts
  · intro hne st
    have he : toks.isEmpty = false := List.isEmpty_eq_false_iff.2 hne
    unfold getAstCurT
    simp only [he, Bool.false_eq_true, if_false]
    exact astLoopT_trace_iff toks st

/-- the side condition of the second part is needed -/
example : (getAstCurT []).1 = [] ∧ AstLoopAt [] 0 false [] := ⟨rfl, .top⟩

/-- non-vacuity of the converse direction: a derivation of `AstLoopAt` gives membership in the trace -/
example : (⟨3, false, [.Sequence [.Variable 1]]⟩ : AstHead) ∈
    (getAstCurT [.Lparen, .Number 1, .Rparen, .Lambda]).1 :=
  ((C09_cursor_trace_exact [] [.Lparen, .Number 1, .Rparen, .Lambda]).2 (by simp) _).2
    (.back (fuel := 4) .top rfl rfl)

/-- C09 (cursor trace), the cursor bounds at every loop head ACTUALLY visited.
`_convert_classic_tokens`: `inner_stack_count ≤ stack.len()` (the subtraction at a `)` cannot underflow),
`*pos ≤ 2 * tokens.len()`, and a loop head that is about to make the recursive call (`tokens[pos] = (`) enters the
callee with `pos + 1 ≤ tokens.len()` (so `tokens.len() - *pos` cannot underflow).
`_get_ast`: `*pos ≤ tokens.len()`. -/
theorem C09_cursor_trace_pos_le (cts : List CToken) (toks : List Token) :
    (∀ st ∈ (convertCurT cts).1,
      st.inner ≤ st.stack.length ∧ st.pos ≤ 2 * cts.length ∧
      (cts[st.pos]? = some .CLparen → st.pos + 1 ≤ cts.length)) ∧
    (∀ st ∈ (getAstCurT toks).1,
      st.pos ≤ toks.length ∧ (toks[st.pos]? = some .Lparen → st.pos + 1 ≤ toks.length)) := by
  obtain ⟨h1, h2⟩ := C09_cursor_trace_sound cts toks
  constructor
  · intro st hst
    have h := C09_cursor_pos_le_reached_conv cts st.stack st.pos st.output st.inner (h1 st hst)
    exact ⟨h.1, h.2.1, fun ht => (h.2.2 ht).1⟩
  · intro st hst
    exact C09_cursor_pos_le_reached_ast toks st.pos st.nested st.expr (h2 st hst)

/-- `*pos ≤ tokens.len()` is NOT a bound for the loop heads of `_convert_classic_tokens`: `convert_classic_tokens` of
one unclosed `(` visits the loop heads 0, 1 (the callee, which runs into the end) and 2 `= tokens.len() + 1` (the
caller after its `*pos += 1`) -/
theorem C09_cursor_trace_pos_overshoot :
    convertCurT [.CLparen] = ([⟨[], 0, [], 0⟩, ⟨[], 1, [], 0⟩, ⟨[], 2, [.Lparen], 0⟩], some [.Lparen]) ∧
    ∃ st ∈ (convertCurT [.CLparen]).1, [CToken.CLparen].length < st.pos := by
  refine ⟨by decide +kernel, ⟨[], 2, [.Lparen], 0⟩, by decide +kernel, by decide⟩

end LC
