/-
C08 — Reduction never invents variables: closed terms stay closed, UD stays UD

"For every term, order and limit, and for apply, every free variable of the result denotes a
free variable of the input (of the abstraction or the argument, for apply): the set of outer
references can shrink but never grow or be renumbered. In particular closed terms stay closed,
and index 0 (UD) appears in the result only if it appeared in the input and is never shifted,
substituted for, or captured."

`Spec.FreeIn j t` ("some occurrence in `t` refers to the `j`-th binder outside `t`", `j ≥ 1`) and
`Spec.hasUD` are defined in `LC/Spec/FreeVars.lean`; the same `j` on both sides of the
implications below is the "never renumbered" clause.  The invariants are proved for one β-step in
`LC/Proofs/FreeVars.lean` (free variables) and `LC/Proofs/UDParamInj.lean` (`UD`, read as a free variable that nobody
else uses; closed terms) and transported along `reduce_sound`.
-/
import LC.Proofs.ReduceLemmas
import LC.Proofs.UDParamInj
import LC.Props.C06
import LC.Props.C02

namespace LC
open Term Spec

/-- C08, `apply`: a free variable of the result is the same free variable of the abstraction or
of the argument -/
theorem C08_apply (j : Nat) (b a r : Term) (h : Term.apply (abs b) a = .ok r) (hf : FreeIn j r) :
    FreeIn j (abs b) ∨ FreeIn j a := by
  rw [C02_apply_abs] at h
  cases h
  exact freeIn_substTop hf

/-- C08, `apply`: UD occurs in the result only if it occurred in the body or the argument -/
theorem C08_apply_ud (b a r : Term) (h : Term.apply (abs b) a = .ok r) (hu : hasUD r = true) :
    hasUD b = true ∨ hasUD a = true := by
  rw [C02_apply_abs] at h
  cases h
  exact hasUD_substTop hu

-- (λ. 1 3 0).apply(2 0): the bound variable is replaced, outer 3 becomes 2 = the argument's 2, UD stays
example : Term.apply (abs (app (app (var 1) (var 3)) (var 0))) (app (var 2) (var 0))
    = .ok (app (app (app (var 2) (var 0)) (var 2)) (var 0)) := rfl
example : FreeIn 2 (app (app (app (var 2) (var 0)) (var 2)) (var 0)) ∧
    FreeIn 2 (abs (app (app (var 1) (var 3)) (var 0))) ∧ FreeIn 2 (app (var 2) (var 0)) ∧
    ¬ FreeIn 1 (app (app (app (var 2) (var 0)) (var 2)) (var 0)) := by
  simp [FreeIn, freeInAux]

/-- C08, UD is never SHIFTED: `update_free_variables` leaves index 0 alone at every depth, for every shift amount -/
theorem C08_ud_not_shifted (added own : Nat) : shiftFV added own (var 0) = var 0 := by
  simp [shiftFV]

/-- C08, UD is never SUBSTITUTED FOR and never renumbered: `_apply` (at every depth ≥ 1, the only depths at which it
runs on a body) leaves index 0 alone -/
theorem C08_ud_not_substituted (rhs : Term) (depth : Nat) (hd : 1 ≤ depth) : applyAux rhs depth (var 0) = var 0 := by
  have h1 : ¬ (0 = depth) := by omega
  have h2 : ¬ (0 > depth) := by omega
  simp [applyAux, h1, h2]

/-- C08, positional form: every occurrence of UD in the body of an abstraction is an occurrence of UD at the SAME position
of the result of `apply`, under the same number of binders (so it is not captured either), whatever the argument is -/
theorem C08_ud_occurrences_kept (b a : Term) (p : Pos) (k : Nat) (h : subAt b p = some (var 0, k)) :
    subAt (substTop b a) p = some (var 0, k) :=
  (C02_occurrencewise b a p 0 k h).1 (Nat.zero_le k)

/-- C08: one β-step creates no free variable and renumbers none -/
theorem C08_step (j : Nat) (t u : Term) (hb : Beta t u) (hf : FreeIn j u) : FreeIn j t :=
  freeIn_beta hb hf

/-- C08: one β-step creates no UD -/
theorem C08_step_ud (t u : Term) (hb : Beta t u) (hu : hasUD u = true) : hasUD t = true :=
  hasUD_beta hb hu

/-- C08, `reduce`: every free variable of the result is the same free variable of the input, and
UD occurs in the result only if it occurred in the input -/
theorem C08_reduce (o : Order) (L fuel : Nat) (t t' : Term) (c : Nat)
    (h : reduce o L fuel t = some (t', c)) :
    (∀ j, FreeIn j t' → FreeIn j t) ∧ (hasUD t' = true → hasUD t = true) :=
  ⟨fun _ hf => freeIn_star (RL.reduce_star h) hf, fun hu => hasUD_star (RL.reduce_star h) hu⟩

-- (λx. λy. x v₂) v₂ → λy. v₂ v₂ (v₂ = outer reference number 2; it is written `var 4` under two
-- binders, `var 3` under one, `var 2` under none): reference number 2 before and after, no other.
-- The set can shrink: (λx. v₄) v₂ → v₄ loses reference number 2 and keeps number 4.
example : reduce .NOR 0 10 (app (abs (abs (app (var 2) (var 4)))) (var 2))
    = some (abs (app (var 3) (var 3)), 1) := by decide
example : FreeIn 2 (abs (app (var 3) (var 3))) ∧ ¬ FreeIn 1 (abs (app (var 3) (var 3))) ∧
    FreeIn 2 (app (abs (abs (app (var 2) (var 4)))) (var 2)) := by
  simp [FreeIn, freeInAux]
example : reduce .NOR 0 10 (app (abs (var 5)) (var 2)) = some (var 4, 1) := by decide
example : FreeIn 2 (app (abs (var 5)) (var 2)) ∧ ¬ FreeIn 2 (var 4) ∧
    FreeIn 4 (app (abs (var 5)) (var 2)) ∧ FreeIn 4 (var 4) := by
  simp [FreeIn, freeInAux]

/-- C08: closed terms (no free variable, no UD — the crate's `has_free_variables` is false) stay closed -/
theorem C08_closed (o : Order) (L fuel : Nat) (t t' : Term) (c : Nat)
    (h : reduce o L fuel t = some (t', c)) (hc : hasFreeVariables t = false) :
    hasFreeVariables t' = false :=
  closed_star (RL.reduce_star h) hc

example : hasFreeVariables (app (abs (app (var 1) (var 1))) (abs (var 1))) = false ∧
    reduce .CBV 0 10 (app (abs (app (var 1) (var 1))) (abs (var 1))) = some (abs (var 1), 2) := by
  decide

/-- C08, `apply`: closed stays closed — an abstraction without free variables (and without UD) applied to such an
argument leaves such a term -/
theorem C08_apply_closed (b a r : Term) (h : Term.apply (abs b) a = .ok r)
    (hb : hasFreeVariables (abs b) = false) (ha : hasFreeVariables a = false) : hasFreeVariables r = false := by
  rw [C02_apply_abs] at h
  cases h
  have hc : hasFreeVariables (app (abs b) a) = false := by
    simp only [hasFreeVariables, hasFreeVariablesHelper, Bool.or_eq_false_iff] at hb ha ⊢
    exact ⟨hb, ha⟩
  exact closed_star (Star.head (Beta.red b a) (Star.refl _)) hc

/-- C08: the crate's `has_free_variables` is "some free variable or UD occurs" -/
theorem C08_hasFreeVariables_iff (t : Term) :
    hasFreeVariables t = true ↔ ((∃ j, FreeIn j t) ∨ hasUD t = true) :=
  hasFreeVariables_iff t

/-- C08, `beta`: the same for the free function -/
theorem C08_beta (o : Order) (L fuel : Nat) (t t' : Term) (h : beta t o L fuel = some t') :
    (∀ j, FreeIn j t' → FreeIn j t) ∧ (hasUD t' = true → hasUD t = true) ∧
    (hasFreeVariables t = false → hasFreeVariables t' = false) := by
  obtain ⟨c, hr⟩ := beta_eq_some.1 h
  exact ⟨(C08_reduce o L fuel t t' c hr).1, (C08_reduce o L fuel t t' c hr).2, C08_closed o L fuel t t' c hr⟩

/-- C08 for any history of reduce calls (arbitrary orders, limits) -/
theorem C08_history (h : List (Order × Nat × Nat)) (t th : Term) (r : runHistory h t = some th) :
    (∀ j, FreeIn j th → FreeIn j t) ∧ (hasUD th = true → hasUD t = true) ∧
    (hasFreeVariables t = false → hasFreeVariables th = false) := by
  have hs := runHistory_star h t th r
  exact ⟨fun _ hf => freeIn_star hs hf, fun hu => hasUD_star hs hu, fun hc => closed_star hs hc⟩

example : runHistory [(.CBN, 1, 10), (.APP, 0, 10)] (app (abs (abs (app (var 2) (var 0)))) (var 3))
    = some (abs (app (var 4) (var 0))) := by decide

end LC
