/-
C13 — Church arithmetic and comparisons compute the arithmetic of the naturals

"For all naturals m and n, applying each Church-numeral operation (succ, pred, add, sub, mul, pow,
fac, min, max, shl, shr, div, quot, rem with non-zero divisor, is_zero, is_even, is_odd, lt, leq,
eq, neq, geq, gt) to the encodings of its arguments normalises to the encoding of the
mathematically expected number, pair or boolean, with subtraction and predecessor truncated at
zero. This holds under NOR and HNO always, under HAP as well (the recursive operations delay their
branches for that purpose), and under APP for the operations defined without a fixed-point
combinator."

Three layers (DESIGN §7 C13; see Proofs/Layer2.lean).  `Computes t n` packages, for ALL arguments:
  conv   : t ↠ n                                   (layer 1: read off the HAP derivation of layer 3, `Ev.computes`)
  normal : n is a β-normal form
  nor/hno: reduce NOR / HNO with limit 0 return exactly n for some fuel, i.e. they TERMINATE (via C07)
  any    : whenever reduce under NOR, HNO, APP or HAP with limit 0 returns at all, it returns n
           (via C06 and uniqueness of normal forms) — so for the eager orders the RESULT is proved right for all arguments.
Layer 3: for ALL arguments, `reduce HAP 0` RETURNS the expected encoding for all 23
operations (`C13_<op>_hap`) and `reduce APP 0` does so for the 19 operations defined without a fixed-point
combinator (`C13_<op>_app`).  Proof: the big-step relation `Ev o` (`Ev .HAP`, `Ev .APP`) mirroring the eager traversals
(`Proofs/Eager/BigStep.lean`, adequate for the model reducer).  Under HAP one derivation per operation following the
eager evaluation order (closures in operator position, normalisation under binders), by induction on the numerals.
Under APP no derivation is built rule by rule: the application is typable with the intersection types of
`Proofs/Eager/Typed.lean`, APP terminates on every typable term, and its value is the normal form, which the HAP
derivation has found (`(…_hap).app_of_typed typing`).  The four Z-based operations are shown to DIVERGE under APP for
all arguments (`C13_z_based_diverge_under_app`), which is why the documentation excludes them.  A small grid decided by
the kernel cross-checks the statements (`C13_grid_*`).
The operations are the GENERATED constants `Gen.Church.*`, re-extracted from the Rust source on
every run, mentioned by name only.
-/
import LC.Proofs.Layer2
import LC.Proofs.GridEval
import LC.Proofs.Num.ChurchB
import LC.Proofs.Eager.ChurchHapA
import LC.Proofs.Eager.ChurchHapB
import LC.Proofs.Eager.ChurchAppA
import LC.Proofs.Eager.ChurchAppB

namespace LC
open Term Spec Enc ChurchB

theorem C13_succ (n : Nat) : Computes (app Gen.Church.succ (intoChurch n)) (intoChurch (n + 1)) :=
  (church_succ_hap n).computes

theorem C13_pred (n : Nat) : Computes (app Gen.Church.pred (intoChurch n)) (intoChurch (n - 1)) :=
  (church_pred_hap n).computes

theorem C13_is_zero (n : Nat) : Computes (app Gen.Church.is_zero (intoChurch n)) (fromBool (n == 0)) :=
  (church_is_zero_hap n).computes

theorem C13_is_even (n : Nat) : Computes (app Gen.Church.is_even (intoChurch n)) (fromBool (n % 2 == 0)) :=
  (church_is_even_hap n).computes

theorem C13_is_odd (n : Nat) : Computes (app Gen.Church.is_odd (intoChurch n)) (fromBool (n % 2 == 1)) :=
  (church_is_odd_hap n).computes

theorem C13_fac (n : Nat) : Computes (app Gen.Church.fac (intoChurch n)) (intoChurch (fact n)) :=
  (church_fac_hap n).computes

theorem C13_add (m n : Nat) :
    Computes (app2 Gen.Church.add (intoChurch m) (intoChurch n)) (intoChurch (m + n)) :=
  (church_add_hap m n).computes

theorem C13_sub (m n : Nat) :
    Computes (app2 Gen.Church.sub (intoChurch m) (intoChurch n)) (intoChurch (m - n)) :=
  (church_sub_hap m n).computes

theorem C13_mul (m n : Nat) :
    Computes (app2 Gen.Church.mul (intoChurch m) (intoChurch n)) (intoChurch (m * n)) :=
  (church_mul_hap m n).computes

theorem C13_pow (m n : Nat) :
    Computes (app2 Gen.Church.pow (intoChurch m) (intoChurch n)) (intoChurch (m ^ n)) :=
  (church_pow_hap m n).computes

theorem C13_min (m n : Nat) :
    Computes (app2 Gen.Church.min (intoChurch m) (intoChurch n)) (intoChurch (min m n)) :=
  (church_min_hap m n).computes

theorem C13_max (m n : Nat) :
    Computes (app2 Gen.Church.max (intoChurch m) (intoChurch n)) (intoChurch (max m n)) :=
  (church_max_hap m n).computes

theorem C13_lt (m n : Nat) :
    Computes (app2 Gen.Church.lt (intoChurch m) (intoChurch n)) (fromBool (decide (m < n))) :=
  (church_lt_hap m n).computes

theorem C13_leq (m n : Nat) :
    Computes (app2 Gen.Church.leq (intoChurch m) (intoChurch n)) (fromBool (decide (m ≤ n))) :=
  (church_leq_hap m n).computes

theorem C13_eq (m n : Nat) :
    Computes (app2 Gen.Church.eq (intoChurch m) (intoChurch n)) (fromBool (decide (m = n))) :=
  (church_eq_hap m n).computes

theorem C13_neq (m n : Nat) :
    Computes (app2 Gen.Church.neq (intoChurch m) (intoChurch n)) (fromBool (decide (m ≠ n))) :=
  (church_neq_hap m n).computes

theorem C13_geq (m n : Nat) :
    Computes (app2 Gen.Church.geq (intoChurch m) (intoChurch n)) (fromBool (decide (m ≥ n))) :=
  (church_geq_hap m n).computes

theorem C13_gt (m n : Nat) :
    Computes (app2 Gen.Church.gt (intoChurch m) (intoChurch n)) (fromBool (decide (m > n))) :=
  (church_gt_hap m n).computes

theorem C13_shl (m n : Nat) :
    Computes (app2 Gen.Church.shl (intoChurch m) (intoChurch n)) (intoChurch (m * 2 ^ n)) :=
  (church_shl_hap m n).computes

theorem C13_shr (m n : Nat) :
    Computes (app2 Gen.Church.shr (intoChurch m) (intoChurch n)) (intoChurch (m / 2 ^ n)) :=
  (church_shr_hap m n).computes

theorem C13_quot (m n : Nat) (hn : n ≠ 0) :
    Computes (app2 Gen.Church.quot (intoChurch m) (intoChurch n)) (intoChurch (m / n)) := by
  obtain ⟨k, rfl⟩ : ∃ k, n = k + 1 := ⟨n - 1, by omega⟩
  exact (church_quot_hap m k).computes

theorem C13_rem (m n : Nat) (hn : n ≠ 0) :
    Computes (app2 Gen.Church.rem (intoChurch m) (intoChurch n)) (intoChurch (m % n)) := by
  obtain ⟨k, rfl⟩ : ∃ k, n = k + 1 := ⟨n - 1, by omega⟩
  exact (church_rem_hap m k).computes

theorem C13_div (m n : Nat) (hn : n ≠ 0) :
    Computes (app2 Gen.Church.div (intoChurch m) (intoChurch n)) (tuple2 (intoChurch (m / n)) (intoChurch (m % n))) := by
  obtain ⟨k, rfl⟩ : ∃ k, n = k + 1 := ⟨n - 1, by omega⟩
  exact (church_div_hap m k).computes

example : ∃ fuel c, reduce .NOR 0 fuel (app2 Gen.Church.div (intoChurch 7) (intoChurch 2))
    = some (tuple2 (intoChurch 3) (intoChurch 1), c) := (C13_div 7 2 (by decide)).nor


theorem C13_succ_hap (n : Nat) :
    ∃ fuel c, reduce .HAP 0 fuel (app Gen.Church.succ (intoChurch n)) = some (intoChurch (n + 1), c) :=
  (church_succ_hap n).reduce

theorem C13_succ_app (n : Nat) :
    ∃ fuel c, reduce .APP 0 fuel (app Gen.Church.succ (intoChurch n)) = some (intoChurch (n + 1), c) :=
  (church_succ_app n).reduce

theorem C13_pred_hap (n : Nat) :
    ∃ fuel c, reduce .HAP 0 fuel (app Gen.Church.pred (intoChurch n)) = some (intoChurch (n - 1), c) :=
  (church_pred_hap n).reduce

theorem C13_pred_app (n : Nat) :
    ∃ fuel c, reduce .APP 0 fuel (app Gen.Church.pred (intoChurch n)) = some (intoChurch (n - 1), c) :=
  (church_pred_app n).reduce

theorem C13_is_zero_hap (n : Nat) :
    ∃ fuel c, reduce .HAP 0 fuel (app Gen.Church.is_zero (intoChurch n)) = some (fromBool (n == 0), c) :=
  (church_is_zero_hap n).reduce

theorem C13_is_zero_app (n : Nat) :
    ∃ fuel c, reduce .APP 0 fuel (app Gen.Church.is_zero (intoChurch n)) = some (fromBool (n == 0), c) :=
  (church_is_zero_app n).reduce

theorem C13_is_even_hap (n : Nat) :
    ∃ fuel c, reduce .HAP 0 fuel (app Gen.Church.is_even (intoChurch n)) = some (fromBool (n % 2 == 0), c) :=
  (church_is_even_hap n).reduce

theorem C13_is_even_app (n : Nat) :
    ∃ fuel c, reduce .APP 0 fuel (app Gen.Church.is_even (intoChurch n)) = some (fromBool (n % 2 == 0), c) :=
  (church_is_even_app n).reduce

theorem C13_is_odd_hap (n : Nat) :
    ∃ fuel c, reduce .HAP 0 fuel (app Gen.Church.is_odd (intoChurch n)) = some (fromBool (n % 2 == 1), c) :=
  (church_is_odd_hap n).reduce

theorem C13_is_odd_app (n : Nat) :
    ∃ fuel c, reduce .APP 0 fuel (app Gen.Church.is_odd (intoChurch n)) = some (fromBool (n % 2 == 1), c) :=
  (church_is_odd_app n).reduce

theorem C13_fac_hap (n : Nat) :
    ∃ fuel c, reduce .HAP 0 fuel (app Gen.Church.fac (intoChurch n)) = some (intoChurch (fact n), c) :=
  (church_fac_hap n).reduce

theorem C13_fac_app (n : Nat) :
    ∃ fuel c, reduce .APP 0 fuel (app Gen.Church.fac (intoChurch n)) = some (intoChurch (fact n), c) :=
  (church_fac_app n).reduce

theorem C13_add_hap (m n : Nat) :
    ∃ fuel c, reduce .HAP 0 fuel (app2 Gen.Church.add (intoChurch m) (intoChurch n)) = some (intoChurch (m + n), c) :=
  (church_add_hap m n).reduce

theorem C13_add_app (m n : Nat) :
    ∃ fuel c, reduce .APP 0 fuel (app2 Gen.Church.add (intoChurch m) (intoChurch n)) = some (intoChurch (m + n), c) :=
  (church_add_app m n).reduce

theorem C13_sub_hap (m n : Nat) :
    ∃ fuel c, reduce .HAP 0 fuel (app2 Gen.Church.sub (intoChurch m) (intoChurch n)) = some (intoChurch (m - n), c) :=
  (church_sub_hap m n).reduce

theorem C13_sub_app (m n : Nat) :
    ∃ fuel c, reduce .APP 0 fuel (app2 Gen.Church.sub (intoChurch m) (intoChurch n)) = some (intoChurch (m - n), c) :=
  (church_sub_app m n).reduce

theorem C13_mul_hap (m n : Nat) :
    ∃ fuel c, reduce .HAP 0 fuel (app2 Gen.Church.mul (intoChurch m) (intoChurch n)) = some (intoChurch (m * n), c) :=
  (church_mul_hap m n).reduce

theorem C13_mul_app (m n : Nat) :
    ∃ fuel c, reduce .APP 0 fuel (app2 Gen.Church.mul (intoChurch m) (intoChurch n)) = some (intoChurch (m * n), c) :=
  (church_mul_app m n).reduce

theorem C13_pow_hap (m n : Nat) :
    ∃ fuel c, reduce .HAP 0 fuel (app2 Gen.Church.pow (intoChurch m) (intoChurch n)) = some (intoChurch (m ^ n), c) :=
  (church_pow_hap m n).reduce

theorem C13_pow_app (m n : Nat) :
    ∃ fuel c, reduce .APP 0 fuel (app2 Gen.Church.pow (intoChurch m) (intoChurch n)) = some (intoChurch (m ^ n), c) :=
  (church_pow_app m n).reduce

theorem C13_min_hap (m n : Nat) :
    ∃ fuel c, reduce .HAP 0 fuel (app2 Gen.Church.min (intoChurch m) (intoChurch n)) = some (intoChurch (min m n), c) :=
  (church_min_hap m n).reduce

theorem C13_min_app (m n : Nat) :
    ∃ fuel c, reduce .APP 0 fuel (app2 Gen.Church.min (intoChurch m) (intoChurch n)) = some (intoChurch (min m n), c) :=
  (church_min_app m n).reduce

theorem C13_max_hap (m n : Nat) :
    ∃ fuel c, reduce .HAP 0 fuel (app2 Gen.Church.max (intoChurch m) (intoChurch n)) = some (intoChurch (max m n), c) :=
  (church_max_hap m n).reduce

theorem C13_max_app (m n : Nat) :
    ∃ fuel c, reduce .APP 0 fuel (app2 Gen.Church.max (intoChurch m) (intoChurch n)) = some (intoChurch (max m n), c) :=
  (church_max_app m n).reduce

theorem C13_lt_hap (m n : Nat) :
    ∃ fuel c, reduce .HAP 0 fuel (app2 Gen.Church.lt (intoChurch m) (intoChurch n)) = some (fromBool (decide (m < n)), c) :=
  (church_lt_hap m n).reduce

theorem C13_lt_app (m n : Nat) :
    ∃ fuel c, reduce .APP 0 fuel (app2 Gen.Church.lt (intoChurch m) (intoChurch n)) = some (fromBool (decide (m < n)), c) :=
  (church_lt_app m n).reduce

theorem C13_leq_hap (m n : Nat) :
    ∃ fuel c, reduce .HAP 0 fuel (app2 Gen.Church.leq (intoChurch m) (intoChurch n)) = some (fromBool (decide (m ≤ n)), c) :=
  (church_leq_hap m n).reduce

theorem C13_leq_app (m n : Nat) :
    ∃ fuel c, reduce .APP 0 fuel (app2 Gen.Church.leq (intoChurch m) (intoChurch n)) = some (fromBool (decide (m ≤ n)), c) :=
  (church_leq_app m n).reduce

theorem C13_eq_hap (m n : Nat) :
    ∃ fuel c, reduce .HAP 0 fuel (app2 Gen.Church.eq (intoChurch m) (intoChurch n)) = some (fromBool (decide (m = n)), c) :=
  (church_eq_hap m n).reduce

theorem C13_eq_app (m n : Nat) :
    ∃ fuel c, reduce .APP 0 fuel (app2 Gen.Church.eq (intoChurch m) (intoChurch n)) = some (fromBool (decide (m = n)), c) :=
  (church_eq_app m n).reduce

theorem C13_neq_hap (m n : Nat) :
    ∃ fuel c, reduce .HAP 0 fuel (app2 Gen.Church.neq (intoChurch m) (intoChurch n)) = some (fromBool (decide (m ≠ n)), c) :=
  (church_neq_hap m n).reduce

theorem C13_neq_app (m n : Nat) :
    ∃ fuel c, reduce .APP 0 fuel (app2 Gen.Church.neq (intoChurch m) (intoChurch n)) = some (fromBool (decide (m ≠ n)), c) :=
  (church_neq_app m n).reduce

theorem C13_geq_hap (m n : Nat) :
    ∃ fuel c, reduce .HAP 0 fuel (app2 Gen.Church.geq (intoChurch m) (intoChurch n)) = some (fromBool (decide (m ≥ n)), c) :=
  (church_geq_hap m n).reduce

theorem C13_geq_app (m n : Nat) :
    ∃ fuel c, reduce .APP 0 fuel (app2 Gen.Church.geq (intoChurch m) (intoChurch n)) = some (fromBool (decide (m ≥ n)), c) :=
  (church_geq_app m n).reduce

theorem C13_gt_hap (m n : Nat) :
    ∃ fuel c, reduce .HAP 0 fuel (app2 Gen.Church.gt (intoChurch m) (intoChurch n)) = some (fromBool (decide (m > n)), c) :=
  (church_gt_hap m n).reduce

theorem C13_gt_app (m n : Nat) :
    ∃ fuel c, reduce .APP 0 fuel (app2 Gen.Church.gt (intoChurch m) (intoChurch n)) = some (fromBool (decide (m > n)), c) :=
  (church_gt_app m n).reduce

theorem C13_shl_hap (m n : Nat) :
    ∃ fuel c, reduce .HAP 0 fuel (app2 Gen.Church.shl (intoChurch m) (intoChurch n)) = some (intoChurch (m * 2 ^ n), c) :=
  (church_shl_hap m n).reduce

theorem C13_shl_app (m n : Nat) :
    ∃ fuel c, reduce .APP 0 fuel (app2 Gen.Church.shl (intoChurch m) (intoChurch n)) = some (intoChurch (m * 2 ^ n), c) :=
  (church_shl_app m n).reduce

theorem C13_shr_hap (m n : Nat) :
    ∃ fuel c, reduce .HAP 0 fuel (app2 Gen.Church.shr (intoChurch m) (intoChurch n)) = some (intoChurch (m / 2 ^ n), c) :=
  (church_shr_hap m n).reduce

theorem C13_quot_hap (m n : Nat) (hn : n ≠ 0) :
    ∃ fuel c, reduce .HAP 0 fuel (app2 Gen.Church.quot (intoChurch m) (intoChurch n)) = some (intoChurch (m / n), c) := by
  obtain ⟨k, rfl⟩ : ∃ k, n = k + 1 := ⟨n - 1, by omega⟩
  exact (church_quot_hap m k).reduce

theorem C13_rem_hap (m n : Nat) (hn : n ≠ 0) :
    ∃ fuel c, reduce .HAP 0 fuel (app2 Gen.Church.rem (intoChurch m) (intoChurch n)) = some (intoChurch (m % n), c) := by
  obtain ⟨k, rfl⟩ : ∃ k, n = k + 1 := ⟨n - 1, by omega⟩
  exact (church_rem_hap m k).reduce

theorem C13_div_hap (m n : Nat) (hn : n ≠ 0) :
    ∃ fuel c, reduce .HAP 0 fuel (app2 Gen.Church.div (intoChurch m) (intoChurch n)) = some (tuple2 (intoChurch (m / n)) (intoChurch (m % n)), c) := by
  obtain ⟨k, rfl⟩ : ∃ k, n = k + 1 := ⟨n - 1, by omega⟩
  exact (church_div_hap m k).reduce

/-- the four Z-based operations do not terminate under APP, for ANY argument terms and any fuel: the operator
`Z F` is normalised under its binders and unfolds forever (which is why the property and the documentation
exclude them under APP) -/
theorem C13_z_based_diverge_under_app (a b : Term) (fuel : Nat) :
    reduce .APP 0 fuel (app2 Gen.Church.quot a b) = none ∧ reduce .APP 0 fuel (app2 Gen.Church.rem a b) = none ∧
    reduce .APP 0 fuel (app2 Gen.Church.div a b) = none ∧ reduce .APP 0 fuel (app2 Gen.Church.shr a b) = none :=
  ⟨church_quot_app_diverges_all a b fuel, church_rem_app_diverges_all a b fuel,
   church_div_app_diverges_all a b fuel, church_shr_app_diverges_all a b fuel⟩

example : ∃ fuel c, reduce .HAP 0 fuel (app2 Gen.Church.div (intoChurch 7) (intoChurch 2))
    = some (tuple2 (intoChurch 3) (intoChurch 1), c) := C13_div_hap 7 2 (by decide)

/-! ### cross-check grid: statements about the model reducer on small arguments, decided by the kernel.
`Grid.runsTo o fuel t n = true` implies `∃ c, reduce o 0 fuel t = some (n, c)` (`Grid.runsTo_spec`).  In every proof
`rw [Grid.runsTo_eq_box]` puts `Grid.runsToB` (`Proofs/GridEval.lean`) in front of `Grid.runsTo`: the kernel runs the
evaluator on terms with boxes, which returns only what `reduce` returns, and `reduce` itself only where that evaluator
answers `false` (it declines an order that is not eager). -/

/-- the fuel of every grid statement: a round number far above what a grid point needs (more fuel does not change an
answer, `betaOrd_mono`); a fixed fuel makes each grid a closed statement about `reduce` -/
def FUEL : Nat := 100000
/-- the eager orders a grid runs: HAP, and APP unless the operation is defined with `Z` (it diverges under APP) -/
def eager (zBased : Bool) : List Order := if zBased then [.HAP] else [.HAP, .APP]

theorem C13_grid_succ : (List.range 4).all (fun n => (eager false).all (fun o =>
    Grid.runsTo o FUEL (app Gen.Church.succ (intoChurch n)) (intoChurch (n + 1)))) = true := by rw [Grid.runsTo_eq_box]; decide +kernel

theorem C13_grid_pred : (List.range 4).all (fun n => (eager false).all (fun o =>
    Grid.runsTo o FUEL (app Gen.Church.pred (intoChurch n)) (intoChurch (n - 1)))) = true := by rw [Grid.runsTo_eq_box]; decide +kernel

theorem C13_grid_is_zero : (List.range 4).all (fun n => (eager false).all (fun o =>
    Grid.runsTo o FUEL (app Gen.Church.is_zero (intoChurch n)) (fromBool (n == 0)))) = true := by rw [Grid.runsTo_eq_box]; decide +kernel

theorem C13_grid_is_even : (List.range 4).all (fun n => (eager false).all (fun o =>
    Grid.runsTo o FUEL (app Gen.Church.is_even (intoChurch n)) (fromBool (n % 2 == 0)))) = true := by rw [Grid.runsTo_eq_box]; decide +kernel

theorem C13_grid_is_odd : (List.range 4).all (fun n => (eager false).all (fun o =>
    Grid.runsTo o FUEL (app Gen.Church.is_odd (intoChurch n)) (fromBool (n % 2 == 1)))) = true := by rw [Grid.runsTo_eq_box]; decide +kernel

theorem C13_grid_fac : (List.range 4).all (fun n => (eager false).all (fun o =>
    Grid.runsTo o FUEL (app Gen.Church.fac (intoChurch n)) (intoChurch (fact n)))) = true := by rw [Grid.runsTo_eq_box]; decide +kernel

theorem C13_grid_add : (Grid.range2 2 2).all (fun (m, n) => (eager false).all (fun o =>
    Grid.runsTo o FUEL (app2 Gen.Church.add (intoChurch m) (intoChurch n)) (intoChurch (m + n)))) = true := by rw [Grid.runsTo_eq_box]; decide +kernel

theorem C13_grid_sub : (Grid.range2 2 2).all (fun (m, n) => (eager false).all (fun o =>
    Grid.runsTo o FUEL (app2 Gen.Church.sub (intoChurch m) (intoChurch n)) (intoChurch (m - n)))) = true := by rw [Grid.runsTo_eq_box]; decide +kernel

theorem C13_grid_mul : (Grid.range2 2 2).all (fun (m, n) => (eager false).all (fun o =>
    Grid.runsTo o FUEL (app2 Gen.Church.mul (intoChurch m) (intoChurch n)) (intoChurch (m * n)))) = true := by rw [Grid.runsTo_eq_box]; decide +kernel

theorem C13_grid_pow : (Grid.range2 2 2).all (fun (m, n) => (eager false).all (fun o =>
    Grid.runsTo o FUEL (app2 Gen.Church.pow (intoChurch m) (intoChurch n)) (intoChurch (m ^ n)))) = true := by rw [Grid.runsTo_eq_box]; decide +kernel

theorem C13_grid_min : (Grid.range2 2 2).all (fun (m, n) => (eager false).all (fun o =>
    Grid.runsTo o FUEL (app2 Gen.Church.min (intoChurch m) (intoChurch n)) (intoChurch (min m n)))) = true := by rw [Grid.runsTo_eq_box]; decide +kernel

theorem C13_grid_max : (Grid.range2 2 2).all (fun (m, n) => (eager false).all (fun o =>
    Grid.runsTo o FUEL (app2 Gen.Church.max (intoChurch m) (intoChurch n)) (intoChurch (max m n)))) = true := by rw [Grid.runsTo_eq_box]; decide +kernel

theorem C13_grid_lt : (Grid.range2 2 2).all (fun (m, n) => (eager false).all (fun o =>
    Grid.runsTo o FUEL (app2 Gen.Church.lt (intoChurch m) (intoChurch n)) (fromBool (decide (m < n))))) = true := by rw [Grid.runsTo_eq_box]; decide +kernel

theorem C13_grid_leq : (Grid.range2 2 2).all (fun (m, n) => (eager false).all (fun o =>
    Grid.runsTo o FUEL (app2 Gen.Church.leq (intoChurch m) (intoChurch n)) (fromBool (decide (m ≤ n))))) = true := by rw [Grid.runsTo_eq_box]; decide +kernel

theorem C13_grid_eq : (Grid.range2 2 2).all (fun (m, n) => (eager false).all (fun o =>
    Grid.runsTo o FUEL (app2 Gen.Church.eq (intoChurch m) (intoChurch n)) (fromBool (decide (m = n))))) = true := by rw [Grid.runsTo_eq_box]; decide +kernel

theorem C13_grid_neq : (Grid.range2 2 2).all (fun (m, n) => (eager false).all (fun o =>
    Grid.runsTo o FUEL (app2 Gen.Church.neq (intoChurch m) (intoChurch n)) (fromBool (decide (m ≠ n))))) = true := by rw [Grid.runsTo_eq_box]; decide +kernel

theorem C13_grid_geq : (Grid.range2 2 2).all (fun (m, n) => (eager false).all (fun o =>
    Grid.runsTo o FUEL (app2 Gen.Church.geq (intoChurch m) (intoChurch n)) (fromBool (decide (m ≥ n))))) = true := by rw [Grid.runsTo_eq_box]; decide +kernel

theorem C13_grid_gt : (Grid.range2 2 2).all (fun (m, n) => (eager false).all (fun o =>
    Grid.runsTo o FUEL (app2 Gen.Church.gt (intoChurch m) (intoChurch n)) (fromBool (decide (m > n))))) = true := by rw [Grid.runsTo_eq_box]; decide +kernel

theorem C13_grid_shl : (Grid.range2 2 2).all (fun (m, n) => (eager false).all (fun o =>
    Grid.runsTo o FUEL (app2 Gen.Church.shl (intoChurch m) (intoChurch n)) (intoChurch (m * 2 ^ n)))) = true := by rw [Grid.runsTo_eq_box]; decide +kernel

theorem C13_grid_shr : (Grid.range2 2 2).all (fun (m, n) => (eager true).all (fun o =>
    Grid.runsTo o FUEL (app2 Gen.Church.shr (intoChurch m) (intoChurch n)) (intoChurch (m / 2 ^ n)))) = true := by rw [Grid.runsTo_eq_box]; decide +kernel

theorem C13_grid_quot : (Grid.range2 2 2).all (fun (m, n) => n == 0 || (eager true).all (fun o =>
    Grid.runsTo o FUEL (app2 Gen.Church.quot (intoChurch m) (intoChurch n)) (intoChurch (m / n)))) = true := by rw [Grid.runsTo_eq_box]; decide +kernel

theorem C13_grid_rem : (Grid.range2 2 2).all (fun (m, n) => n == 0 || (eager true).all (fun o =>
    Grid.runsTo o FUEL (app2 Gen.Church.rem (intoChurch m) (intoChurch n)) (intoChurch (m % n)))) = true := by rw [Grid.runsTo_eq_box]; decide +kernel

theorem C13_grid_div : (Grid.range2 2 2).all (fun (m, n) => n == 0 || (eager true).all (fun o =>
    Grid.runsTo o FUEL (app2 Gen.Church.div (intoChurch m) (intoChurch n)) (tuple2 (intoChurch (m / n)) (intoChurch (m % n))))) = true := by rw [Grid.runsTo_eq_box]; decide +kernel

end LC
