/-
C05 — NOR, CBN, APP and CBV contract the redex their documentation names

"Every single step of NOR contracts the leftmost-outermost redex; CBN contracts that same redex
only while it is in head position outside any abstraction; APP contracts the leftmost of the
innermost redexes; CBV contracts the leftmost innermost redex among those not inside an
abstraction. HSP only ever contracts redexes on the head spine (never inside an argument)."

`Spec/Selection.lean` defines the selections purely positionally (quantifying over positions:
`isLMO`, `isLMI`, `isLMIW`, `spineL`, `noArg`), `contractAt` contracts with the independent
textbook substitution `substTop`.  `Proofs/Positions*.lean` show the strategy functions select
exactly those positions; `C04_single_step` (from the refinement theorem) says `reduce o 1`
performs exactly one strategy step (or none).  Together: what the *code* does in one step
(`reduce_one_Sel`, for `Sel o`, the selection of order `o`, and `sel o`, its executable form, both of
`Proofs/PositionsMore.lean`).
Every further step of a longer run is again such a step (`C04_is_iter`).
-/
import LC.Props.C04
import LC.Proofs.PositionsHap

namespace LC
open Term Spec

/-- every order: `reduce o 1` contracts the redex that the positional definition `Sel o` of the order selects, or does
nothing, and then the executable selector finds nothing.  The statements below spell this out order by order. -/
theorem reduce_one_Sel (o : Order) (fuel : Nat) (t t' : Term) (c : Nat) (h : reduce o 1 fuel t = some (t', c)) :
    (c = 1 ∧ ∃ p, Sel o t p ∧ t' = contractAt t p) ∨ (c = 0 ∧ t' = t ∧ sel o t = none) := by
  rcases C04_single_step o fuel t t' c h with ⟨hs, hc⟩ | ⟨hs, ht, hc⟩
  · obtain ⟨p, hp, e⟩ := (stepOrd_some_iff o t t').1 hs
    exact Or.inl ⟨hc, p, sel_sound o t p hp, e⟩
  · exact Or.inr ⟨hc, ht, (stepOrd_none_iff_sel o t).1 hs⟩

/-- NOR: one step contracts the leftmost-outermost redex; no step iff there is no redex -/
theorem C05_nor (fuel : Nat) (t t' : Term) (c : Nat) (h : reduce .NOR 1 fuel t = some (t', c)) :
    (c = 1 ∧ ∃ p, isLMO t p ∧ t' = contractAt t p) ∨ (c = 0 ∧ t' = t ∧ ∀ p, ¬ redexAt t p) :=
  (reduce_one_Sel .NOR fuel t t' c h).imp id (fun ⟨hc, ht, hn⟩ => ⟨hc, ht, (selNor_sound t).2 hn⟩)

/-- CBN: one step contracts the leftmost-outermost redex provided it lies on the operator spine
outside any abstraction; otherwise nothing is contracted -/
theorem C05_cbn (fuel : Nat) (t t' : Term) (c : Nat) (h : reduce .CBN 1 fuel t = some (t', c)) :
    (c = 1 ∧ ∃ p, isLMO t p ∧ spineL p ∧ t' = contractAt t p) ∨
    (c = 0 ∧ t' = t ∧ ∀ p, isLMO t p → ¬ spineL p) :=
  (reduce_one_Sel .CBN fuel t t' c h).imp (fun ⟨hc, p, hp, e⟩ => ⟨hc, p, hp.1, hp.2, e⟩)
    (fun ⟨hc, ht, hn⟩ => ⟨hc, ht, (selCbn_sound t).2 hn⟩)

/-- APP: one step contracts the leftmost of the innermost redexes -/
theorem C05_app (fuel : Nat) (t t' : Term) (c : Nat) (h : reduce .APP 1 fuel t = some (t', c)) :
    (c = 1 ∧ ∃ p, isLMI t p ∧ t' = contractAt t p) ∨ (c = 0 ∧ t' = t ∧ ∀ p, ¬ redexAt t p) :=
  (reduce_one_Sel .APP fuel t t' c h).imp id (fun ⟨hc, ht, hn⟩ => ⟨hc, ht, (selApp_sound t).2 hn⟩)

/-- CBV: one step contracts the leftmost innermost redex among those not inside an abstraction -/
theorem C05_cbv (fuel : Nat) (t t' : Term) (c : Nat) (h : reduce .CBV 1 fuel t = some (t', c)) :
    (c = 1 ∧ ∃ p, isLMIW t p ∧ t' = contractAt t p) ∨
    (c = 0 ∧ t' = t ∧ ∀ p, redexAt t p → ¬ weak p) :=
  (reduce_one_Sel .CBV fuel t t' c h).imp id (fun ⟨hc, ht, hn⟩ => ⟨hc, ht, (selCbv_sound t).2 hn⟩)

/-- HSP: whatever is contracted lies on the head spine (the position never enters an argument);
`C05_hsp_exact` (`C05More.lean`) says which redex of the head spine -/
theorem C05_hsp (fuel : Nat) (t t' : Term) (c : Nat) (h : reduce .HSP 1 fuel t = some (t', c)) :
    (c = 1 ∧ ∃ p, redexAt t p ∧ noArg p ∧ t' = contractAt t p) ∨ (c = 0 ∧ t' = t) :=
  (reduce_one_Sel .HSP fuel t t' c h).imp (fun ⟨hc, p, hp, e⟩ => ⟨hc, p, hp.2.1, hp.1, e⟩)
    (fun ⟨hc, ht, _⟩ => ⟨hc, ht⟩)

/-- the selected redex is unique, so "the" leftmost-outermost / leftmost-innermost redex is
well defined -/
theorem C05_selection_unique (t : Term) (p q : Pos) :
    (isLMO t p → isLMO t q → p = q) ∧ (isLMI t p → isLMI t q → p = q) ∧
    (isLMIW t p → isLMIW t q → p = q) :=
  ⟨isLMO_unique, isLMI_unique, isLMIW_unique⟩

/-- every step of a longer run is again such a step: the run is an iteration of the strategy -/
theorem C05_every_step (o : Order) (L fuel : Nat) (t t' : Term) (c : Nat)
    (h : reduce o L fuel t = some (t', c)) : Iter (stepOrd o) c t t' := C04_is_iter o L fuel t t' c h

/-! non-vacuity: NOR contracts the outer redex, on `(λ.1) ((λ.1) 7)` and on `(λ.2) ((λ.1) 7)`, APP the inner one -/
example : reduce .NOR 1 5 (app (abs (var 1)) (app (abs (var 1)) (var 7)))
    = some (app (abs (var 1)) (var 7), 1) := by decide
example : reduce .APP 1 5 (app (abs (var 2)) (app (abs (var 1)) (var 7)))
    = some (app (abs (var 2)) (var 7), 1) := by decide
example : reduce .NOR 1 5 (app (abs (var 2)) (app (abs (var 1)) (var 7))) = some (var 1, 1) := by decide

end LC
