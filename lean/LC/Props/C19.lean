/-
C19 — accessors and the `app!`/`abs!` macros

"For every term, the consuming, borrowing and mutable accessors (unvar, unabs, unapp, lhs, rhs and
their _ref/_mut forms) return exactly the index, body or operator/operand the term was constructed
from - left and right never exchanged - when the variant matches, and the matching TermError
(NotVar, NotAbs, NotApp) otherwise, without altering the term; writes through the _mut forms change
only the addressed component. The app! and abs! macros equal left-nested app and n-fold abs."

In the model the consuming/borrowing accessors are pure functions of the term (so "without altering
the term" is built in); a mutable reference is the pair (`xMutGet`, `xMutPut`) of a read and a
write-back, and "change only the addressed component" is the explicit result of `xMutPut` on the
matching constructor together with the lens laws.

Also here: the messages of `impl Display for TermError` (the same `TermError` values) and the names of
`impl Display for Order` (`LC/Model/Display.lean`) are pairwise different.
-/
import LC.Model.Term
import LC.Model.Display

namespace LC
open Term

/-- C19: on the matching variant the accessors return exactly the constructor arguments
(left stays left, right stays right) -/
theorem C19_get (n : Nat) (b l r : Term) :
    unvar (var n) = .ok n ∧ unabs (abs b) = .ok b ∧ unapp (app l r) = .ok (l, r) ∧
    lhs (app l r) = .ok l ∧ rhs (app l r) = .ok r :=
  ⟨rfl, rfl, rfl, rfl, rfl⟩

/-- C19: on every other variant the accessors return the matching `TermError` -/
theorem C19_err (n : Nat) (b l r : Term) :
    unvar (abs b) = .error .NotVar ∧ unvar (app l r) = .error .NotVar ∧
    unabs (var n) = .error .NotAbs ∧ unabs (app l r) = .error .NotAbs ∧
    unapp (var n) = .error .NotApp ∧ unapp (abs b) = .error .NotApp ∧
    lhs (var n) = .error .NotApp ∧ lhs (abs b) = .error .NotApp ∧
    rhs (var n) = .error .NotApp ∧ rhs (abs b) = .error .NotApp :=
  ⟨rfl, rfl, rfl, rfl, rfl, rfl, rfl, rfl, rfl, rfl⟩

/-- C19: the borrowing (`_ref`) accessors and reads through the `_mut` accessors see the same
components as the consuming ones -/
theorem C19_ref_mut_read :
    unvarRef = unvar ∧ unabsRef = unabs ∧ unappRef = unapp ∧ lhsRef = lhs ∧ rhsRef = rhs ∧
    unvarMutGet = unvar ∧ unabsMutGet = unabs ∧ unappMutGet = unapp ∧ lhsMutGet = lhs ∧
    rhsMutGet = rhs :=
  ⟨rfl, rfl, rfl, rfl, rfl, rfl, rfl, rfl, rfl, rfl⟩

/-- C19, writes on the matching variant: only the addressed component changes -/
theorem C19_put_ok (n v : Nat) (b l r w w₁ w₂ : Term) :
    unvarMutPut (var n) v = .ok (var v) ∧
    unabsMutPut (abs b) w = .ok (abs w) ∧
    unappMutPut (app l r) (w₁, w₂) = .ok (app w₁ w₂) ∧
    lhsMutPut (app l r) w = .ok (app w r) ∧
    rhsMutPut (app l r) w = .ok (app l w) :=
  ⟨rfl, rfl, rfl, rfl, rfl⟩

/-- C19, writes on a wrong variant: the matching error (and no term is produced) -/
theorem C19_put_err (n v : Nat) (b l r w : Term) (ww : Term × Term) :
    unvarMutPut (abs b) v = .error .NotVar ∧ unvarMutPut (app l r) v = .error .NotVar ∧
    unabsMutPut (var n) w = .error .NotAbs ∧ unabsMutPut (app l r) w = .error .NotAbs ∧
    unappMutPut (var n) ww = .error .NotApp ∧ unappMutPut (abs b) ww = .error .NotApp ∧
    lhsMutPut (var n) w = .error .NotApp ∧ lhsMutPut (abs b) w = .error .NotApp ∧
    rhsMutPut (var n) w = .error .NotApp ∧ rhsMutPut (abs b) w = .error .NotApp :=
  ⟨rfl, rfl, rfl, rfl, rfl, rfl, rfl, rfl, rfl, rfl⟩

/-- for `lhs_mut` and `rhs_mut`: a write succeeds exactly when the read does (same variant test) -/
theorem C19_put_ok_iff (t w : Term) :
    ((∃ t', lhsMutPut t w = .ok t') ↔ ∃ x, lhs t = .ok x) ∧
    ((∃ t', rhsMutPut t w = .ok t') ↔ ∃ x, rhs t = .ok x) := by
  cases t <;> simp [lhsMutPut, rhsMutPut, lhs, rhs, unapp]

/-- C19, lens laws for `lhs_mut`: put-get, the other component is untouched, get-put, put-put -/
theorem C19_lhs_lens (t t' v : Term) (h : lhsMutPut t v = .ok t') :
    lhs t' = .ok v ∧ rhs t' = rhs t ∧
    (∀ x, lhs t = .ok x → lhsMutPut t x = .ok t) ∧
    (∀ w, lhsMutPut t' w = lhsMutPut t w) := by
  cases t with
  | var n => cases h
  | abs b => cases h
  | app l r =>
    cases h
    refine ⟨rfl, rfl, ?_, fun _ => rfl⟩
    intro x hx; cases hx; rfl

/-- C19, lens laws for `rhs_mut` -/
theorem C19_rhs_lens (t t' v : Term) (h : rhsMutPut t v = .ok t') :
    rhs t' = .ok v ∧ lhs t' = lhs t ∧
    (∀ x, rhs t = .ok x → rhsMutPut t x = .ok t) ∧
    (∀ w, rhsMutPut t' w = rhsMutPut t w) := by
  cases t with
  | var n => cases h
  | abs b => cases h
  | app l r =>
    cases h
    refine ⟨rfl, rfl, ?_, fun _ => rfl⟩
    intro x hx; cases hx; rfl

/-- C19, lens laws for `unvar_mut`, `unabs_mut`, `unapp_mut` (put-get and get-put) -/
theorem C19_un_lens (t t' : Term) :
    (∀ v, unvarMutPut t v = .ok t' → unvar t' = .ok v) ∧
    (∀ v, unabsMutPut t v = .ok t' → unabs t' = .ok v) ∧
    (∀ v, unappMutPut t v = .ok t' → unapp t' = .ok v) ∧
    (∀ x, unvar t = .ok x → unvarMutPut t x = .ok t) ∧
    (∀ x, unabs t = .ok x → unabsMutPut t x = .ok t) ∧
    (∀ x, unapp t = .ok x → unappMutPut t x = .ok t) := by
  refine ⟨?_, ?_, ?_, ?_, ?_, ?_⟩ <;> intro v h <;> cases t <;> cases h <;> rfl

/-- C19, all of the `_mut` write clauses together -/
theorem C19_put (n v : Nat) (b l r w w₁ w₂ : Term) (ww : Term × Term) :
    -- matching variant
    (unvarMutPut (var n) v = .ok (var v) ∧ unabsMutPut (abs b) w = .ok (abs w) ∧
      unappMutPut (app l r) (w₁, w₂) = .ok (app w₁ w₂) ∧
      lhsMutPut (app l r) w = .ok (app w r) ∧ rhsMutPut (app l r) w = .ok (app l w)) ∧
    -- wrong variant
    (unvarMutPut (abs b) v = .error .NotVar ∧ unvarMutPut (app l r) v = .error .NotVar ∧
      unabsMutPut (var n) w = .error .NotAbs ∧ unabsMutPut (app l r) w = .error .NotAbs ∧
      unappMutPut (var n) ww = .error .NotApp ∧ unappMutPut (abs b) ww = .error .NotApp ∧
      lhsMutPut (var n) w = .error .NotApp ∧ lhsMutPut (abs b) w = .error .NotApp ∧
      rhsMutPut (var n) w = .error .NotApp ∧ rhsMutPut (abs b) w = .error .NotApp) ∧
    -- lens laws for the two one-sided writes
    (∀ t t', lhsMutPut t w = .ok t' →
      lhs t' = .ok w ∧ rhs t' = rhs t ∧ (∀ x, lhs t = .ok x → lhsMutPut t x = .ok t) ∧
      (∀ w', lhsMutPut t' w' = lhsMutPut t w')) ∧
    (∀ t t', rhsMutPut t w = .ok t' →
      rhs t' = .ok w ∧ lhs t' = lhs t ∧ (∀ x, rhs t = .ok x → rhsMutPut t x = .ok t) ∧
      (∀ w', rhsMutPut t' w' = rhsMutPut t w')) :=
  ⟨C19_put_ok n v b l r w w₁ w₂, C19_put_err n v b l r w ww,
    fun t t' => C19_lhs_lens t t' w, fun t t' => C19_rhs_lens t t' w⟩

/-- C19, `app!(t, t1, …, tk)` is the left-nested application -/
theorem C19_appMany (t : Term) (ts : List Term) : appMany t ts = ts.foldl app t := rfl

/-- one more argument goes on the outside, to the right -/
theorem C19_appMany_snoc (t : Term) (ts : List Term) (u : Term) :
    appMany t (ts ++ [u]) = app (appMany t ts) u := by
  simp [appMany, List.foldl_append]

theorem C19_appMany_nil (t : Term) : appMany t [] = t := rfl

/-- `abs!` adds the abstractions on the outside (the loop of the macro wraps the term `n` times; the
model peels the counter from the inside, hence the small induction) -/
theorem C19_absN_succ (t : Term) : absN 0 t = t ∧ ∀ n, absN (n + 1) t = abs (absN n t) := by
  refine ⟨rfl, fun n => ?_⟩
  induction n generalizing t with
  | zero => rfl
  | succ n ih => exact ih (abs t)

/-- C19, `abs!(n, t)` is the n-fold abstraction
(`Nat.repeat f 0 a = a`, `Nat.repeat f (n+1) a = f (Nat.repeat f n a)`) -/
theorem C19_absN (n : Nat) (t : Term) : absN n t = Nat.repeat abs n t := by
  induction n with
  | zero => rfl
  | succ n ih => rw [(C19_absN_succ t).2 n, ih]; rfl

-- `app!(Var 4, app!(Var 1, Var 2, Var 3))`
example : appMany (var 4) [appMany (var 1) [var 2, var 3]] =
    app (var 4) (app (app (var 1) (var 2)) (var 3)) := rfl
-- `abs!(3, Var 1)`
example : absN 3 (var 1) = abs (abs (abs (var 1))) := rfl
example : absN 0 (var 1) = var 1 := rfl
-- left and right are not exchanged
example : lhs (app (var 1) (var 2)) = .ok (var 1) ∧ rhs (app (var 1) (var 2)) = .ok (var 2) :=
  ⟨rfl, rfl⟩
example : lhsMutPut (app (var 1) (var 2)) (var 7) = .ok (app (var 7) (var 2)) := rfl
example : rhsMutPut (app (var 1) (var 2)) (var 7) = .ok (app (var 1) (var 7)) := rfl
example : lhs (abs (var 1)) = .error .NotApp := rfl

/-! ### the error messages and the order names (string tables of `impl Display for TermError`, tied by the `errmsg` ops,
and of `impl Display for Order`) -/

/-- A string literal is `String.ofList` of its characters, for the unifier and for the kernel alike, so `rw` with this
lemma reads the code points off the literal (`simp` does not: its index does not look through a literal); evaluating
`String.toList` on a literal instead decodes its UTF-8 bytes, which is slow in the kernel. -/
theorem Display.str_ofList (cs : List Char) : Display.str (String.ofList cs) = cs.map Char.toNat := by
  rw [Display.str, String.toList_ofList]

/-- the three `TermError` messages are pairwise different, so the message identifies the error -/
theorem C19_error_messages_distinct :
    Display.termErrorMsg .NotVar ≠ Display.termErrorMsg .NotAbs ∧
    Display.termErrorMsg .NotVar ≠ Display.termErrorMsg .NotApp ∧
    Display.termErrorMsg .NotAbs ≠ Display.termErrorMsg .NotApp := by
  simp only [Display.termErrorMsg]
  rw [Display.str_ofList, Display.str_ofList, Display.str_ofList]
  decide +kernel

/-- `Display for Order` is injective: the seven order names are pairwise different -/
theorem C19_order_names_injective (o₁ o₂ : Order) (h : Display.orderName o₁ = Display.orderName o₂) : o₁ = o₂ := by
  -- the seven names are read off their literals, once each; then one evaluation by the kernel
  have all : ∀ o₁ ∈ [Order.NOR, .CBN, .HSP, .HNO, .APP, .CBV, .HAP], ∀ o₂ ∈ [Order.NOR, .CBN, .HSP, .HNO, .APP, .CBV, .HAP],
      Display.orderName o₁ = Display.orderName o₂ → o₁ = o₂ := by
    unfold Display.orderName
    rw [Display.str_ofList, Display.str_ofList, Display.str_ofList, Display.str_ofList, Display.str_ofList,
      Display.str_ofList, Display.str_ofList]
    decide +kernel
  exact all o₁ (by cases o₁ <;> simp) o₂ (by cases o₂ <;> simp) h

end LC
