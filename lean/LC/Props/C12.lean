/-
C12 — Every numeral constructor yields the canonical, decodable encoding of its number

"For every natural n, into_church, into_scott, into_parigot, into_stumpfu and into_binary return a
closed term in beta-normal form that has the documented shape of that encoding, decodes back to n
(so distinct numbers get distinct terms) and coincides with the module's zero()/one() constants for
0 and 1. The derived conversions - pairs, options, results, vectors of numbers, and into_signed for
each supported encoding - are the canonical containers of those numerals; a signed value is the
pair (n, zero) or (zero, n) built with the zero of the same encoding."

* The constructors are modelled in `LC/Model/Encode.lean` (`LC.Enc`), loop for loop.
* The decoders `Spec.Dec.decodeE` and the closed forms `Dec.iterApp`, `Dec.binBody` live in
  `LC/Spec/Decode.lean`; they are written from the module documentation and return `none` on every
  term that is not of the documented shape.  Besides `decodeE (intoE n) = some n` we prove the
  converse `decodeE t = some n → t = intoE n` (`C12_canonical_E`): the decoder accepts exactly ONE
  term per number, so "decodes back to `n`" pins the term down completely.
* "closed" is `Spec.closedAt 0` (`LC/Proofs/PSubst.lean`); `C12_no_free_variables` adds the strict
  reading of the crate's own `has_free_variables` (which also flags the placeholder index `0`).
* "β-normal" is `Spec.isNormal` (`LC/Spec/NormalForms.lean`).
* `zero()`/`one()`/`nil()`/`none()`/`tru()`/`fls()` are the GENERATED constants `LC.Gen.*`, referred to
  by name only.
* "documented shape" of a binary numeral: its digits are `bitsMSB n`, the model of `format!("{:b}", n)`;
  `C12_bits_value` and `C12_bits_head` say that these are the binary expansion of `n` without a leading zero.
* "canonical container": the conversion of terms is the documented term (`C12_pair`, `C12_option_some`, `C12_result`,
  `C12_lists_shape`), closed and normal when the payloads are, and the decoder of the container returns the payloads;
  for payloads that are numerals this is put together in `C12_containers_num` and `C12_vectors`.
* `into_signed`: the statement about "the zero of the same encoding" holds for the model of the
  repaired source (finding F3: the original code paired every encoding with `λλ1`, which is not
  the Scott zero `λλ2`; see the `example`s on signed numbers at the end of the file).  The crate refuses signed binary
  numbers; `C12_signed_refuses_exactly_binary` says that this is the only refusal.
* Helper lemmas are in namespace `C12`, each group in front of the property theorems that use it (the namespace is
  therefore opened several times).
-/
import LC.Spec.NormalForms
import LC.Spec.FreeVars
import LC.Spec.Decode
import LC.Proofs.Num.Toolkit

namespace LC
open Term Spec Enc

namespace C12

/-- the decoder's iteration is the toolkit's, with the arguments in the other order -/
theorem decIterApp_eq (f : Term) (n : Nat) (x : Term) : Dec.iterApp f n x = iterApp f x n := by
  induction n with
  | zero => rfl
  | succ n ih => simp [Dec.iterApp, iterApp, ih]

theorem churchCount_body (n : Nat) : Dec.churchCount (churchBody n) = some n := by
  induction n with
  | zero => rfl
  | succ n ih => simp [churchBody, Dec.churchCount, ih]

end C12

theorem C12_decode_church (n : Nat) : Dec.decodeChurch (intoChurch n) = some n := by
  simp [intoChurch, Dec.decodeChurch, C12.churchCount_body]

theorem C12_normal_scott (n : Nat) : isNormal (intoScott n) = true := by
  induction n with
  | zero => rfl
  | succ n ih => simp [intoScott, isNormal, isAbs, ih]

theorem C12_decode_scott (n : Nat) : Dec.decodeScott (intoScott n) = some n := by
  induction n with
  | zero => rfl
  | succ n ih => simp [intoScott, Dec.decodeScott, ih]

/-- every Parigot numeral starts with two abstractions, so the `unwrap` in `into_parigot`
(`unabs2` in the model) never takes its fall-through -/
theorem C12_parigot_unabs (n : Nat) : ∃ b, intoParigot n = abs (abs b) := ⟨_, intoParigot_eq n⟩

theorem C12_normal_parigot (n : Nat) : isNormal (intoParigot n) = true := by
  rw [intoParigot_eq]; exact isNormal_parigotBody n

theorem C12_decode_parigot (n : Nat) : Dec.decodeParigot (intoParigot n) = some n := by
  induction n with
  | zero => rfl
  | succ n ih =>
    have hs : intoParigot n = abs (abs (unabs2 (intoParigot n))) := by
      rw [unabs2_intoParigot]; exact intoParigot_eq n
    simp only [intoParigot, Dec.decodeParigot, ih]
    rw [if_pos hs]

theorem C12_normal_stumpfu (n : Nat) : isNormal (intoStumpFu n) = true := by
  induction n with
  | zero => rfl
  | succ n ih =>
    have hc := normal_intoChurch (n + 1)
    simp [intoStumpFu, isNormal, isAbs, ih, hc]

theorem C12_decode_stumpfu (n : Nat) : Dec.decodeStumpFu (intoStumpFu n) = some n := by
  induction n with
  | zero => rfl
  | succ n ih => simp [intoStumpFu, Dec.decodeStumpFu, ih, C12_decode_church]

namespace C12

theorem div2_induction {P : Nat → Prop} (zero : P 0) (half : ∀ n, n ≠ 0 → P (n / 2) → P n) (n : Nat) : P n := by
  induction n using Nat.strongRecOn with
  | _ n ih =>
    by_cases h : n = 0
    · exact h ▸ zero
    · exact half n h (ih (n / 2) (by omega))

theorem bitsMSB_zero : bitsMSB 0 = [] := by
  rw [bitsMSB]; simp

theorem bitsMSB_pos {n : Nat} (h : n ≠ 0) : bitsMSB n = bitsMSB (n / 2) ++ [n % 2 == 1] := by
  rw [bitsMSB]; simp [h]

theorem binBody_zero : Dec.binBody 0 = var 3 := by
  rw [Dec.binBody]; simp

theorem binBody_pos {n : Nat} (h : n ≠ 0) :
    Dec.binBody n = app (if n % 2 = 1 then var 1 else var 2) (Dec.binBody (n / 2)) := by
  rw [Dec.binBody]; simp [h]

/-- the loop over the MSB-first digit string builds the LSB-outermost documented body -/
theorem foldl_bits (n : Nat) :
    (bitsMSB n).foldl (fun ret bit => app (if bit then var 1 else var 2) ret) (var 3) = Dec.binBody n := by
  induction n using div2_induction with
  | zero => rw [bitsMSB_zero, binBody_zero]; rfl
  | half n h ih =>
    rw [bitsMSB_pos h, binBody_pos h, List.foldl_append, ih]
    by_cases hb : n % 2 = 1 <;> simp [hb]

theorem binBody_normal (n : Nat) : isNormal (Dec.binBody n) = true := by
  induction n using div2_induction with
  | zero => rw [binBody_zero]; rfl
  | half n h ih =>
    rw [binBody_pos h]
    by_cases hb : n % 2 = 1 <;> simp [isNormal, isAbs, hb, ih]

theorem binValue_body (n : Nat) : Dec.binValue (Dec.binBody n) = some n := by
  induction n using div2_induction with
  | zero => rw [binBody_zero]; rfl
  | half n h ih =>
    rw [binBody_pos h]
    by_cases hb : n % 2 = 1
    · simp only [hb, if_true, Dec.binValue, ih]
      congr 1; omega
    · obtain ⟨v, hv⟩ : ∃ v, n / 2 = v + 1 := ⟨n / 2 - 1, by omega⟩
      have this : Dec.binValue (Dec.binBody (n / 2)) = some (v + 1) := by
        rw [ih, hv]
      simp only [hb, if_false, Dec.binValue, this]
      congr 1; omega

end C12

/-- documented shape: `λ λ λ b₀ (b₁ (… 3))`, least significant bit outermost -/
theorem C12_shape_binary (n : Nat) : intoBinary n = abs (abs (abs (Dec.binBody n))) := by
  rw [intoBinary, C12.foldl_bits]

/-- `bitsMSB n` (the model of `format!("{:b}", n)`) is the binary expansion of `n` -/
theorem C12_bits_value (n : Nat) :
    (bitsMSB n).foldl (fun acc b => 2 * acc + (if b then 1 else 0)) 0 = n := by
  induction n using C12.div2_induction with
  | zero => rw [C12.bitsMSB_zero]; rfl
  | half n h ih =>
    rw [C12.bitsMSB_pos h, List.foldl_append, ih]
    by_cases hb : n % 2 = 1 <;> simp [hb] <;> omega

/-- … and has no leading zero -/
theorem C12_bits_head (n : Nat) (h : n ≠ 0) : (bitsMSB n).head? = some true := by
  induction n using Nat.strongRecOn with
  | _ n ih =>
    rw [C12.bitsMSB_pos h]
    by_cases h2 : n / 2 = 0
    · have h1 : n % 2 = 1 := by omega
      rw [h2, C12.bitsMSB_zero]; simp [h1]
    · have := ih (n / 2) (by omega) h2
      rw [List.head?_append, this]; rfl

namespace C12

/-! ### the decoders accept only the canonical terms -/

theorem churchCount_inv (b : Term) (n : Nat) (h : Dec.churchCount b = some n) : b = churchBody n := by
  fun_induction Dec.churchCount b generalizing n <;> simp_all
  all_goals (subst h; rfl)

theorem decodeChurch_inv (t : Term) (n : Nat) (h : Dec.decodeChurch t = some n) : t = intoChurch n := by
  unfold Dec.decodeChurch at h
  split at h
  · rw [churchCount_inv _ _ h]; rfl
  · cases h

theorem decodeScott_inv (t : Term) (n : Nat) (h : Dec.decodeScott t = some n) : t = intoScott n := by
  fun_induction Dec.decodeScott t generalizing n <;> simp_all
  all_goals (subst h; rfl)

theorem decodeParigot_inv (t : Term) (n : Nat) (h : Dec.decodeParigot t = some n) :
    t = intoParigot n := by
  fun_induction Dec.decodeParigot t generalizing n <;> simp_all
  · subst h; rfl
  · rename_i b k _ ih
    subst h
    simp only [intoParigot]
    rw [← ih]; rfl

theorem decodeStumpFu_inv (t : Term) (n : Nat) (h : Dec.decodeStumpFu t = some n) :
    t = intoStumpFu n := by
  fun_induction Dec.decodeStumpFu t generalizing n <;> simp_all
  · subst h; rfl
  · rename_i p b k _ hc _
    subst h
    rw [decodeChurch_inv _ _ hc]; rfl

theorem binValue_inv (b : Term) (n : Nat) (h : Dec.binValue b = some n) : b = Dec.binBody n := by
  fun_induction Dec.binValue b generalizing n <;> simp_all
  · subst h; rw [binBody_zero]
  · rename_i k _ _
    subst h
    have h1 : (2 * k + 1) % 2 = 1 := by omega
    have h2 : (2 * k + 1) / 2 = k := by omega
    rw [binBody_pos (n := 2 * k + 1) (by omega), h1, h2]; rfl
  · rename_i v _ _
    subst h
    have h1 : ¬ (2 * (v + 1)) % 2 = 1 := by omega
    have h2 : (2 * (v + 1)) / 2 = v + 1 := by omega
    rw [binBody_pos (n := 2 * (v + 1)) (by omega), if_neg h1, h2]

theorem decodeBinary_inv (t : Term) (n : Nat) (h : Dec.decodeBinary t = some n) :
    t = intoBinary n := by
  unfold Dec.decodeBinary at h
  split at h
  · rw [binValue_inv _ _ h, C12_shape_binary]
  · cases h


/-! ### no placeholder index -/

theorem hfv_of_closed_noUD {t : Term} {d : Nat} (hc : closedAt d t = true) (hu : hasUD t = false) :
    hasFreeVariablesHelper d t = false := by
  induction t generalizing d with
  | var i => simp [closedAt, hasUD, hasFreeVariablesHelper] at *; omega
  | abs b ih => simp only [closedAt, hasUD, hasFreeVariablesHelper] at *; exact ih hc hu
  | app l r ihl ihr =>
    simp only [closedAt, hasUD, hasFreeVariablesHelper, Bool.and_eq_true, Bool.or_eq_false_iff] at *
    exact ⟨ihl hc.1 hu.1, ihr hc.2 hu.2⟩

theorem churchBody_noUD (n : Nat) : hasUD (churchBody n) = false := by
  induction n with
  | zero => rfl
  | succ n ih => simp [churchBody, hasUD, ih]

theorem scott_noUD (n : Nat) : hasUD (intoScott n) = false := by
  induction n with
  | zero => rfl
  | succ n ih => simp [intoScott, hasUD, ih]

theorem parigot_noUD (n : Nat) : hasUD (intoParigot n) = false := by
  rw [intoParigot_eq]
  induction n with
  | zero => rfl
  | succ n ih => simpa [parigotBody, hasUD] using ih

theorem stumpfu_noUD (n : Nat) : hasUD (intoStumpFu n) = false := by
  induction n with
  | zero => rfl
  | succ n ih =>
    have hc := churchBody_noUD (n + 1)
    simp [intoStumpFu, intoChurch, hasUD, ih, hc]

theorem binBody_noUD (n : Nat) : hasUD (Dec.binBody n) = false := by
  induction n using div2_induction with
  | zero => rw [binBody_zero]; rfl
  | half n h ih =>
    rw [binBody_pos h]
    by_cases hb : n % 2 = 1 <;> simp [hasUD, hb, ih]

theorem num_noUD (e : Encoding) (n : Nat) : hasUD (intoNum e n) = false := by
  cases e
  · simp [intoNum, intoChurch, hasUD, churchBody_noUD]
  · exact scott_noUD n
  · exact parigot_noUD n
  · exact stumpfu_noUD n
  · simp [intoNum, C12_shape_binary, hasUD, binBody_noUD]

end C12

/-- every Parigot list starts with two abstractions: the `unwrap` in `Vec::into_parigot` never fails -/
theorem C12_parigotList_unabs (ts : List Term) : ∃ b, parigotList ts = abs (abs b) := ⟨_, parigotList_eq ts⟩

namespace C12

theorem pairList_normal (ts : List Term) (h : ∀ t ∈ ts, isNormal t = true) :
    isNormal (pairList ts) = true := by
  induction ts with
  | nil => rfl
  | cons t ts ih =>
    have ht := h t (by simp)
    have := ih (fun u hu => h u (by simp [hu]))
    simp [pairList, isNormal, isAbs, ht, this]

theorem pairList_decode (ts : List Term) : Dec.decodePairList (pairList ts) = some ts := by
  induction ts with
  | nil => rfl
  | cons t ts ih => simp [pairList, Dec.decodePairList, ih]

theorem churchListBody_normal (ts : List Term) (h : ∀ t ∈ ts, isNormal t = true) :
    isNormal (churchListBody ts) = true := by
  induction ts with
  | nil => rfl
  | cons t ts ih =>
    have ht := h t (by simp)
    have := ih (fun u hu => h u (by simp [hu]))
    simp [churchListBody, isNormal, isAbs, ht, this]

theorem churchListBody_decode (ts : List Term) :
    Dec.churchListElems (churchListBody ts) = some ts := by
  induction ts with
  | nil => rfl
  | cons t ts ih => simp [churchListBody, Dec.churchListElems, ih]

theorem scottList_normal (ts : List Term) (h : ∀ t ∈ ts, isNormal t = true) :
    isNormal (scottList ts) = true := by
  induction ts with
  | nil => rfl
  | cons t ts ih =>
    have ht := h t (by simp)
    have := ih (fun u hu => h u (by simp [hu]))
    simp [scottList, isNormal, isAbs, ht, this]

theorem scottList_decode (ts : List Term) : Dec.decodeScottList (scottList ts) = some ts := by
  induction ts with
  | nil => rfl
  | cons t ts ih => simp [scottList, Dec.decodeScottList, ih]

theorem parigotList_unabs2 (ts : List Term) :
    parigotList ts = abs (abs (unabs2 (parigotList ts))) := by
  obtain ⟨b, hb⟩ := C12_parigotList_unabs ts
  rw [hb]; rfl

theorem parigotList_normal (ts : List Term) (h : ∀ t ∈ ts, isNormal t = true) :
    isNormal (parigotList ts) = true := by
  induction ts with
  | nil => rfl
  | cons t ts ih =>
    have ht := h t (by simp)
    have ih := ih (fun u hu => h u (by simp [hu]))
    have hb : isNormal (unabs2 (parigotList ts)) = true := by
      rw [parigotList_unabs2 ts] at ih; simpa [isNormal] using ih
    simp [parigotList, isNormal, isAbs, ht, ih, hb]

theorem parigotList_decode (ts : List Term) :
    Dec.decodeParigotList (parigotList ts) = some ts := by
  induction ts with
  | nil => rfl
  | cons t ts ih =>
    have hs := parigotList_unabs2 ts
    simp only [parigotList, Dec.decodeParigotList, ih]
    rw [if_pos hs]

theorem decodeAll_map (dec : Term → Option Nat) (f : Nat → Term) (hf : ∀ n, dec (f n) = some n)
    (ns : List Nat) : Dec.decodeAll dec (ns.map f) = some ns := by
  induction ns with
  | nil => rfl
  | cons n ns ih => simp [Dec.decodeAll, hf, ih]

theorem injective_of_decode {enc : Nat → Term} {dec : Term → Option Nat} (h : ∀ n, dec (enc n) = some n)
    {m n : Nat} (e : enc m = enc n) : m = n :=
  Option.some.inj ((h m).symm.trans ((congrArg dec e).trans (h n)))

end C12

theorem C12_closed_church (n : Nat) : closedAt 0 (intoChurch n) = true := closedAt_intoChurch 0 n

theorem C12_normal_church (n : Nat) : isNormal (intoChurch n) = true := normal_intoChurch n

theorem C12_injective_church (m n : Nat) (h : intoChurch m = intoChurch n) : m = n :=
  C12.injective_of_decode C12_decode_church h

theorem C12_zero_one_church : intoChurch 0 = Gen.Church.zero ∧ intoChurch 1 = Gen.Church.one := by
  decide

/-- documented shape `λ λ 2 (2 (… 1))` with `n` occurrences of `2` -/
theorem C12_shape_church (n : Nat) :
    intoChurch n = abs (abs (Dec.iterApp (var 2) n (var 1))) := by
  rw [C12.decIterApp_eq]; exact intoChurch_eq n


theorem C12_closed_scott (n : Nat) : closedAt 0 (intoScott n) = true := closedAt_intoScott 0 n

theorem C12_injective_scott (m n : Nat) (h : intoScott m = intoScott n) : m = n :=
  C12.injective_of_decode C12_decode_scott h

theorem C12_zero_one_scott : intoScott 0 = Gen.Scott.zero ∧ intoScott 1 = Gen.Scott.one := by
  decide

/-- documented shape: `0 ≡ λ λ 2`, `n+1 ≡ λ λ 1 n` -/
theorem C12_shape_scott :
    intoScott 0 = abs (abs (var 2)) ∧
    ∀ n, intoScott (n + 1) = abs (abs (app (var 1) (intoScott n))) :=
  ⟨rfl, fun _ => rfl⟩


theorem C12_closed_parigot (n : Nat) : closedAt 0 (intoParigot n) = true := closedAt_intoParigot 0 n

theorem C12_injective_parigot (m n : Nat) (h : intoParigot m = intoParigot n) : m = n :=
  C12.injective_of_decode C12_decode_parigot h

theorem C12_zero_one_parigot :
    intoParigot 0 = Gen.Parigot.zero ∧ intoParigot 1 = Gen.Parigot.one := by
  decide

/-- documented shape: `0 ≡ λ λ 1`, `n+1 ≡ λ λ 2 n b` where `n ≡ λ λ b` -/
theorem C12_shape_parigot :
    intoParigot 0 = abs (abs (var 1)) ∧
    ∀ n, ∃ b, intoParigot n = abs (abs b) ∧
      intoParigot (n + 1) = abs (abs (app (app (var 2) (intoParigot n)) b)) := by
  refine ⟨rfl, fun n => ?_⟩
  obtain ⟨b, hb⟩ := C12_parigot_unabs n
  refine ⟨b, hb, ?_⟩
  simp only [intoParigot]
  rw [hb]; rfl


theorem C12_closed_stumpfu (n : Nat) : closedAt 0 (intoStumpFu n) = true := closedAt_intoStumpFu 0 n

theorem C12_injective_stumpfu (m n : Nat) (h : intoStumpFu m = intoStumpFu n) : m = n :=
  C12.injective_of_decode C12_decode_stumpfu h

theorem C12_zero_one_stumpfu :
    intoStumpFu 0 = Gen.StumpFu.zero ∧ intoStumpFu 1 = Gen.StumpFu.one := by
  decide

/-- documented shape: `0 ≡ λ λ 1`, `n+1 ≡ λ λ 2 (church (n+1)) n`, the Church numeral in its own
documented closed form -/
theorem C12_shape_stumpfu :
    intoStumpFu 0 = abs (abs (var 1)) ∧
    ∀ n, intoStumpFu (n + 1) =
      abs (abs (app (app (var 2) (abs (abs (Dec.iterApp (var 2) (n + 1) (var 1))))) (intoStumpFu n))) := by
  refine ⟨rfl, fun n => ?_⟩
  rw [← C12_shape_church]; rfl


theorem C12_closed_binary (n : Nat) : closedAt 0 (intoBinary n) = true := closedAt_intoBinary 0 n

theorem C12_normal_binary (n : Nat) : isNormal (intoBinary n) = true := by
  rw [C12_shape_binary]; simp [isNormal, C12.binBody_normal]

theorem C12_decode_binary (n : Nat) : Dec.decodeBinary (intoBinary n) = some n := by
  rw [C12_shape_binary]; simp [Dec.decodeBinary, C12.binValue_body]

theorem C12_injective_binary (m n : Nat) (h : intoBinary m = intoBinary n) : m = n :=
  C12.injective_of_decode C12_decode_binary h

theorem C12_zero_one_binary : intoBinary 0 = Gen.Binary.zero ∧ intoBinary 1 = Gen.Binary.one := by
  simp [C12_shape_binary, C12.binBody_pos, C12.binBody_zero, Gen.Binary.zero, Gen.Binary.one]

theorem C12_closed_num (e : Encoding) (n : Nat) : closedAt 0 (intoNum e n) = true := by
  cases e
  · exact C12_closed_church n
  · exact C12_closed_scott n
  · exact C12_closed_parigot n
  · exact C12_closed_stumpfu n
  · exact C12_closed_binary n

theorem C12_normal_num (e : Encoding) (n : Nat) : isNormal (intoNum e n) = true := by
  cases e
  · exact C12_normal_church n
  · exact C12_normal_scott n
  · exact C12_normal_parigot n
  · exact C12_normal_stumpfu n
  · exact C12_normal_binary n

theorem C12_decode_num (e : Encoding) (n : Nat) : Dec.decodeNum e (intoNum e n) = some n := by
  cases e
  · exact C12_decode_church n
  · exact C12_decode_scott n
  · exact C12_decode_parigot n
  · exact C12_decode_stumpfu n
  · exact C12_decode_binary n

/-- the decoders accept exactly one term per number: `decodeE t = some n` holds ONLY for the
term produced by the constructor (so the decoders really are shape checks) -/
theorem C12_canonical_church (t : Term) (n : Nat) : Dec.decodeChurch t = some n ↔ t = intoChurch n :=
  ⟨C12.decodeChurch_inv t n, fun h => h ▸ C12_decode_church n⟩

theorem C12_canonical_scott (t : Term) (n : Nat) : Dec.decodeScott t = some n ↔ t = intoScott n :=
  ⟨C12.decodeScott_inv t n, fun h => h ▸ C12_decode_scott n⟩

theorem C12_canonical_parigot (t : Term) (n : Nat) :
    Dec.decodeParigot t = some n ↔ t = intoParigot n :=
  ⟨C12.decodeParigot_inv t n, fun h => h ▸ C12_decode_parigot n⟩

theorem C12_canonical_stumpfu (t : Term) (n : Nat) :
    Dec.decodeStumpFu t = some n ↔ t = intoStumpFu n :=
  ⟨C12.decodeStumpFu_inv t n, fun h => h ▸ C12_decode_stumpfu n⟩

theorem C12_canonical_binary (t : Term) (n : Nat) : Dec.decodeBinary t = some n ↔ t = intoBinary n :=
  ⟨C12.decodeBinary_inv t n, fun h => h ▸ C12_decode_binary n⟩

/-- closedness in the strict sense of the crate's own predicate `has_free_variables` (which also
flags the placeholder index `0`): no numeral has free variables -/
theorem C12_no_free_variables (e : Encoding) (n : Nat) :
    hasFreeVariables (intoNum e n) = false :=
  C12.hfv_of_closed_noUD (C12_closed_num e n) (C12.num_noUD e n)

/-- pairs: `(a, b).into_E()` is the documented pair `λ 1 a b` (= `tuple!(a, b)`) -/
theorem C12_pair (a b : Term) :
    fromPair a b = tuple2 a b ∧
    (closedAt 0 a = true → closedAt 0 b = true → closedAt 0 (fromPair a b) = true) ∧
    (isNormal a = true → isNormal b = true → isNormal (fromPair a b) = true) :=
  ⟨rfl, closed_tuple2, normal_tuple2⟩

theorem C12_pair_decode (a b : Term) : Dec.decodePair (fromPair a b) = some (a, b) := rfl

theorem C12_option_none : fromOption none = Gen.Opt.none := by decide

/-- `Some(v)` is `λ λ 1 v`, closed / normal when the payload is, and decodes to the payload -/
theorem C12_option_some (v : Term) :
    fromOption (some v) = abs (abs (app (var 1) v)) ∧
    (closedAt 0 v = true → closedAt 0 (fromOption (some v)) = true) ∧
    (isNormal v = true → isNormal (fromOption (some v)) = true) ∧
    Dec.decodeOption (fromOption (some v)) = some (some v) := by
  refine ⟨rfl, fun hv => ?_, fun hv => ?_, rfl⟩
  · simp [fromOption, closedAt, Closed.closedAt hv 2]
  · simp [fromOption, isNormal, isAbs, hv]

theorem C12_option_none_decode : Dec.decodeOption (fromOption none) = some none := rfl

/-- `Ok(v)` is `λ λ 2 v`, `Err(e)` is `λ λ 1 e`; closed / normal when the payload is; decodable -/
theorem C12_result (v : Term) :
    fromResult (.ok v) = abs (abs (app (var 2) v)) ∧
    fromResult (.error v) = abs (abs (app (var 1) v)) ∧
    (closedAt 0 v = true →
      closedAt 0 (fromResult (.ok v)) = true ∧ closedAt 0 (fromResult (.error v)) = true) ∧
    (isNormal v = true →
      isNormal (fromResult (.ok v)) = true ∧ isNormal (fromResult (.error v)) = true) ∧
    Dec.decodeResult (fromResult (.ok v)) = some (.ok v) ∧
    Dec.decodeResult (fromResult (.error v)) = some (.error v) := by
  refine ⟨rfl, rfl, fun hv => ?_, fun hv => ?_, rfl, rfl⟩
  · simp [fromResult, closedAt, Closed.closedAt hv 2]
  · simp [fromResult, isNormal, isAbs, hv]

theorem C12_bool : fromBool true = Gen.Bool.tru ∧ fromBool false = Gen.Bool.fls := C17_from_bool

/-- pairs, options and results OF NUMBERS (`(m, n).into_E()`, `Some(n).into_E()`, `Ok(n).into_E()`,
`Err(n).into_E()`): closed and normal; pairs and options decode back to the numbers (a result decodes to its payload
by `C12_result`, the payload by `C12_decode_num`) -/
theorem C12_containers_num (e : Encoding) (m n : Nat) :
    (closedAt 0 (fromPair (intoNum e m) (intoNum e n)) = true ∧
      isNormal (fromPair (intoNum e m) (intoNum e n)) = true ∧
      (Dec.decodePair (fromPair (intoNum e m) (intoNum e n))).bind
        (fun p => (Dec.decodeNum e p.1).bind fun a => (Dec.decodeNum e p.2).map fun b => (a, b))
        = some (m, n)) ∧
    (closedAt 0 (fromOption (some (intoNum e n))) = true ∧
      isNormal (fromOption (some (intoNum e n))) = true ∧
      (Dec.decodeOption (fromOption (some (intoNum e n)))).bind
        (fun o => o.bind (Dec.decodeNum e)) = some n) ∧
    (closedAt 0 (fromResult (.ok (intoNum e n))) = true ∧
      isNormal (fromResult (.ok (intoNum e n))) = true ∧
      closedAt 0 (fromResult (.error (intoNum e n))) = true ∧
      isNormal (fromResult (.error (intoNum e n))) = true) := by
  have hc := C12_closed_num e
  have hn := C12_normal_num e
  refine ⟨⟨(C12_pair _ _).2.1 (hc m) (hc n), (C12_pair _ _).2.2 (hn m) (hn n), ?_⟩,
    ⟨(C12_option_some _).2.1 (hc n), (C12_option_some _).2.2.1 (hn n), ?_⟩,
    ((C12_result _).2.2.1 (hc n)).1, ((C12_result _).2.2.2.1 (hn n)).1,
    ((C12_result _).2.2.1 (hc n)).2, ((C12_result _).2.2.2.1 (hn n)).2⟩
  · simp [C12_pair_decode, C12_decode_num]
  · simp [(C12_option_some _).2.2.2, C12_decode_num]

set_option linter.unusedVariables false in
/-- a signed value is the pair `(n, zero)` or `(zero, n)` of numerals of the selected encoding.  The proof does not use `he`
(the model function is total); the hypothesis restricts the statement to the calls on which the crate does not panic,
see `C12_signed_refuses_exactly_binary`.  Likewise in `C12_signed_decode`. -/
theorem C12_signed (e : Encoding) (he : e ≠ .Binary) (i : Int) :
    intoSigned e i =
      if i > 0 then tuple2 (intoNum e i.natAbs) (intoNum e 0)
      else tuple2 (intoNum e 0) (intoNum e i.natAbs) := rfl

/-- the `intoNum e 0` of `C12_signed` is the module's `zero()` -/
theorem C12_signed_zero_component :
    intoNum .Church 0 = Gen.Church.zero ∧ intoNum .Scott 0 = Gen.Scott.zero ∧
    intoNum .Parigot 0 = Gen.Parigot.zero ∧ intoNum .StumpFu 0 = Gen.StumpFu.zero := by
  decide

theorem C12_signed_decode (e : Encoding) (he : e ≠ .Binary) (i : Int) :
    Dec.decodeSigned e (intoSigned e i) = some i := by
  rw [C12_signed e he i]
  by_cases hi : i > 0
  · simp only [hi, if_true, Dec.decodeSigned, Dec.decodeSignedWith, tuple2, Dec.decodePair,
      C12_decode_num]
    congr 1; omega
  · simp only [hi, if_false, Dec.decodeSigned, Dec.decodeSignedWith, tuple2, Dec.decodePair,
      C12_decode_num]
    congr 1; omega

theorem C12_signed_closed_normal (e : Encoding) (i : Int) :
    closedAt 0 (intoSigned e i) = true ∧ isNormal (intoSigned e i) = true := by
  have hc := fun n => Closed.closedAt (C12_closed_num e n) 1
  have hn := C12_normal_num e
  simp only [intoSigned]
  split <;> simp [tuple2, closedAt, isNormal, isAbs, hc, hn]


/-- the refusal the crate documents ("signed binary numbers are not supported"): `into_signed` panics exactly for `Binary`
and is `intoSigned` — the function all the theorems above are about — on every supported encoding.  (The model function
`intoSigned` is total; this is the statement that nothing was proved "for the wrong reason" on the rejected input: the
driver answers `signed` operations with `intoSignedChecked`, and `signed binary i` is compared with the crate's panic.) -/
theorem C12_signed_refuses_exactly_binary (e : Encoding) (i : Int) :
    (intoSignedChecked e i = none ↔ e = .Binary) ∧
    (e ≠ .Binary → intoSignedChecked e i = some (intoSigned e i)) := by
  cases e <;> simp [intoSignedChecked]

example : intoSignedChecked .Binary 3 = none ∧ intoSignedChecked .Scott (-1) = some (intoSigned .Scott (-1)) := by
  decide

/-- the empty list of each list encoding is the module's `nil()` constant -/
theorem C12_lists_nil :
    pairList [] = Gen.PList.nil ∧ churchList [] = Gen.CList.nil ∧
    scottList [] = Gen.SList.nil ∧ parigotList [] = Gen.GList.nil := by
  decide

/-- lists of closed elements are closed (elements are inserted verbatim under the binders of the
list structure, which is harmless exactly because they are closed) -/
theorem C12_lists_closed (ts : List Term) (h : ∀ t ∈ ts, closedAt 0 t = true) :
    closedAt 0 (pairList ts) = true ∧ closedAt 0 (churchList ts) = true ∧
    closedAt 0 (scottList ts) = true ∧ closedAt 0 (parigotList ts) = true :=
  ⟨closed_pairList h, closed_churchList h, closed_scottList h, closed_parigotList h⟩

theorem C12_lists_normal (ts : List Term) (h : ∀ t ∈ ts, isNormal t = true) :
    isNormal (pairList ts) = true ∧ isNormal (churchList ts) = true ∧
    isNormal (scottList ts) = true ∧ isNormal (parigotList ts) = true :=
  ⟨C12.pairList_normal ts h, by simp [churchList, isNormal, C12.churchListBody_normal ts h],
   C12.scottList_normal ts h, C12.parigotList_normal ts h⟩

/-- the independent decoders return the element list (for arbitrary elements, in particular for
closed normal ones) -/
theorem C12_lists_decode (ts : List Term) :
    Dec.decodePairList (pairList ts) = some ts ∧ Dec.decodeChurchList (churchList ts) = some ts ∧
    Dec.decodeScottList (scottList ts) = some ts ∧
    Dec.decodeParigotList (parigotList ts) = some ts :=
  ⟨C12.pairList_decode ts, by simp [churchList, Dec.decodeChurchList, C12.churchListBody_decode],
   C12.scottList_decode ts, C12.parigotList_decode ts⟩

/-- documented shapes of the list encodings -/
theorem C12_lists_shape (t : Term) (ts : List Term) :
    pairList (t :: ts) = tuple2 t (pairList ts) ∧
    churchList (t :: ts) = abs (abs (app (app (var 1) t) (churchListBody ts))) ∧
    churchList ts = abs (abs (churchListBody ts)) ∧
    scottList (t :: ts) = abs (abs (app (app (var 1) t) (scottList ts))) ∧
    (∃ b, parigotList ts = abs (abs b) ∧
      parigotList (t :: ts) = abs (abs (app (app (app (var 1) t) (parigotList ts)) b))) := by
  refine ⟨rfl, rfl, rfl, rfl, ?_⟩
  obtain ⟨b, hb⟩ := C12_parigotList_unabs ts
  refine ⟨b, hb, ?_⟩
  simp only [parigotList]
  rw [hb]; rfl

/-- vectors of numbers (`Vec<usize>::into_church/into_scott/into_parigot`: the list of the numerals
of the same encoding): closed, normal, and decodable back to the numbers -/
theorem C12_vectors (ns : List Nat) :
    (closedAt 0 (churchList (ns.map intoChurch)) = true ∧
      isNormal (churchList (ns.map intoChurch)) = true ∧
      (Dec.decodeChurchList (churchList (ns.map intoChurch))).bind (Dec.decodeAll Dec.decodeChurch)
        = some ns) ∧
    (closedAt 0 (scottList (ns.map intoScott)) = true ∧
      isNormal (scottList (ns.map intoScott)) = true ∧
      (Dec.decodeScottList (scottList (ns.map intoScott))).bind (Dec.decodeAll Dec.decodeScott)
        = some ns) ∧
    (closedAt 0 (parigotList (ns.map intoParigot)) = true ∧
      isNormal (parigotList (ns.map intoParigot)) = true ∧
      (Dec.decodeParigotList (parigotList (ns.map intoParigot))).bind
        (Dec.decodeAll Dec.decodeParigot) = some ns) := by
  have all : ∀ {p : Term → Prop} {f : Nat → Term}, (∀ n, p (f n)) → ∀ t ∈ ns.map f, p t :=
    fun hf => List.forall_mem_map.2 fun n _ => hf n
  refine ⟨⟨(C12_lists_closed _ (all C12_closed_church)).2.1,
      (C12_lists_normal _ (all C12_normal_church)).2.1, ?_⟩,
    ⟨(C12_lists_closed _ (all C12_closed_scott)).2.2.1,
      (C12_lists_normal _ (all C12_normal_scott)).2.2.1, ?_⟩,
    ⟨(C12_lists_closed _ (all C12_closed_parigot)).2.2.2,
      (C12_lists_normal _ (all C12_normal_parigot)).2.2.2, ?_⟩⟩
  · rw [(C12_lists_decode _).2.1]
    exact C12.decodeAll_map _ _ C12_decode_church ns
  · rw [(C12_lists_decode _).2.2.1]
    exact C12.decodeAll_map _ _ C12_decode_scott ns
  · rw [(C12_lists_decode _).2.2.2]
    exact C12.decodeAll_map _ _ C12_decode_parigot ns


/-! ## non-vacuity: concrete values -/

example : intoChurch 3 = abs (abs (app (var 2) (app (var 2) (app (var 2) (var 1))))) := by decide
example : intoScott 2 = abs (abs (app (var 1) (abs (abs (app (var 1) (abs (abs (var 2)))))))) := by
  decide
-- Parigot 2 = λλ. 2 ONE (2 ZERO 1): the third component is the body of the predecessor
example : intoParigot 2 =
    abs (abs (app (app (var 2) (abs (abs (app (app (var 2) (abs (abs (var 1)))) (var 1)))))
      (app (app (var 2) (abs (abs (var 1)))) (var 1)))) := by decide
-- Stump-Fu 2 = λλ. 2 (church 2) (stumpfu 1)
example : intoStumpFu 2 =
    abs (abs (app (app (var 2) (abs (abs (app (var 2) (app (var 2) (var 1))))))
      (abs (abs (app (app (var 2) (abs (abs (app (var 2) (var 1))))) (abs (abs (var 1)))))))) := by
  decide
-- 6 = 110₂: least significant bit (zero bit = 2) outermost, most significant (one bit = 1) innermost
example : intoBinary 6 = abs (abs (abs (app (var 2) (app (var 1) (app (var 1) (var 3)))))) := by
  simp [C12_shape_binary, C12.binBody_pos, C12.binBody_zero]
example : bitsMSB 6 = [true, true, false] := by
  simp [C12.bitsMSB_pos, C12.bitsMSB_zero]
example : Dec.decodeBinary (abs (abs (abs (app (var 2) (app (var 1) (app (var 1) (var 3))))))) = some 6 := by
  decide

-- the decoders reject near misses
example : Dec.decodeBinary (abs (abs (abs (app (var 1) (app (var 2) (var 3)))))) = none := by
  decide  -- leading zero ("01")
example : Dec.decodeChurch (abs (abs (app (var 2) (var 2)))) = none := by decide
example : Dec.decodeChurch (abs (app (var 2) (var 1))) = none := by decide
example : Dec.decodeScott (abs (abs (app (var 2) (abs (abs (var 2)))))) = none := by decide
-- Parigot: third component is not the predecessor's body
example : Dec.decodeParigot (abs (abs (app (app (var 2) (abs (abs (var 1)))) (var 2)))) = none := by
  decide
-- Stump-Fu: the Church component must be the successor of the Stump-Fu component
example : Dec.decodeStumpFu
    (abs (abs (app (app (var 2) (abs (abs (app (var 2) (app (var 2) (var 1)))))) (abs (abs (var 1))))))
    = none := by decide

-- signed numbers; the zero is the zero OF THE SAME ENCODING
example : intoSigned .Scott 1 =
    abs (app (app (var 1) (abs (abs (app (var 1) (abs (abs (var 2))))))) (abs (abs (var 2)))) := by
  decide
example : intoSigned .Scott 1 = tuple2 Gen.Scott.one Gen.Scott.zero := by decide
example : intoSigned .Scott 1 ≠ tuple2 (intoScott 1) (abs (abs (var 1))) := by decide
example : Dec.decodeSigned .Scott (tuple2 (intoScott 1) (abs (abs (var 1)))) = none := by decide
example : intoSigned .Church (-2) = tuple2 Gen.Church.zero (intoChurch 2) := by decide
example : intoSigned .Parigot 0 = tuple2 Gen.Parigot.zero Gen.Parigot.zero := by decide
example : Dec.decodeSigned .StumpFu (intoSigned .StumpFu (-3)) = some (-3) := by decide

example : fromPair (intoChurch 1) (intoChurch 0) = tuple2 Gen.Church.one Gen.Church.zero := by decide
example : fromOption (some (intoChurch 1)) = abs (abs (app (var 1) Gen.Church.one)) := by decide
example : pairList [var 7, var 8] =
    abs (app (app (var 1) (var 7)) (abs (app (app (var 1) (var 8)) (abs (abs (var 1)))))) := by
  decide
example : churchList [intoChurch 0, intoChurch 1] =
    abs (abs (app (app (var 1) Gen.Church.zero) (app (app (var 1) Gen.Church.one) (var 2)))) := by
  decide
example : Dec.decodeParigotList (parigotList [intoParigot 1, intoParigot 0]) =
    some [Gen.Parigot.one, Gen.Parigot.zero] := by decide
example : (Dec.decodeScottList (scottList ([2, 0, 1].map intoScott))).bind
    (Dec.decodeAll Dec.decodeScott) = some [2, 0, 1] := by decide

end LC
