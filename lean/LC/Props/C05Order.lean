/-
C05 — "HAP contracts the FIRST redex in the order `hapBefore`": `hapBefore` is an order.

`hapBefore` (`LC/Spec/SelectionAll.lean`: ten rules on positions, transcribing the priorities of `beta_hap`) is a
STRICT TOTAL ORDER on the redex positions of any term, `isHAP t p` says that `p` is its minimum, and the hypothesis
"redex positions of the same term" is needed for totality; the same for `cbvBefore` on the positions outside every
abstraction, where CBV looks for redexes.
-/
import LC.Proofs.PositionsOrder
import LC.Props.C05More

namespace LC
open Term Spec

/-- C05 (HAP): `hapBefore` is a strict total order on the redex positions of a term -/
theorem C05_hap_order_strict_total :
    (∀ p : Pos, ¬ hapBefore p p) ∧
    (∀ p q : Pos, hapBefore p q → ¬ hapBefore q p) ∧
    (∀ p q r : Pos, hapBefore p q → hapBefore q r → hapBefore p r) ∧
    (∀ (t : Term) (p q : Pos), redexAt t p → redexAt t q → p ≠ q → hapBefore p q ∨ hapBefore q p) :=
  ⟨hapBefore_irrefl, fun _ _ => hapBefore_asymm, fun _ _ _ => hapBefore_trans, hapBefore_total⟩

/-- non-vacuity: `(λ.(λ.1) 1) (λ.(λ.1) 1)` has the three redex positions `[R,B]`, `[]`, `[L,B]`; trichotomy relates
each pair, transitivity gives `[R,B]` before `[L,B]` from the other two, and `[]` is not before `[R,B]` -/
example :
    let t := app (abs (app (abs (var 1)) (var 1))) (abs (app (abs (var 1)) (var 1)))
    redexAt t [Dir.R, Dir.B] ∧ redexAt t [] ∧ redexAt t [Dir.L, Dir.B] ∧
    (hapBefore [Dir.R, Dir.B] [Dir.L, Dir.B] ∨ hapBefore [Dir.L, Dir.B] [Dir.R, Dir.B]) ∧
    hapBefore [Dir.R, Dir.B] [Dir.L, Dir.B] ∧ ¬ hapBefore [Dir.L, Dir.B] [Dir.R, Dir.B] := by
  intro t
  have h1 : redexAt t [Dir.R, Dir.B] := ⟨_, _, _, rfl⟩
  have h2 : redexAt t [] := ⟨_, _, _, rfl⟩
  have h3 : redexAt t [Dir.L, Dir.B] := ⟨_, _, _, rfl⟩
  have h13 : hapBefore [Dir.R, Dir.B] [Dir.L, Dir.B] :=
    C05_hap_order_strict_total.2.2.1 _ [] _ hapBefore.R_root (hapBefore.root_lateL (by simp [weak]))
  exact ⟨h1, h2, h3, C05_hap_order_strict_total.2.2.2 t _ _ h1 h3 (by decide), h13,
    C05_hap_order_strict_total.2.1 _ _ h13⟩

/-- C05 (HAP): `isHAP t p` says that `p` is THE MINIMUM of the redex positions of `t` in the strict total order
`hapBefore`: (a) it is a redex position that no redex position precedes (minimal); (b) equivalently a redex position
that precedes every other redex position (least — the definition); (c) a term with a redex has one; (d) at most one. -/
theorem C05_hap_is_minimum (t : Term) :
    (∀ p, isHAP t p ↔ redexAt t p ∧ ∀ q, redexAt t q → ¬ hapBefore q p) ∧
    (∀ p, isHAP t p ↔ redexAt t p ∧ ∀ q, redexAt t q → q ≠ p → hapBefore p q) ∧
    ((∃ q, redexAt t q) → ∃ p, isHAP t p) ∧
    (∀ p p', isHAP t p → isHAP t p' → p = p') := by
  refine ⟨fun p => isHAP_iff_minimal, fun p => ?_, fun ⟨q, hq⟩ => isHAP_exists hq,
    fun p p' => isHAP_unique⟩
  constructor
  · rintro ⟨hp, h⟩
    exact ⟨hp, fun q hq hne => (h q hq).resolve_left hne⟩
  · rintro ⟨hp, h⟩
    refine ⟨hp, fun q hq => ?_⟩
    by_cases hqp : q = p
    · exact Or.inl hqp
    · exact Or.inr (h q hq hqp)

/-- non-vacuity: in `(λ.(λ.1) 1) (λ.(λ.1) 1)` the minimum is `[R,B]` (the redex HAP contracts, see C05More.lean): no
redex precedes it; the root is a redex but not minimal -/
example :
    let t := app (abs (app (abs (var 1)) (var 1))) (abs (app (abs (var 1)) (var 1)))
    (redexAt t [Dir.R, Dir.B] ∧ ∀ q, redexAt t q → ¬ hapBefore q [Dir.R, Dir.B]) ∧
    ¬ (redexAt t [] ∧ ∀ q, redexAt t q → ¬ hapBefore q []) := by
  intro t
  refine ⟨((C05_hap_is_minimum t).1 _).1 ((sel_iff .HAP _ _).1 (by decide)), ?_⟩
  rintro ⟨_, h⟩
  exact h [Dir.R, Dir.B] ⟨_, _, _, rfl⟩ hapBefore.R_root

/-- the one step of HAP contracts the minimum of the redex positions (`C05_hap_exact`, read through `C05_hap_is_minimum`) -/
theorem C05_hap_contracts_minimum (fuel : Nat) (t t' : Term) (c : Nat)
    (h : reduce .HAP 1 fuel t = some (t', c)) :
    (c = 1 ∧ ∃ p, redexAt t p ∧ (∀ q, redexAt t q → ¬ hapBefore q p) ∧ t' = contractAt t p) ∨
    (c = 0 ∧ t' = t ∧ ∀ p, ¬ redexAt t p) := by
  rcases C05_hap_exact fuel t t' c h with ⟨hc, p, hp, ht⟩ | h
  · obtain ⟨h1, h2⟩ := isHAP_iff_minimal.1 hp
    exact Or.inl ⟨hc, p, h1, h2, ht⟩
  · exact Or.inr h

example : reduce .HAP 1 9 (app (abs (app (abs (var 1)) (var 1))) (abs (app (abs (var 1)) (var 1))))
    = some (contractAt (app (abs (app (abs (var 1)) (var 1))) (abs (app (abs (var 1)) (var 1)))) [Dir.R, Dir.B], 1) := by
  decide

/-- the hypothesis of trichotomy is needed: `[B]` and `[L]` (positions that never coexist in a term) are unrelated, and
so are `[]` and `[B]`, both POSITIONS of `λ.1` (but the root of an abstraction is not a redex) -/
theorem C05_hap_order_needs_redexes :
    (¬ hapBefore [Dir.B] [Dir.L] ∧ ¬ hapBefore [Dir.L] [Dir.B]) ∧
    (¬ hapBefore [] [Dir.B] ∧ ¬ hapBefore [Dir.B] []) ∧
    (subAt (abs (var 1)) [] ≠ none ∧ subAt (abs (var 1)) [Dir.B] ≠ none) := by
  refine ⟨⟨?_, ?_⟩, ⟨?_, ?_⟩, by decide⟩ <;> intro h <;> cases h

/-- C05 (CBV): `cbvBefore` (inner before outer, left before right) is a strict order on all positions and total on
the weak positions (those outside every abstraction, where CBV looks for redexes) -/
theorem C05_cbv_order_strict_total :
    (∀ p : Pos, ¬ cbvBefore p p) ∧
    (∀ p q : Pos, cbvBefore p q → ¬ cbvBefore q p) ∧
    (∀ p q r : Pos, cbvBefore p q → cbvBefore q r → cbvBefore p r) ∧
    (∀ p q : Pos, weak p → weak q → p ≠ q → cbvBefore p q ∨ cbvBefore q p) :=
  ⟨fun _ h => cbvBefore_asymm h h, fun _ _ => cbvBefore_asymm, fun _ _ _ => cbvBefore_trans,
    fun _ _ => cbvBefore_total⟩

/-- non-vacuity: `[L,R]` is inside `[L]`, `[L]` is left of `[R]`; transitivity gives `[L,R]` before `[R]`.  Weakness is
needed for totality: `[B]` and `[L]` are unrelated -/
example : cbvBefore [Dir.L, Dir.R] [Dir.R] ∧ ¬ cbvBefore [Dir.B] [Dir.L] ∧ ¬ cbvBefore [Dir.L] [Dir.B] := by
  refine ⟨C05_cbv_order_strict_total.2.2.1 _ [Dir.L] _ (Or.inr ⟨[Dir.R], by simp, rfl⟩)
    (Or.inl ⟨[], [], [], rfl, rfl⟩), ?_, ?_⟩ <;>
  · rw [cbvBefore_cons]; simp [cbvBefore_nil_right]

end LC
