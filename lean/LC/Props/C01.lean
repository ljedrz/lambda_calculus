/-
C01 — reduce/beta performs only genuine beta-contractions and counts them exactly

"For every term, evaluation order and limit, the term left by reduce (equivalently, returned by
beta) is reachable from the input by exactly as many one-step beta-contractions as the returned
count, each contraction replacing some application of an abstraction to an argument by the
abstraction body with the argument substituted capture-avoidingly for the bound variable. A
count of 0 means the term is unchanged. The UD placeholder (index 0) behaves as an inert
constant."

`Steps c t t'` is "exactly `c` single `Spec.Beta` steps"; the root rule of `Spec.Beta` is
`(λb) a → substTop b a` with the independent textbook substitution `Spec.substTop`
(`lower ∘ subst 1 (lift a)`), not the model's one-pass `applyAux`.
-/
import LC.Proofs.ReduceLemmas
import LC.Proofs.UDParamInj
import LC.Props.C02

namespace LC
open Term Spec

/-- C01: the term left by `reduce` is reached by exactly `count` β-contractions -/
theorem C01_reduce_steps (o : Order) (L fuel : Nat) (t t' : Term) (c : Nat)
    (h : reduce o L fuel t = some (t', c)) : Steps c t t' :=
  RL.reduce_steps h

example : reduce .NOR 0 10 (app (abs (var 1)) (app (abs (var 1)) (var 7))) = some (var 7, 2) := by
  decide
example : Steps 2 (app (abs (var 1)) (app (abs (var 1)) (var 7))) (var 7) :=
  C01_reduce_steps .NOR 0 10 _ _ _ (by decide)

/-- C01: the free function `beta` returns the term left by `reduce` -/
theorem C01_beta_eq_reduce (t : Term) (o : Order) (L fuel : Nat) :
    beta t o L fuel = (reduce o L fuel t).map (·.1) := rfl

/-- C01, `beta` form: the returned term is reachable by β-contractions, as many as `reduce` counts -/
theorem C01_beta_steps (o : Order) (L fuel : Nat) (t t' : Term)
    (h : beta t o L fuel = some t') : ∃ c, reduce o L fuel t = some (t', c) ∧ Steps c t t' := by
  obtain ⟨c, hr⟩ := beta_eq_some.1 h
  exact ⟨c, hr, RL.reduce_steps hr⟩

example : beta (app (abs (var 1)) (var 7)) .CBV 0 10 = some (var 7) := by decide

/-- C01: a count of 0 means the term is unchanged -/
theorem C01_count_zero (o : Order) (L fuel : Nat) (t t' : Term)
    (h : reduce o L fuel t = some (t', 0)) : t' = t :=
  (RL.reduce_steps h).zero_eq

example : reduce .HSP 0 10 (abs (app (var 1) (var 2))) = some (abs (app (var 1) (var 2)), 0) := by
  decide

/-- C01: UD is never substituted for -/
theorem C01_ud_inert (a : Term) : substTop (var 0) a = var 0 :=
  C02_ud_inert a

example : reduce .NOR 0 10 (app (abs (var 0)) (var 5)) = some (var 0, 1) := by decide

/-- C01: no UD is created by a contraction -/
theorem C01_ud_not_shifted (a : Term) (b : Term) :
    hasUD (substTop b a) = true → hasUD b = true ∨ hasUD a = true :=
  fun h => hasUD_substTop h

example : hasUD (substTop (app (var 1) (var 2)) (var 3)) = false := by decide
example : hasUD (substTop (app (var 1) (abs (var 0))) (var 3)) = true ∧
    substTop (app (var 1) (abs (var 0))) (var 3) = app (var 3) (abs (var 0)) := by decide

end LC
