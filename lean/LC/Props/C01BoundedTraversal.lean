/-
C01 at the representation boundary of indices, traversal level (DESIGN §9; repair F7 of DESIGN §8)

`Props/C02Bounded.lean` states the boundary theorems for `apply` and for strategy STEPS.  Here the checked model is the
mirror of the Rust traversals themselves: `reduceChk M o limit fuel t` is `Term.reduce o limit fuel t` of
`Model/Reduce.lean` with `eval` contracting by the checked substitution `contractChk M` (a panic unwinds the whole
call): answers `ChkRes.ret t' c` (returned), `ChkRes.panic` ("De Bruijn index overflow"), `ChkRes.fuel` (model fuel
exhausted; never an answer of the crate).

With limit 1 (`reduceb`) the checked call is decided by the one term the unbounded call leaves and is the checked
strategy step; the driver's rule for `reduceb` is `driverReduceb` of `Props/C02Bounded.lean`.

For limits other than 1 the exact characterisation of the checked traversal (all intermediate terms representable) is
in `Props/C01BoundedExact.lean`; at the level of strategy steps it is `C01_checked_run_iff` (`Props/C02Bounded.lean`).
-/
import LC.Proofs.BoundedTraversalExactAll
import LC.Props.C02Bounded

namespace LC
open Term

/-- C01: a checked `reduce` that returns, returns the term and the count of the unbounded model, and the term is
representable: every theorem about `reduce` applies to every call of the crate that returns -/
theorem C01_checked_reduce_sound (M : Nat) (o : Order) (L fuel : Nat) (t t' : Term) (c : Nat)
    (ht : maxIndex t ≤ M) (h : reduceChk M o L fuel t = .ret t' c) :
    reduce o L fuel t = some (t', c) ∧ maxIndex t' ≤ M := by
  have := reduceChk_rel M o L fuel t ht
  rw [h] at this
  exact this

/-- C01: the checked `reduce` runs out of model fuel only where the unbounded one does; where the unbounded one runs
out, the checked one does not return -/
theorem C01_checked_reduce_fuel (M : Nat) (o : Order) (L fuel : Nat) (t : Term) (ht : maxIndex t ≤ M) :
    (reduceChk M o L fuel t = .fuel → reduce o L fuel t = none) ∧
    (reduce o L fuel t = none → reduceChk M o L fuel t = .fuel ∨ reduceChk M o L fuel t = .panic) := by
  have := reduceChk_rel M o L fuel t ht
  constructor
  · intro h; rw [h] at this; exact this
  · intro h
    cases hx : reduceChk M o L fuel t with
    | fuel => exact Or.inl rfl
    | panic => exact Or.inr rfl
    | ret t' c => rw [hx, h] at this; cases this.1

/-- C01: a checked `reduce` panics only if the unbounded call contracts at least once, and if the unbounded call
contracts exactly once the term it leaves is not representable -/
theorem C01_checked_reduce_panic (M : Nat) (o : Order) (L fuel : Nat) (t t' : Term) (c : Nat)
    (ht : maxIndex t ≤ M) (h : reduceChk M o L fuel t = .panic) (hr : reduce o L fuel t = some (t', c)) :
    0 < c ∧ (c = 1 → M < maxIndex t') := by
  have := reduceChk_rel M o L fuel t ht
  rw [h] at this
  obtain ⟨h1, h2⟩ := this t' c hr
  exact ⟨h1, fun e => h2 (by omega)⟩

/-- C01, limit 1: with `(t', c)` the answer of the unbounded `reduce(o, 1)`, the checked `reduce(o, 1)` is that answer
if `t'` is representable and the panic otherwise -/
theorem C01_checked_reduce1_eq (M : Nat) (o : Order) (fuel : Nat) (t t' : Term) (c : Nat)
    (ht : maxIndex t ≤ M) (hr : reduce o 1 fuel t = some (t', c)) :
    reduceChk M o 1 fuel t = if maxIndex t' ≤ M then .ret t' c else .panic := by
  have hrel := reduceChk_rel M o 1 fuel t ht
  have hle : c ≤ 1 := (reduce_sound o 1 fuel t t' c hr).2.1 (by omega)
  cases hx : reduceChk M o 1 fuel t with
  | fuel => rw [hx, hr] at hrel; cases hrel
  | ret u d =>
    rw [hx, hr] at hrel
    obtain ⟨e, hm⟩ := hrel
    cases e
    simp [hm]
  | panic =>
    rw [hx] at hrel
    obtain ⟨h1, h2⟩ := hrel t' c hr
    have : ¬ maxIndex t' ≤ M := by have := h2 (by omega); omega
    simp [this]

/-- C01, limit 1: the checked traversal panics EXACTLY when the term left by the unbounded `reduce(o, 1)` is not
representable -/
theorem C01_checked_reduce1_panic_iff (M : Nat) (o : Order) (fuel : Nat) (t t' : Term) (c : Nat)
    (ht : maxIndex t ≤ M) (hr : reduce o 1 fuel t = some (t', c)) :
    reduceChk M o 1 fuel t = .panic ↔ M < maxIndex t' := by
  rw [C01_checked_reduce1_eq M o fuel t t' c ht hr]
  by_cases h : maxIndex t' ≤ M
  · simp only [h, if_true]; constructor
    · intro e; cases e
    · intro h'; omega
  · simp only [h, if_false, true_iff]; omega

/-- C01, limit 1: the checked traversal is the checked strategy step (whenever the model fuel suffices, which some fuel
always does: `C04_total`) -/
theorem C01_checked_reduce1_step (M : Nat) (o : Order) (fuel : Nat) (t : Term) (ht : maxIndex t ≤ M)
    (hf : reduce o 1 fuel t ≠ none) :
    reduceChk M o 1 fuel t =
      match stepOrdChk M o t with
      | none => .panic
      | some none => .ret t 0
      | some (some u) => .ret u 1 := by
  cases hr : reduce o 1 fuel t with
  | none => exact absurd hr hf
  | some p =>
    obtain ⟨t', c⟩ := p
    rw [C01_checked_reduce1_eq M o fuel t t' c ht hr, stepOrdChk_eq M o t ht]
    rcases C04_single_step o fuel t t' c hr with ⟨hs, rfl⟩ | ⟨hs, rfl, rfl⟩
    · rw [hs]
      by_cases hm : maxIndex t' ≤ M
      · rw [guardStep_some_le hm]; simp [hm]
      · rw [guardStep_some_gt (by omega)]; simp [hm]
    · rw [hs]; simp [guardStep, ht]

/-- C01, the driver's rule for `reduceb` against the checked TRAVERSAL: when the model's traversal returns, the driver
prints `PANIC` exactly when the checked traversal panics, and `<c> <t'>` exactly when the checked traversal returns
`(t', c)` -/
theorem C01_driver_reduceb_traversal (M : Nat) (o : Order) (fuel : Nat) (t : Term) (ht : maxIndex t ≤ M)
    (hf : reduce o 1 fuel t ≠ none) :
    (driverReduceb M o fuel t = some none ↔ reduceChk M o 1 fuel t = .panic) ∧
    (∀ t' c, driverReduceb M o fuel t = some (some (t', c)) ↔ reduceChk M o 1 fuel t = .ret t' c) := by
  cases hr : reduce o 1 fuel t with
  | none => exact absurd hr hf
  | some p =>
    obtain ⟨u, d⟩ := p
    rw [C01_checked_reduce1_eq M o fuel t u d ht hr]
    unfold driverReduceb
    rw [hr]
    by_cases hm : maxIndex u ≤ M
    · have hn : ¬ maxIndex u > M := by omega
      simp only [hm, hn, if_true, if_false]
      refine ⟨by simp, fun t' c => ?_⟩
      simp only [Option.some.injEq, Prod.mk.injEq, ChkRes.ret.injEq]
    · have hn : maxIndex u > M := by omega
      simp only [hm, hn, if_true, if_false]
      refine ⟨by simp, fun t' c => by simp⟩

/-- C01: the driver prints `fuel` only when the checked traversal does not return either -/
theorem C01_driver_reduceb_fuel (M : Nat) (o : Order) (fuel : Nat) (t : Term) (ht : maxIndex t ≤ M)
    (h : driverReduceb M o fuel t = none) : ∀ t' c, reduceChk M o 1 fuel t ≠ .ret t' c := by
  intro t' c hx
  have := (C01_checked_reduce_sound M o 1 fuel t t' c ht hx).1
  unfold driverReduceb at h
  rw [this] at h
  cases h

-- non-vacuity, `M = usize::MAX`: the F7 witness under all seven orders, limit 1 and limit 0; one index lower it returns
example : ∀ o : Order, reduceChk (2^64 - 1) o 1 10 (app (abs (abs (var 2))) (var (2^64 - 1))) = .panic ∧
    reduceChk (2^64 - 1) o 0 10 (app (abs (abs (var 2))) (var (2^64 - 1))) = .panic ∧
    reduceChk (2^64 - 1) o 1 10 (app (abs (abs (var 2))) (var (2^64 - 2))) = .ret (abs (var (2^64 - 1))) 1 := by
  intro o; cases o <;> decide +kernel

-- non-vacuity, `M = 5`: limit 1 on a term whose NOR successor is representable and whose APP successor is not
example :
    reduceChk 5 .NOR 1 10 (app (abs (var 2)) (app (abs (abs (var 2))) (var 5))) = .ret (var 1) 1 ∧
    reduceChk 5 .APP 1 10 (app (abs (var 2)) (app (abs (abs (var 2))) (var 5))) = .panic ∧
    reduce .APP 1 10 (app (abs (var 2)) (app (abs (abs (var 2))) (var 5))) = some (app (abs (var 2)) (abs (var 6)), 1) ∧
    driverReduceb 5 .APP 10 (app (abs (var 2)) (app (abs (abs (var 2))) (var 5))) = some none ∧
    reduceChk 5 .APP 1 10 (var 3) = .ret (var 3) 0 := by decide

-- a run whose final result is small but which the checked TRAVERSAL refuses (`M = 5`, unlimited call)
example :
    reduce .NOR 0 10 (app (app (abs (abs (var 2))) (var 5)) (var 1)) = some (var 5, 2) ∧
    reduceChk 5 .NOR 0 10 (app (app (abs (abs (var 2))) (var 5)) (var 1)) = .panic ∧
    reduceChk 6 .NOR 0 10 (app (app (abs (abs (var 2))) (var 5)) (var 1)) = .ret (var 5) 2 := by decide

end LC
