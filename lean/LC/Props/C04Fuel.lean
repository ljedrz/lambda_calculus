/-
C04 — how much recursion depth (fuel) a run needs: quantitative versions of
"limited calls always return" (`C04_total`).

`fuel` in `Model/Reduce.lean` bounds the DEPTH OF THE CALL TREE of the seven traversals (what the
Rust stack bounds).  Every traversal re-enters itself after each contraction
(`self.eval(count); self.beta_nor(limit, count)`), so the depth grows with the number of
consecutive contractions at one node, not only with the nesting of the input (DESIGN §9, "Stack
exhaustion").

 * LOWER bound: on `Ω = (λx.x x)(λx.x x)` — a 9-node term that never grows — every order needs fuel
   `L + k` (k = 1 for NOR, CBN, CBV; k = 3 for HSP, HNO, APP, HAP: the fuel the visits of operator and operand `λx.x x`
   take, 3 where the abstraction is entered, 1 where it is not, `FB.omK_eq`) under a limit `L ≠ 0`, exactly.
 * UPPER bound, every term and order: a run of `c` contractions whose iterates `t₀, …, t_c` all
   have height ≤ `H` returns with fuel `c + H + 1` (`C04_fuel_upper`, from `betaOrd_run`): a traversal absorbs one
   strategy step in front of it for one unit of fuel (`betaOrd_absorb`), and a strategy-normal term of height `H` is
   returned with fuel `H + 1` (`betaOrd_nf`).
 * Normal forms (`c = 0`): fuel `height t + 1` suffices — the pure "deep input" case; it is needed by the four orders that
   visit the whole term, given here as `NF o = isNormal` (`RL.full_of_NF`: that is `Order.full`).
-/
import LC.Proofs.FuelBounds
import LC.Proofs.FuelBoundsUpperAll
import LC.Proofs.FuelBoundsNormal
import LC.Props.C04

namespace LC
open Term Spec

example : FB.Om = app (abs (app (var 1) (var 1))) (abs (app (var 1) (var 1))) := rfl

theorem C04_fuel_omega_step (o : Order) : stepOrd o FB.Om = some FB.Om := by
  cases o <;> decide

/-- C04 (fuel), exact form: under a limit `L ≠ 0` the call on `Ω` is, as a function of the fuel,
"out of fuel" below `L + k` and `(Ω, L)` from `L + k` on (`k = FB.omK o`: 1 for NOR, CBN, CBV and
3 for HSP, HNO, APP, HAP) -/
theorem C04_fuel_omega_eq (o : Order) (L fuel : Nat) (hL : L ≠ 0) :
    reduce o L fuel FB.Om = if L + FB.omK o ≤ fuel then some (FB.Om, L) else none := by
  have := FB.ord_Om o L fuel 0 (by omega)
  simpa [reduce] using this

/-- C04 (fuel), the minimal fuel on `Ω`: the call returns `(Ω, L)` iff `fuel ≥ L + k` -/
theorem C04_fuel_omega_exact (o : Order) (L fuel : Nat) (hL : L ≠ 0) :
    reduce o L fuel FB.Om = some (FB.Om, L) ↔ L + FB.omK o ≤ fuel := by
  rw [C04_fuel_omega_eq o L fuel hL]
  by_cases h : L + FB.omK o ≤ fuel <;> simp [h]

/-- C04 (fuel), the minimal fuel on `Ω`: the call returns at all iff `fuel ≥ L + k` -/
theorem C04_fuel_omega_returns_iff (o : Order) (L fuel : Nat) (hL : L ≠ 0) :
    (∃ r, reduce o L fuel FB.Om = some r) ↔ L + FB.omK o ≤ fuel := by
  rw [C04_fuel_omega_eq o L fuel hL]
  by_cases h : L + FB.omK o ≤ fuel <;> simp [h]

/-- C04 (fuel), LOWER bound (the §9 phenomenon in the model): for every order, every limit
`L ≠ 0` and every fuel, a call on `Ω` that returns had more fuel than the limit — the needed call
depth grows linearly with the number of contractions although the term never grows -/
theorem C04_fuel_omega_lower (o : Order) (L fuel : Nat) (hL : L ≠ 0) (r : Term × Nat)
    (h : reduce o L fuel FB.Om = some r) : fuel > L := by
  have h1 := (C04_fuel_omega_returns_iff o L fuel hL).1 ⟨r, h⟩
  have h2 := FB.omK_pos o
  omega

/-- and what it returns is `Ω` itself with the full count -/
theorem C04_fuel_omega_result (o : Order) (L fuel : Nat) (hL : L ≠ 0) (r : Term × Nat)
    (h : reduce o L fuel FB.Om = some r) : r = (FB.Om, L) := by
  rw [C04_fuel_omega_eq o L fuel hL] at h
  by_cases hle : L + FB.omK o ≤ fuel
  · rw [if_pos hle] at h; exact (Option.some.inj h).symm
  · rw [if_neg hle] at h; cases h

example : (FB.omK .NOR, FB.omK .CBN, FB.omK .CBV, FB.omK .HSP, FB.omK .HNO, FB.omK .APP, FB.omK .HAP)
    = (1, 1, 1, 3, 3, 3, 3) := rfl

/-- non-vacuity: limit 5 on `Ω` — NOR returns with fuel 6 and not with 5; HAP needs 8 -/
example : reduce .NOR 5 6 FB.Om = some (FB.Om, 5) ∧ reduce .NOR 5 5 FB.Om = none ∧
    reduce .HAP 5 8 FB.Om = some (FB.Om, 5) ∧ reduce .HAP 5 7 FB.Om = none := by decide

def fuelBound (c H : Nat) : Nat := c + H + 1

/-- C04 (fuel), UPPER bound for every order, limit (0 included) and term: if the call returns
`(t', c)` for SOME fuel and the iterates `t = t₀, t₁, …, t_c` of the strategy all have height ≤ `H`,
then the explicit fuel `c + H + 1` suffices -/
theorem C04_fuel_upper (o : Order) (L fuel : Nat) (t t' : Term) (c H : Nat)
    (h : reduce o L fuel t = some (t', c))
    (hH : ∀ j ≤ c, ∀ u, Iter (stepOrd o) j t u → height u ≤ H) :
    reduce o L (fuelBound c H) t = some (t', c) :=
  reduce_fuel o L fuel t t' c h H (.of_forall hH) _ (Nat.le_refl _)

theorem C04_fuel_upper_ge (o : Order) (L fuel : Nat) (t t' : Term) (c H : Nat)
    (h : reduce o L fuel t = some (t', c))
    (hH : ∀ j ≤ c, ∀ u, Iter (stepOrd o) j t u → height u ≤ H)
    (g : Nat) (hg : fuelBound c H ≤ g) : reduce o L g t = some (t', c) :=
  reduce_fuel o L fuel t t' c h H (.of_forall hH) g hg

/-- C04 (fuel), UPPER bound stated from the strategy alone (no run of the model assumed): whenever
the strategy has a run of `c` steps from `t` to `t'` that the limit allows and that ends at the
limit or in a strategy-normal form (the hypotheses of `reduce_complete`, i.e. exactly the runs
`reduce` performs), and the iterates have height ≤ `H`, then `reduce` returns `(t', c)` with
fuel `c + H + 1` -/
theorem C04_fuel_upper_iter (o : Order) (L : Nat) (t t' : Term) (c H : Nat)
    (it : Iter (stepOrd o) c t t') (h0 : L = 0 → stepOrd o t' = none)
    (hL : L ≠ 0 → c ≤ L ∧ (c < L → stepOrd o t' = none))
    (hH : ∀ j ≤ c, ∀ u, Iter (stepOrd o) j t u → height u ≤ H) :
    reduce o L (fuelBound c H) t = some (t', c) := by
  obtain ⟨fuel, h⟩ := reduce_complete o L c t t' it h0 hL
  exact C04_fuel_upper o L fuel t t' c H h hH

/-- C04 (fuel), quantitative `C04_total`: with a limit `L ≠ 0`, if the first `L` iterates of the
strategy (as far as they exist) have height ≤ `H`, the call returns with fuel `L + H + 1` -/
theorem C04_fuel_total (o : Order) (L : Nat) (hL : L ≠ 0) (t : Term) (H : Nat)
    (hH : ∀ j ≤ L, ∀ u, Iter (stepOrd o) j t u → height u ≤ H) :
    ∃ r, reduce o L (fuelBound L H) t = some r := by
  obtain ⟨k, t', hb⟩ := bounded_run_exists (stepOrd o) L t
  obtain ⟨fuel, h⟩ := RL.reduce_of_brun hL hb
  exact ⟨_, reduce_fuel o L fuel t t' k h H (Iter.All.mono (.of_forall hH) hb.2.1) _
    (by have := hb.2.1; simp only [fuelBound]; omega)⟩

/-- C04 (fuel), normal forms (`c = 0`, the pure "deep input" case): on a term the strategy does
not contract, fuel `height t + 1` suffices, for every order and limit -/
theorem C04_fuel_normal (o : Order) (L : Nat) (t : Term) (hn : stepOrd o t = none) :
    reduce o L (height t + 1) t = some (t, 0) :=
  betaOrd_nf hn (Nat.lt_succ_self _) L 0

/-- non-vacuity of `C04_fuel_upper`: `(λ.1 1)((λ.1)(λ.1))` under APP: 3 contractions, all iterates
of height ≤ 3, so fuel 7 suffices; the hypotheses hold -/
example : reduce .APP 0 20 (app (abs (app (var 1) (var 1))) (app (abs (var 1)) (abs (var 1))))
      = some (abs (var 1), 3) ∧
    (∀ j ≤ 3, ∀ u, Iter (stepOrd .APP) j
      (app (abs (app (var 1) (var 1))) (app (abs (var 1)) (abs (var 1)))) u → height u ≤ 3) ∧
    reduce .APP 0 (fuelBound 3 3) (app (abs (app (var 1) (var 1))) (app (abs (var 1)) (abs (var 1))))
      = some (abs (var 1), 3) :=
  ⟨by decide, heightsOK_sound (by decide), by decide⟩

/-- non-vacuity of `C04_fuel_total`: `Ω` has height 3 and stays `Ω`; limit 5 returns with fuel 9
(the exact minimum is 6 for NOR and 8 for HAP, above) -/
example : ∃ r, reduce .HAP 5 (fuelBound 5 3) FB.Om = some r :=
  C04_fuel_total .HAP 5 (by decide) FB.Om 3 (heightsOK_sound (by decide))

/-- non-vacuity of `C04_fuel_normal`, and the constant is exact: the normal form `λ.1 (1 1)` of
height 3 returns with fuel 4 and not with fuel 3 -/
example : stepOrd .NOR (abs (app (var 1) (app (var 1) (var 1)))) = none ∧
    height (abs (app (var 1) (app (var 1) (var 1)))) = 3 ∧
    reduce .NOR 0 4 (abs (app (var 1) (app (var 1) (var 1))))
      = some (abs (app (var 1) (app (var 1) (var 1))), 0) ∧
    reduce .NOR 0 3 (abs (app (var 1) (app (var 1) (var 1)))) = none := by decide

/-- C04 (fuel), normal forms, exact: for the four orders that traverse the whole term (NOR, HNO,
APP, HAP — those whose documented normal form is the β-normal form) and a β-normal `t`, the call
returns iff `fuel ≥ height t + 1`, whatever the limit -/
theorem C04_fuel_normal_exact (o : Order) (ho : NF o = isNormal) (L fuel : Nat) (t : Term)
    (hn : isNormal t = true) :
    reduce o L fuel t = some (t, 0) ↔ height t + 1 ≤ fuel := by
  have hs : stepOrd o t = none := (RL.stepOrd_none_iff o t).2 (by rw [ho]; exact hn)
  exact ⟨reduce_nf_needs (RL.full_of_NF ho) hs,
    fun hle => C04_fuel_mono o L _ fuel t _ (C04_fuel_normal o L t hs) hle⟩

/-- … and a call that returns at all had that much fuel -/
theorem C04_fuel_normal_lower (o : Order) (ho : NF o = isNormal) (L fuel : Nat) (t : Term)
    (r : Term × Nat) (hn : isNormal t = true) (h : reduce o L fuel t = some r) :
    height t + 1 ≤ fuel :=
  reduce_nf_needs (RL.full_of_NF ho) ((RL.stepOrd_none_iff o t).2 (by rw [ho]; exact hn)) h

example : NF .HAP = isNormal ∧ isNormal (abs (app (var 1) (abs (app (var 2) (var 1))))) = true ∧
    height (abs (app (var 1) (abs (app (var 2) (var 1))))) = 4 ∧
    reduce .HAP 7 5 (abs (app (var 1) (abs (app (var 2) (var 1)))))
      = some (abs (app (var 1) (abs (app (var 2) (var 1)))), 0) ∧
    reduce .HAP 7 4 (abs (app (var 1) (abs (app (var 2) (var 1))))) = none := by
  refine ⟨rfl, ?_, ?_, ?_, ?_⟩ <;> decide

/-- the bound `c + H + 1` of `C04_fuel_upper` is attained with contractions too:
`(λ.1 1)(λλ.2) → (λλ.2)(λλ.2) → λλλ.2` under NOR has c = 2, all iterates of height 3, and returns
with fuel 6 = 2 + 3 + 1 but not with fuel 5 -/
example : reduce .NOR 0 6 (app (abs (app (var 1) (var 1))) (abs (abs (var 2))))
      = some (abs (abs (abs (var 2))), 2) ∧
    reduce .NOR 0 5 (app (abs (app (var 1) (var 1))) (abs (abs (var 2)))) = none ∧
    (∀ j ≤ 2, ∀ u, Iter (stepOrd .NOR) j (app (abs (app (var 1) (var 1))) (abs (abs (var 2)))) u →
      height u ≤ 3) ∧ fuelBound 2 3 = 6 :=
  ⟨by decide, by decide, heightsOK_sound (by decide), rfl⟩

end LC
