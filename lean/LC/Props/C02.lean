/-
C02 — Term::apply is capture-avoiding substitution (and refuses non-abstractions)

"For every abstraction and every argument term, apply leaves exactly the abstraction body
with the argument substituted for the bound variable: the argument's free variables still
refer to the same outer binders at every occurrence, other outer references of the body are
renumbered to account for the removed binder, and the argument itself is not modified. On a
term that is not an abstraction it returns Err(NotAbs) and leaves the term untouched."

The model `Term.apply` mirrors `apply`/`_apply`/`update_free_variables` (one pass, shift at
the leaf).  The specification `Spec.substTop` is the textbook composite
`lower ∘ subst 1 (lift a)` (shift when passing each binder).  Their equality for all
bodies and arguments is the content; the occurrence-wise theorems spell out the English
clauses position by position.
-/
import LC.Proofs.Positions
import LC.Proofs.SubstTop

namespace LC
open Term Spec

/-- C02, success path: `(λb).apply(a)` leaves exactly `b[a]` -/
theorem C02_apply_abs (b a : Term) : Term.apply (abs b) a = .ok (substTop b a) := by
  simp only [Term.apply]; rw [← contract_eq_substTop]; rfl

/-- C02, error path: anything that is not an abstraction is refused with `NotAbs` -/
theorem C02_apply_err (t a : Term) (h : ∀ b, t ≠ abs b) : Term.apply t a = .error .NotAbs := by
  cases t with
  | var i => rfl
  | abs b => exact absurd rfl (h b)
  | app l r => rfl

/-- C02, error path, the receiver: the Rust method works on `&mut self`; `applyMut` models the receiver after the call.
On a non-abstraction the call returns `Err(NotAbs)` AND leaves the term untouched (nothing is written before the
`unabs_ref()?` test).  The correspondence run checks the same on the real crate (`err NotAbs` vs `err NotAbs CHANGED …`). -/
theorem C02_apply_err_unchanged (t a : Term) (h : ∀ b, t ≠ abs b) :
    Term.applyMut t a = (t, .error .NotAbs) := by
  cases t with
  | var i => rfl
  | abs b => exact absurd rfl (h b)
  | app l r => rfl

/-- `applyMut` and `apply` are the same function seen through `&mut self` and through its result -/
theorem C02_applyMut_apply (t a : Term) :
    (∀ t', Term.apply t a = .ok t' ↔ Term.applyMut t a = (t', .ok ())) ∧
    (∀ e, Term.apply t a = .error e ↔ Term.applyMut t a = (t, .error e)) := by
  cases t <;> simp [Term.apply, Term.applyMut]

/-- C02, success path through `&mut self`: the receiver becomes exactly `b[a]` -/
theorem C02_applyMut_abs (b a : Term) : Term.applyMut (abs b) a = (substTop b a, .ok ()) := by
  simp only [Term.applyMut]; rw [← contract_eq_substTop]; rfl

/-- C02, occurrence-wise reading.  For the variable occurrence `var i` at position `p` of the
body `b`, sitting under `k` binders of `b`:
* locally bound (`i ≤ k`, which includes UD `i = 0`): untouched;
* the bound variable of the removed binder (`i = k+1`): replaced by the argument with its free
  indices raised by `k` — so each of them still refers to the same outer binder;
* any other outer reference (`i > k+1`): renumbered to `i-1` for the removed binder.
(That the result has the positions of the body, with `applyAux` acting at each, is `subAtAux_map` of
`Proofs/Positions.lean`, from which this is read off.) -/
theorem C02_occurrencewise (b a : Term) (p : Pos) (i k : Nat)
    (h : subAt b p = some (var i, k)) :
    (i ≤ k → subAt (substTop b a) p = some (var i, k)) ∧
    (i = k + 1 → ∀ q, subAt (substTop b a) (p ++ q) = subAtAux k (shiftFV k 0 a) q) ∧
    (i > k + 1 → subAt (substTop b a) p = some (var (i - 1), k)) := by
  rw [← contract_eq_substTop]
  have hs : subAt (contract b a) p = some (applyAux a (k + 1) (var i), k) := by
    have := subAtAux_map (F := applyAux a) (fun _ _ => rfl) (fun _ _ _ => rfl) (d := 1) h
    rwa [Nat.sub_zero, Nat.add_comm] at this
  refine ⟨fun hle => ?_, fun he q => ?_, fun hgt => ?_⟩
  · rw [hs, applyAux, if_neg (by omega), if_neg (by omega)]
  · rw [subAt, subAtAux_append, ← subAt, hs, applyAux, if_pos he]
    rfl
  · rw [hs, applyAux, if_neg (by omega), if_pos hgt]

/-- C02: what "raised by `k`" means for the inserted copy of the argument: an occurrence
`var i` under `m` binders of the argument is free exactly when `i > m`; the copy placed under
`k` binders has `i + k` there (same outer binder), bound occurrences and UD are unchanged. -/
theorem C02_arg_free_vars (a : Term) (k : Nat) (q : Pos) (i m k0 : Nat)
    (h : subAtAux k0 a q = some (var i, k0 + m)) :
    subAtAux k0 (shiftFV k 0 a) q = some (var (if i > m then i + k else i), k0 + m) := by
  rw [subAtAux_map (F := shiftFV k) (fun _ _ => rfl) (fun _ _ _ => rfl) (d := 0) h, Nat.zero_add,
    Nat.add_sub_cancel_left, shiftFV]
  split <;> rfl

/-- UD is inert under substitution -/
theorem C02_ud_inert (a : Term) : substTop (var 0) a = var 0 := by
  simp [substTop, subst, lower]

/-! non-vacuity: the doctest of `apply` (`λλ42(λ13)` applied to `λ51`) -/
example :
    Term.apply (abs (abs (app (app (var 4) (var 2)) (abs (app (var 1) (var 3))))))
      (abs (app (var 5) (var 1)))
    = .ok (abs (app (app (var 3) (abs (app (var 6) (var 1))))
        (abs (app (var 1) (abs (app (var 7) (var 1))))))) := by rfl

end LC
