/-
C05 (continued) — positional characterisation of ALL seven orders

`Props/C05.lean` pins NOR, CBN, APP and CBV to independent positional definitions and says of HSP
only that it stays on the head spine.  Here: *which* redex HSP, HNO and HAP contract
(`isHSP`, `isHNO`, `isHAP`: `Spec/SelectionAll.lean`, relations that quantify over positions and
mention no step function), one uniform statement for all seven orders
(`Sel o`), uniqueness, "nothing selected ⇔ documented normal form", the executable selectors
`sel o : Term → Option Pos` (proved equivalent to `Sel o`; they make the examples `decide`-able),
and the relations between the orders that the crate's documentation of `Order` alludes to.

In words (crate documentation of `enum Order` in quotes):
* HSP "head spine - leftmost outermost, abstractions reduced only in head position": only redexes on
  the head spine (through abstraction bodies and operator sides, never into an argument), and of
  those the INNERMOST one.  NB: on `(λ.(λ.1) 2) 3` that is the inner redex, not the leftmost-outermost
  one (`C05_hsp_not_leftmost_outermost`); HSP's redex is NOR's exactly when the head spine carries a
  single redex (`C05_hsp_is_nor_iff`).
* HNO "hybrid normal - a mix between HSP (head spine) and NOR (normal)": the innermost redex on the
  head spine of the leftmost-outermost redex.
* HAP "hybrid applicative - a mix between CBV (call-by-value) and APP (applicative)": the first redex
  in the order `hapBefore` — in an application: the operator's redexes outside its abstractions (CBV
  order), then the operand (same rules), then the application itself, then the rest of the operator.
-/
import LC.Props.C05
import LC.Proofs.PositionsRel

namespace LC
open Term Spec

/-- all orders, executable form: `reduce o 1` contracts the redex at `sel o t`, or does nothing when
`sel o t = none` -/
theorem C05_reduce_one_sel (o : Order) (fuel : Nat) (t t' : Term) (c : Nat)
    (h : reduce o 1 fuel t = some (t', c)) :
    (c = 1 ∧ ∃ p, sel o t = some p ∧ t' = contractAt t p) ∨ (c = 0 ∧ t' = t ∧ sel o t = none) :=
  (reduce_one_Sel o fuel t t' c h).imp (fun ⟨hc, p, hp, e⟩ => ⟨hc, p, (sel_iff o t p).2 hp, e⟩) id

example : sel .HSP (app (abs (app (abs (var 1)) (var 2))) (var 3)) = some [Dir.L, Dir.B]
    ∧ reduce .HSP 1 9 (app (abs (app (abs (var 1)) (var 2))) (var 3))
      = some (app (abs (var 2)) (var 3), 1)
    ∧ contractAt (app (abs (app (abs (var 1)) (var 2))) (var 3)) [Dir.L, Dir.B]
      = app (abs (var 2)) (var 3) := by decide

/-- all orders, specification form: `reduce o 1` contracts exactly the redex at the position the
positional definition `Sel o` of the order selects; no step iff it selects nothing -/
theorem C05_all_orders (o : Order) (fuel : Nat) (t t' : Term) (c : Nat)
    (h : reduce o 1 fuel t = some (t', c)) :
    (c = 1 ∧ ∃ p, Sel o t p ∧ t' = contractAt t p) ∨ (c = 0 ∧ t' = t ∧ ∀ p, ¬ Sel o t p) :=
  (reduce_one_Sel o fuel t t' c h).imp id (fun ⟨hc, ht, hn⟩ => ⟨hc, ht, sel_none o t hn⟩)

/-- conversely, the selected redex IS contracted: with enough fuel `reduce o 1` returns `t` with the
redex at the selected position contracted -/
theorem C05_selected_is_contracted (o : Order) (t : Term) (p : Pos) (h : Sel o t p) :
    ∃ fuel, reduce o 1 fuel t = some (contractAt t p, 1) := by
  obtain ⟨fuel, ⟨t', c⟩, hr⟩ := C04_total o 1 (by decide) t
  refine ⟨fuel, ?_⟩
  rcases C05_all_orders o fuel t t' c hr with ⟨hc, q, hq, ht⟩ | ⟨_, _, hn⟩
  · rw [hr, hc, ht, Sel_unique o hq h]
  · exact absurd h (hn p)

/-- HSP: one step contracts the innermost redex of the head spine; no step iff the head spine
carries no redex -/
theorem C05_hsp_exact (fuel : Nat) (t t' : Term) (c : Nat) (h : reduce .HSP 1 fuel t = some (t', c)) :
    (c = 1 ∧ ∃ p, isHSP t p ∧ t' = contractAt t p) ∨
    (c = 0 ∧ t' = t ∧ ∀ p, redexAt t p → ¬ noArg p) :=
  (reduce_one_Sel .HSP fuel t t' c h).imp id
    (fun ⟨hc, ht, hn⟩ => ⟨hc, ht, fun p hp np => (selHsp_sound t).2 hn p np hp⟩)

/-- the redex HSP selects is a redex on the head spine (link to `C05_hsp`) … -/
theorem C05_hsp_on_spine (t : Term) (p : Pos) (h : isHSP t p) : redexAt t p ∧ noArg p :=
  ⟨h.2.1, h.1⟩

/-- … namely the one below every other redex of the head spine -/
theorem C05_hsp_innermost_on_spine (t : Term) (p : Pos) :
    isHSP t p ↔ redexAt t p ∧ noArg p ∧ ∀ q, redexAt t q → noArg q → ∃ s, p = q ++ s := by
  constructor
  · intro h; exact ⟨h.2.1, h.1, fun q hq nq => isHSP_prefix h hq nq⟩
  · rintro ⟨hp, np, h⟩
    refine ⟨np, hp, fun s hs ns hr => ?_⟩
    obtain ⟨x, hx⟩ := h (p ++ s) hr (noArg_append.2 ⟨np, ns⟩)
    exact hs (by simpa using pos_append_cycle hx rfl)

example : isHSP (app (abs (app (abs (var 1)) (var 2))) (var 3)) [Dir.L, Dir.B] :=
  (sel_iff .HSP _ _).1 (by decide)
/-- the root of that term is a head-spine redex too, but not the selected one -/
example : redexAt (app (abs (app (abs (var 1)) (var 2))) (var 3)) [] ∧ noArg [] ∧
    ¬ isHSP (app (abs (app (abs (var 1)) (var 2))) (var 3)) [] :=
  ⟨⟨_, _, 0, rfl⟩, by simp [noArg], fun h => by
    have := isHSP_unique h ((sel_iff .HSP _ [Dir.L, Dir.B]).1 (by decide)); simp at this⟩

/-- HNO: one step contracts the innermost redex on the head spine of the leftmost-outermost redex;
no step iff there is no redex -/
theorem C05_hno_exact (fuel : Nat) (t t' : Term) (c : Nat) (h : reduce .HNO 1 fuel t = some (t', c)) :
    (c = 1 ∧ ∃ p, isHNO t p ∧ t' = contractAt t p) ∨ (c = 0 ∧ t' = t ∧ ∀ p, ¬ redexAt t p) :=
  (reduce_one_Sel .HNO fuel t t' c h).imp id (fun ⟨hc, ht, hn⟩ => ⟨hc, ht, (selHno_sound t).2 hn⟩)

/-- `x ((λ.(λ.1) 2) 3)`: NOR contracts the argument's outer redex `[R]`, HNO the inner one on its
head spine `[R,L,B]` -/
example : isHNO (app (var 1) (app (abs (app (abs (var 1)) (var 2))) (var 3))) [Dir.R, Dir.L, Dir.B]
    ∧ isLMO (app (var 1) (app (abs (app (abs (var 1)) (var 2))) (var 3))) [Dir.R] :=
  ⟨(sel_iff .HNO _ _).1 (by decide), (sel_iff .NOR _ _).1 (by decide)⟩
example : reduce .HNO 1 9 (app (var 1) (app (abs (app (abs (var 1)) (var 2))) (var 3)))
      = some (app (var 1) (app (abs (var 2)) (var 3)), 1)
    ∧ reduce .NOR 1 9 (app (var 1) (app (abs (app (abs (var 1)) (var 2))) (var 3)))
      = some (app (var 1) (app (abs (var 1)) (var 1)), 1) := by decide

/-- HAP: one step contracts the first redex in the order `hapBefore`; no step iff there is no redex -/
theorem C05_hap_exact (fuel : Nat) (t t' : Term) (c : Nat) (h : reduce .HAP 1 fuel t = some (t', c)) :
    (c = 1 ∧ ∃ p, isHAP t p ∧ t' = contractAt t p) ∨ (c = 0 ∧ t' = t ∧ ∀ p, ¬ redexAt t p) :=
  (reduce_one_Sel .HAP fuel t t' c h).imp id (fun ⟨hc, ht, hn⟩ => ⟨hc, ht, (selHap_sound t).2 hn⟩)

/-- `(λ.(λ.1) 1) (λ.(λ.1) 1)`: CBV (and NOR) contract the root, APP the redex in the operator's body,
HAP the redex in the operand's body — three different redexes -/
example : isHAP (app (abs (app (abs (var 1)) (var 1))) (abs (app (abs (var 1)) (var 1)))) [Dir.R, Dir.B]
    ∧ isLMIW (app (abs (app (abs (var 1)) (var 1))) (abs (app (abs (var 1)) (var 1)))) []
    ∧ isLMI (app (abs (app (abs (var 1)) (var 1))) (abs (app (abs (var 1)) (var 1)))) [Dir.L, Dir.B] :=
  ⟨(sel_iff .HAP _ _).1 (by decide), (sel_iff .CBV _ _).1 (by decide), (sel_iff .APP _ _).1 (by decide)⟩
example : reduce .HAP 1 9 (app (abs (app (abs (var 1)) (var 1))) (abs (app (abs (var 1)) (var 1))))
    = some (app (abs (app (abs (var 1)) (var 1))) (abs (var 1)), 1) := by decide
/-- the order itself: the operand's redex before the root, the root before the operator's body -/
example : hapBefore [Dir.R, Dir.B] [] ∧ hapBefore [] [Dir.L, Dir.B] ∧ ¬ hapBefore [] [Dir.R, Dir.B] :=
  ⟨hapBefore.R_root, hapBefore.root_lateL (by simp [weak]), hapBefore_asymm hapBefore.R_root⟩

theorem C05_sel_unique (o : Order) (t : Term) (p q : Pos) (hp : Sel o t p) (hq : Sel o t q) : p = q :=
  Sel_unique o hp hq

/-- the selections of HSP, HNO and HAP spelled out, as in `C05_selection_unique` -/
theorem C05_selection_unique_more (t : Term) (p q : Pos) :
    (isHSP t p → isHSP t q → p = q) ∧ (isHNO t p → isHNO t q → p = q) ∧
    (isHAP t p → isHAP t q → p = q) :=
  ⟨isHSP_unique, isHNO_unique, isHAP_unique⟩

theorem C05_sel_computable (o : Order) (t : Term) (p : Pos) : sel o t = some p ↔ Sel o t p :=
  sel_iff o t p

theorem C05_step_is_selected (o : Order) (t : Term) : stepOrd o t = (sel o t).map (contractAt t) :=
  stepOrd_eq_sel o t

theorem C05_sel_none_iff_nf (o : Order) (t : Term) : (∀ p, ¬ Sel o t p) ↔ NF o t = true := by
  rw [← sel_none_iff, ← RL.stepOrd_none_iff, stepOrd_none_iff_sel]

theorem C05_sel_fn_none_iff_nf (o : Order) (t : Term) : sel o t = none ↔ NF o t = true := by
  rw [sel_none_iff]; exact C05_sel_none_iff_nf o t

example : Sel .HSP (app (abs (var 1)) (var 2)) [] ∧ NF .HSP (app (abs (var 1)) (var 2)) = false :=
  ⟨(sel_iff .HSP _ _).1 (by decide), by decide⟩
/-- `λ. 1 ((λ.1) 2)` is a head normal form (HSP selects nothing) but not a normal form (HNO does) -/
example : (∀ p, ¬ Sel .HSP (abs (app (var 1) (app (abs (var 1)) (var 2)))) p)
    ∧ Sel .HNO (abs (app (var 1) (app (abs (var 1)) (var 2)))) [Dir.B, Dir.R] :=
  ⟨(C05_sel_none_iff_nf .HSP _).2 (by decide), (sel_iff .HNO _ _).1 (by decide)⟩

/-- every step of a longer run contracts the redex selected in the term reached so far -/
theorem C05_every_step_selected (o : Order) (L fuel : Nat) (t t' : Term) (c : Nat)
    (h : reduce o L fuel t = some (t', c)) :
    Iter (fun u => (sel o u).map (contractAt u)) c t t' := by
  have e : stepOrd o = fun u => (sel o u).map (contractAt u) := funext (stepOrd_eq_sel o)
  rw [← e]; exact C04_is_iter o L fuel t t' c h

example : reduce .HNO 0 9 (app (var 1) (app (abs (app (abs (var 1)) (var 2))) (var 3)))
    = some (app (var 1) (var 1), 2) := by decide

/-- CBV: the selected redex is also the first of the redexes outside abstractions in the order
"inner before outer, left before right" -/
theorem C05_cbv_first_in_order (t : Term) (p : Pos) (h : isLMIW t p) :
    weak p ∧ ∀ q, redexAt t q → weak q → q = p ∨ cbvBefore p q :=
  (isLMIW_first h).2

/-- if an order's selection is always also another order's selection on `t`, a step of the first
is a step of the second on `t` -/
theorem C05_step_transfer (o₁ o₂ : Order) (t : Term) (hsub : ∀ p, Sel o₁ t p → Sel o₂ t p)
    (f₁ f₂ : Nat) (t₁ t₂ : Term) (c₂ : Nat) (h₁ : reduce o₁ 1 f₁ t = some (t₁, 1))
    (h₂ : reduce o₂ 1 f₂ t = some (t₂, c₂)) : t₂ = t₁ ∧ c₂ = 1 := by
  rcases C05_all_orders o₁ f₁ t t₁ 1 h₁ with ⟨_, p, hp, ht⟩ | ⟨hc, _, _⟩
  · rcases C05_all_orders o₂ f₂ t t₂ c₂ h₂ with ⟨hc, q, hq, ht'⟩ | ⟨_, _, hn⟩
    · rw [ht, ht', Sel_unique o₂ hq (hsub p hp)]; exact ⟨rfl, hc⟩
    · exact absurd (hsub p hp) (hn p)
  · cases hc

/-- the redex CBN selects is the one NOR selects, whenever CBN selects one … -/
theorem C05_cbn_is_nor (t : Term) (p : Pos) (h : Sel .CBN t p) : Sel .NOR t p := h.1

/-- … so whenever CBN performs a step, NOR performs the same step -/
theorem C05_cbn_step_is_nor_step (f₁ f₂ : Nat) (t t₁ t₂ : Term) (c₂ : Nat)
    (h₁ : reduce .CBN 1 f₁ t = some (t₁, 1)) (h₂ : reduce .NOR 1 f₂ t = some (t₂, c₂)) :
    t₂ = t₁ ∧ c₂ = 1 :=
  C05_step_transfer .CBN .NOR t (C05_cbn_is_nor t) f₁ f₂ t₁ t₂ c₂ h₁ h₂

example : reduce .CBN 1 9 (app (abs (app (abs (var 1)) (var 2))) (var 3))
      = some (app (abs (var 1)) (var 1), 1)
    ∧ reduce .NOR 1 9 (app (abs (app (abs (var 1)) (var 2))) (var 3))
      = some (app (abs (var 1)) (var 1), 1) := by decide

/-- HSP's redex lies on the head spine of NOR's redex, which is then on the head spine itself -/
theorem C05_hsp_below_nor (t : Term) (p : Pos) (h : isHSP t p) :
    ∃ q s, isLMO t q ∧ noArg q ∧ p = q ++ s ∧ noArg s := by
  obtain ⟨q, s, hq, rfl⟩ := spine_redex_lmo t p h.2.1 h.1
  exact ⟨q, s, hq, (noArg_append.1 h.1).1, rfl, (noArg_append.1 h.1).2⟩

/-- HSP's redex is NOR's exactly when it is the only redex on the head spine -/
theorem C05_hsp_is_nor_iff (t : Term) (p : Pos) (h : isHSP t p) :
    isLMO t p ↔ ∀ q, redexAt t q → noArg q → q = p := by
  constructor
  · intro hl q hq nq
    obtain ⟨s, hs⟩ := isHSP_prefix h hq nq
    rcases hl.2 q hq with e | (⟨s', hs', e⟩ | hlo)
    · exact e
    · have := pos_append_cycle hs e
      exact this.symm
    · exact absurd hlo (not_leftOf_of_prefix_left hs)
  · intro hu
    obtain ⟨q, s, hq, nq, e, _⟩ := C05_hsp_below_nor _ _ h
    have := hu q hq.1 nq
    subst this
    exact hq

/-- in general it is not: HSP is NOT leftmost-outermost; on `(λ.(λ.1) 2) 3` HSP contracts the inner
redex `(λ.1) 2` (position `[L,B]`) while NOR and CBN contract the whole term -/
theorem C05_hsp_not_leftmost_outermost :
    ∃ t p q, isHSP t p ∧ isLMO t q ∧ spineL q ∧ p ≠ q :=
  ⟨app (abs (app (abs (var 1)) (var 2))) (var 3), [Dir.L, Dir.B], [],
    (sel_iff .HSP _ _).1 (by decide), ((sel_iff .CBN _ _).1 (by decide)).1, by simp [spineL], by simp⟩

/-- whenever CBN selects a redex, HSP selects one at or below it on its head spine -/
theorem C05_cbn_above_hsp (t : Term) (p : Pos) (h : Sel .CBN t p) :
    ∃ q s, isHSP t q ∧ q = p ++ s ∧ noArg s := by
  obtain ⟨hp, hs⟩ := h
  have np := spineL_noArg hs
  cases hsel : selHsp t with
  | none => exact absurd hp.1 ((selHsp_sound t).2 hsel p np)
  | some q =>
    have hq := (selHsp_sound t).1 q hsel
    obtain ⟨s, rfl⟩ := isHSP_prefix hq hp.1 np
    exact ⟨_, s, hq, rfl, (noArg_append.1 hq.1).2⟩

/-- the redex HSP selects is the one HNO selects, whenever HSP selects one … -/
theorem C05_hsp_is_hno (t : Term) (p : Pos) (h : Sel .HSP t p) : Sel .HNO t p := isHSP_isHNO h

/-- … so whenever HSP performs a step, HNO performs the same step ("head-spine first") … -/
theorem C05_hsp_step_is_hno_step (f₁ f₂ : Nat) (t t₁ t₂ : Term) (c₂ : Nat)
    (h₁ : reduce .HSP 1 f₁ t = some (t₁, 1)) (h₂ : reduce .HNO 1 f₂ t = some (t₂, c₂)) :
    t₂ = t₁ ∧ c₂ = 1 :=
  C05_step_transfer .HSP .HNO t (C05_hsp_is_hno t) f₁ f₂ t₁ t₂ c₂ h₁ h₂

example : reduce .HSP 1 9 (app (abs (app (abs (var 1)) (var 2))) (var 3))
      = some (app (abs (var 2)) (var 3), 1)
    ∧ reduce .HNO 1 9 (app (abs (app (abs (var 1)) (var 2))) (var 3))
      = some (app (abs (var 2)) (var 3), 1) := by decide

/-- … and as long as the head spine carries a redex, HNO's redex is HSP's -/
theorem C05_hno_is_hsp_on_spine (t : Term) (p q : Pos) (h : isHNO t p) (hq : redexAt t q)
    (nq : noArg q) : isHSP t p := by
  obtain ⟨hs, q0, s, hq0, rfl, ns⟩ := h
  exact ⟨noArg_append.2 ⟨(isLMO_noArg_of_spine_redex hq0 hq nq).1, ns⟩, hs⟩

/-- HNO's redex lies on the head spine of NOR's redex and is the innermost redex there -/
theorem C05_hno_on_nor_spine (t : Term) (p : Pos) (h : isHNO t p) :
    ∃ q s, isLMO t q ∧ p = q ++ s ∧ noArg s ∧ ∀ s', s' ≠ [] → noArg s' → ¬ redexAt t (p ++ s') := by
  obtain ⟨hs, q, s, hq, e, ns⟩ := h
  exact ⟨q, s, hq, e, ns, hs.2⟩

/-- HNO's redex is NOR's exactly when NOR's redex has no further redex on its own head spine -/
theorem C05_hno_is_nor_iff (t : Term) (p q : Pos) (hp : isHNO t p) (hq : isLMO t q) :
    p = q ↔ spineInnermost t q := by
  constructor
  · rintro rfl; exact hp.1
  · intro hs
    exact isHNO_unique hp ⟨hs, q, [], hq, by simp, noArg_nil⟩

/-- `x ((λ.1) 2)`: NOR's redex `[R]` has nothing on its head spine, HNO contracts it too -/
example : sel .HNO (app (var 1) (app (abs (var 1)) (var 2))) = some [Dir.R]
    ∧ sel .NOR (app (var 1) (app (abs (var 1)) (var 2))) = some [Dir.R]
    ∧ sel .HSP (app (var 1) (app (abs (var 1)) (var 2))) = none := by decide

theorem C05_app_weak_is_cbv (t : Term) (p : Pos) (h : isLMI t p) (hw : weak p) : isLMIW t p :=
  isLMIW_of_first ⟨(isLMI_first h).1, hw, fun q hq _ => (isLMI_first h).2 q hq⟩

theorem C05_hap_weak_is_cbv (t : Term) (p : Pos) (h : isHAP t p) (hw : weak p) : isLMIW t p :=
  isLMIW_of_first ⟨h.1, hw, fun q hq wq => (h.2 q hq).imp id (cbvBefore_of_hapBefore · hw wq)⟩

theorem C05_app_weak_is_hap (t : Term) (p : Pos) (h : isLMI t p) (hw : weak p) : isHAP t p :=
  ⟨(isLMI_first h).1, fun q hq => ((isLMI_first h).2 q hq).imp id (hapBefore_of_cbvBefore hw)⟩

/-- on a term without redexes inside abstractions APP, CBV and HAP select the same redex -/
theorem C05_eager_agree_all_weak (t : Term) (hall : ∀ q, redexAt t q → weak q) (p : Pos) :
    (isLMI t p ↔ isLMIW t p) ∧ (isHAP t p ↔ isLMIW t p) :=
  ⟨⟨fun h => C05_app_weak_is_cbv t p h (hall p h.1.1),
    fun h => isLMI_of_first ⟨h.1.1, fun q hq => (isLMIW_first h).2.2 q hq (hall q hq)⟩⟩,
   ⟨fun h => C05_hap_weak_is_cbv t p h (hall p h.1),
    fun h => ⟨h.1.1, fun q hq =>
      ((isLMIW_first h).2.2 q hq (hall q hq)).imp id (hapBefore_of_cbvBefore h.1.2.1)⟩⟩⟩

/-- `(λ.1) ((λ.1) 2)` has no redex inside an abstraction: APP, CBV and HAP all select `[R]` -/
example : sel .APP (app (abs (var 1)) (app (abs (var 1)) (var 2))) = some [Dir.R]
    ∧ sel .CBV (app (abs (var 1)) (app (abs (var 1)) (var 2))) = some [Dir.R]
    ∧ sel .HAP (app (abs (var 1)) (app (abs (var 1)) (var 2))) = some [Dir.R] := by decide

/-- `x (λ.(λ.1) 1) ((λ.1) 2)`: APP's redex `[L,R,B]` is inside an abstraction, CBV and HAP agree on
`[R]`; the converse of `C05_app_weak_is_cbv` fails (CBV's redex is not APP's) -/
example : isLMI (app (app (var 1) (abs (app (abs (var 1)) (var 1)))) (app (abs (var 1)) (var 2)))
      [Dir.L, Dir.R, Dir.B]
    ∧ isLMIW (app (app (var 1) (abs (app (abs (var 1)) (var 1)))) (app (abs (var 1)) (var 2))) [Dir.R]
    ∧ isHAP (app (app (var 1) (abs (app (abs (var 1)) (var 1)))) (app (abs (var 1)) (var 2))) [Dir.R] :=
  ⟨(sel_iff .APP _ _).1 (by decide), (sel_iff .CBV _ _).1 (by decide), (sel_iff .HAP _ _).1 (by decide)⟩
/-- `x (λ.(λ.1) 1) (λ.(λ.1) 1)`: once no redex is left outside the abstractions, HAP works on the
LAST argument of a head variable first (`[R,B]`), APP and NOR on the first one (`[L,R,B]`) -/
example : sel .HAP (app (app (var 1) (abs (app (abs (var 1)) (var 1)))) (abs (app (abs (var 1)) (var 1))))
      = some [Dir.R, Dir.B]
    ∧ sel .APP (app (app (var 1) (abs (app (abs (var 1)) (var 1)))) (abs (app (abs (var 1)) (var 1))))
      = some [Dir.L, Dir.R, Dir.B]
    ∧ reduce .HAP 1 9 (app (app (var 1) (abs (app (abs (var 1)) (var 1)))) (abs (app (abs (var 1)) (var 1))))
      = some (app (app (var 1) (abs (app (abs (var 1)) (var 1)))) (abs (var 1)), 1) := by decide
example : isLMI (app (abs (var 1)) (app (abs (var 1)) (var 2))) [Dir.R] ∧ weak [Dir.R] :=
  ⟨(sel_iff .APP _ _).1 (by decide), by simp [weak]⟩

end LC
