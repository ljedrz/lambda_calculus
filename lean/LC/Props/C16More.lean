/-
C16 — List operations agree with sequence semantics in all four list encodings (companion file: open payloads; HAP for arbitrary admissible elements).

OPEN payloads.  The Rust `Vec` conversions (`pairList`, `churchList`, `scottList`, `parigotList`) place the elements
    under the binders of the list WITHOUT shifting them, `cons` is capture-avoiding.  Hence the laws of C16Base.lean hold
    for ARBITRARY open terms once the elements are placed under the binders (`C16_*_open`), the Church `tail (cons a l) ↠ l`
    when the elements do not contain the two captured indices free, for β-normal elements only then
    (`C16_tail_cons_church_open`, `C16_tail_cons_church_open_iff`), the observers
    on the RAW conversions under weaker hypotheses than stated there (`C16_*_any`), and the unshifted statements are false
    for open elements (`C16_conv_is_cons_needs_closed`).
HAP, for lists of any length of ARBITRARY admissible elements (`HapValue`: closed HAP values, e.g. numerals of any of
    the five numeral encodings) in all four list encodings, and the first-order pair-list library on such lists
    (C16.lean: lists of numerals only).
The operations are the GENERATED constants `Gen.PList/CList/SList/GList.*`, mentioned by name only.
-/
import LC.Props.C16Base
import LC.Proofs.List.More
import LC.Proofs.List.OpenLibA
import LC.Proofs.List.OpenLibB
import LC.Proofs.List.MoreHap
import LC.Proofs.List.MoreHapLib

namespace LC
open Term Spec Enc C16 ListMore

/-! ## open payloads -/

/-! ### Church (fold) list: `tail (cons a l) ↠ l` without closedness -/

/-- `tail (cons a l) ↠ l` for an ARBITRARY term `a` (open or closed) and the conversion `l` of a list of ARBITRARY terms
in which the indices 1 and 2 — the ones the conversion (`into_church` of `Vec<Term>`, src/data/list/convert.rs) captures —
do not occur free.  (`C16_tail_cons_church` of C16Base.lean is the special case `a` closed, all elements closed.) -/
theorem C16_tail_cons_church_open (a : Term) (ts : List Term) (h : ∀ t ∈ ts, ¬ FreeIn 1 t ∧ ¬ FreeIn 2 t) :
    app Gen.CList.tail (app2 Gen.CList.cons a (churchList ts)) ↠ churchList ts :=
  tail_cons_church_open a ts h

example : app Gen.CList.tail (app2 Gen.CList.cons (app (var 1) (var 2))
      (churchList [var 3, abs (app (var 1) (var 6)), intoChurch 2])) ↠
    churchList [var 3, abs (app (var 1) (var 6)), intoChurch 2] :=
  C16_tail_cons_church_open _ _ (by decide)

/-- the same law with the hypothesis built in: the list of ARBITRARY terms `us`, each placed under the two binders of
the list (`shiftFV 2 0`), ARBITRARY `a` -/
theorem C16_tail_cons_church_open_shifted (a : Term) (us : List Term) :
    app Gen.CList.tail (app2 Gen.CList.cons a (churchList (us.map (shiftFV 2 0)))) ↠
      churchList (us.map (shiftFV 2 0)) :=
  tail_cons_openChurchList a us

example : app Gen.CList.tail (app2 Gen.CList.cons (var 1) (churchList ([var 1, var 2].map (shiftFV 2 0)))) ↠
    churchList [var 3, var 4] := C16_tail_cons_church_open_shifted _ _

theorem C16_nofree_of_closed (ts : List Term) (h : ∀ t ∈ ts, Closed t) : ∀ t ∈ ts, ¬ FreeIn 1 t ∧ ¬ FreeIn 2 t :=
  NoFree12.of_closed h
theorem C16_nofree_of_shifted (us : List Term) : ∀ t ∈ us.map (shiftFV 2 0), ¬ FreeIn 1 t ∧ ¬ FreeIn 2 t :=
  NoFree12.of_open us

/-- the hypothesis cannot be dropped: an element in which index 1 (resp. 2) occurs free is CAPTURED by the conversion
(it denotes the cons function resp. the nil value of the fold), and `tail (cons a l)` does not reduce to `l` — even for a
closed `a` -/
theorem C16_tail_cons_church_open_needs_nofree :
    (¬ app Gen.CList.tail (app2 Gen.CList.cons Gen.Comb.I (churchList [var 1])) ↠ churchList [var 1]) ∧
    (¬ app Gen.CList.tail (app2 Gen.CList.cons Gen.Comb.I (churchList [var 2])) ↠ churchList [var 2]) :=
  ⟨fun h => (tail_cons_church_nofree_of_normal _ [var 1] (by decide) h (var 1) (by simp)).1 (by decide),
   fun h => (tail_cons_church_nofree_of_normal _ [var 2] (by decide) h (var 2) (by simp)).2 (by decide)⟩

/-- the general form: for ARBITRARY `a` and the RAW conversion of ARBITRARY terms, `tail (cons a l)` reduces to the list
of the elements in which the two captured indices are instantiated by the two constants of `TAIL`'s fold (the nil value
`PAIR UD NIL` for index 2, the step function for index 1) — which is `l` again exactly when nothing was captured -/
theorem C16_tail_cons_church_raw (a : Term) (ts : List Term) :
    app Gen.CList.tail (app2 Gen.CList.cons a (churchList ts)) ↠
      churchList ((ts.map (fun t => applyAux ListBasic.tailStep 1 (applyAux ListBasic.tailNil 2 t))).map (shiftFV 2 0)) :=
  tail_cons_church_raw a ts

/-- SHARPNESS: for lists of β-NORMAL elements the free-variable hypothesis is necessary and sufficient -/
theorem C16_tail_cons_church_open_iff (a : Term) (ts : List Term) (hn : ∀ t ∈ ts, isNormal t = true) :
    app Gen.CList.tail (app2 Gen.CList.cons a (churchList ts)) ↠ churchList ts ↔
      ∀ t ∈ ts, ¬ FreeIn 1 t ∧ ¬ FreeIn 2 t :=
  ⟨tail_cons_church_nofree_of_normal a ts hn, tail_cons_church_open a ts⟩

example : ¬ app Gen.CList.tail (app2 Gen.CList.cons (var 4) (churchList [var 5, app (var 7) (var 2)])) ↠
    churchList [var 5, app (var 7) (var 2)] := by
  rw [C16_tail_cons_church_open_iff _ _ (by decide)]; decide

theorem C16_cons_churchList_open (a : Term) (ts : List Term) :
    app2 Gen.CList.cons a (churchList ts) ↠ churchList (shiftFV 2 0 a :: ts) :=
  cons_churchList_open a ts

example : app2 Gen.CList.cons (var 1) (churchList [var 1]) ↠ churchList [var 3, var 1] :=
  C16_cons_churchList_open _ _

theorem C16_head_churchList_open (u : Term) (us : List Term) :
    app Gen.CList.head (churchList ((u :: us).map (shiftFV 2 0))) ↠ u := head_churchList_open u us
theorem C16_tail_churchList_open (u : Term) (us : List Term) :
    app Gen.CList.tail (churchList ((u :: us).map (shiftFV 2 0))) ↠ churchList (us.map (shiftFV 2 0)) :=
  tail_churchList_open u us
theorem C16_is_nil_churchList_open (us : List Term) :
    app Gen.CList.is_nil (churchList (us.map (shiftFV 2 0))) ↠ fromBool us.isEmpty := is_nil_churchList_open us

/-- Church (fold) list: ARBITRARY head element (even one that the conversion captures), tail elements without the
indices 1, 2 free -/
theorem C16_tail_churchList_any (t : Term) (ts : List Term) (h : ∀ u ∈ ts, ¬ FreeIn 1 u ∧ ¬ FreeIn 2 u) :
    app Gen.CList.tail (churchList (t :: ts)) ↠ churchList ts := by
  rw [NoFree12.eq_open h]
  conv => lhs; rw [← NoFree12.eq_map h]
  exact tail_churchList_any_head t _

theorem C16_tail_churchList_nofree (t : Term) (ts : List Term) (h : ∀ u ∈ t :: ts, ¬ FreeIn 1 u ∧ ¬ FreeIn 2 u) :
    app Gen.CList.tail (churchList (t :: ts)) ↠ churchList ts := C16_tail_churchList_any t ts (forall_tail h)

example : app Gen.CList.head (churchList [var 3, var 9]) ↠ var 1 := C16_head_churchList_open (var 1) [var 7]
example : app Gen.CList.tail (churchList [var 3, var 9]) ↠ churchList [var 9] :=
  C16_tail_churchList_nofree _ _ (by decide)

/-! ### conversions = repeated cons, for ARBITRARY (open) elements

`placed k d us` (Proofs/List/Basic.lean): element `i` of `us` shifted by `d + k·(i+1)` — over the binders it sits under in
a pair list (`k = 1`) / Scott list (`k = 2`); for closed elements `placed k d us = us` (`C16_placed_closed`). -/

theorem C16_placed_closed (k d : Nat) (us : List Term) (h : ∀ u ∈ us, Closed u) : placed k d us = us :=
  placed_closed k d h

example : placed 1 0 [var 1, var 1, intoChurch 3] = [var 2, var 3, intoChurch 3] := by decide

theorem C16_conv_is_cons_pair_open (us : List Term) :
    us.foldr (fun t acc => app2 Gen.PList.cons t acc) Gen.PList.nil ↠ pairList (placed 1 0 us) :=
  pairListEnc.conv_is_cons_open us
theorem C16_conv_is_cons_church_open (us : List Term) :
    us.foldr (fun t acc => app2 Gen.CList.cons t acc) Gen.CList.nil ↠ churchList (us.map (shiftFV 2 0)) :=
  churchListEnc.conv_is_cons_open us
theorem C16_conv_is_cons_scott_open (us : List Term) :
    us.foldr (fun t acc => app2 Gen.SList.cons t acc) Gen.SList.nil ↠ scottList (placed 2 0 us) :=
  scottListEnc.conv_is_cons_open us

/-- Parigot: a cell holds its tail twice, at two different binder depths, so the list that repeated `cons` builds from
open terms is not the conversion of any `Vec`; it is `openParigotList 0 us` (Proofs/List/Basic.lean), which for closed
elements IS the conversion -/
theorem C16_conv_is_cons_parigot_open (us : List Term) :
    us.foldr (fun t acc => app2 Gen.GList.cons t acc) Gen.GList.nil ↠ openParigotList 0 us :=
  parigotListEnc.conv_is_cons_open us
theorem C16_openParigotList_closed (us : List Term) (h : ∀ u ∈ us, Closed u) :
    openParigotList 0 us = parigotList us := openParigotList_closed 0 h

example : app2 Gen.PList.cons (var 1) (app2 Gen.PList.cons (var 1) Gen.PList.nil) ↠ pairList [var 2, var 3] :=
  C16_conv_is_cons_pair_open [var 1, var 1]
example : app2 Gen.SList.cons (var 1) (app2 Gen.SList.cons (var 1) Gen.SList.nil) ↠ scottList [var 3, var 5] :=
  C16_conv_is_cons_scott_open [var 1, var 1]
example : app2 Gen.CList.cons (var 1) (app2 Gen.CList.cons (var 1) Gen.CList.nil) ↠ churchList [var 3, var 3] :=
  C16_conv_is_cons_church_open [var 1, var 1]
example : app2 Gen.GList.cons (var 1) (app2 Gen.GList.cons (var 4) Gen.GList.nil) ↠
    abs (abs (app3 (var 1) (var 3) (parigotList [var 8]) (unabs2 (parigotList [var 6])))) :=
  C16_conv_is_cons_parigot_open [var 1, var 4]

/-- the closedness hypothesis of `C16_conv_is_cons_*` is needed for the UNSHIFTED statement, in all four encodings -/
theorem C16_conv_is_cons_needs_closed :
    (¬ app2 Gen.PList.cons (var 5) Gen.PList.nil ↠ pairList [var 5]) ∧
    (¬ app2 Gen.CList.cons (var 5) Gen.CList.nil ↠ churchList [var 5]) ∧
    (¬ app2 Gen.SList.cons (var 5) Gen.SList.nil ↠ scottList [var 5]) ∧
    (¬ app2 Gen.GList.cons (var 5) Gen.GList.nil ↠ parigotList [var 5]) :=
  ⟨C17.not_star_of_norSteps 20 _ _ _ rfl (by decide +kernel) (by decide +kernel) (by decide +kernel),
   C17.not_star_of_norSteps 20 _ _ _ rfl (by decide +kernel) (by decide +kernel) (by decide +kernel),
   C17.not_star_of_norSteps 20 _ _ _ rfl (by decide +kernel) (by decide +kernel) (by decide +kernel),
   C17.not_star_of_norSteps 20 _ _ _ rfl (by decide +kernel) (by decide +kernel) (by decide +kernel)⟩

/-! ### the observers on lists of ARBITRARY (open) elements -/

theorem C16_head_pairList_open (u : Term) (us : List Term) :
    app Gen.PList.head (pairList (placed 1 0 (u :: us))) ↠ u := head_pairList_open u us
theorem C16_tail_pairList_open (u : Term) (us : List Term) :
    app Gen.PList.tail (pairList (placed 1 0 (u :: us))) ↠ pairList (placed 1 0 us) := tail_pairList_open u us
theorem C16_is_nil_pairList_open (us : List Term) :
    app Gen.PList.is_nil (pairList (placed 1 0 us)) ↠ fromBool us.isEmpty := is_nil_pairList_open us

theorem C16_head_scottList_open (u : Term) (us : List Term) :
    app Gen.SList.head (scottList (placed 2 0 (u :: us))) ↠ u := head_scottList_open u us
theorem C16_tail_scottList_open (u : Term) (us : List Term) :
    app Gen.SList.tail (scottList (placed 2 0 (u :: us))) ↠ scottList (placed 2 0 us) := tail_scottList_open u us
theorem C16_is_nil_scottList_open (us : List Term) :
    app Gen.SList.is_nil (scottList (placed 2 0 us)) ↠ fromBool us.isEmpty := is_nil_scottList_open us

theorem C16_head_parigotList_open (u : Term) (us : List Term) :
    app Gen.GList.head (openParigotList 0 (u :: us)) ↠ u := head_parigotList_open u us
theorem C16_tail_parigotList_open (u : Term) (us : List Term) :
    app Gen.GList.tail (openParigotList 0 (u :: us)) ↠ openParigotList 0 us := tail_parigotList_open u us
theorem C16_is_nil_parigotList_open (us : List Term) :
    app Gen.GList.is_nil (openParigotList 0 us) ↠ fromBool us.isEmpty := is_nil_parigotList_open us

example : app Gen.PList.tail (pairList [var 2, var 3, abs (var 5)]) ↠ pairList [var 2, abs (var 4)] :=
  C16_tail_pairList_open (var 1) [var 1, abs (var 2)]
example : app Gen.SList.head (scottList [app (var 3) (var 9), var 5]) ↠ app (var 1) (var 7) :=
  C16_head_scottList_open (app (var 1) (var 7)) [var 1]

/-! ### the observers on the RAW conversions: the hypotheses `C16_{head,tail,is_nil}_*List` really need

`C16_is_nil_*List` hold with NO hypothesis (the elements are discarded); `C16_head_*List` need only the HEAD element closed
(the remaining elements are arbitrary); `C16_tail_*List` need only the TAIL LIST closed as a term — its elements may
refer to the tail's own binders — and nothing about the head element.  `C16_length_terms` needs no hypothesis at all. -/

theorem C16_is_nil_pairList_any (ts : List Term) :
    app Gen.PList.is_nil (pairList ts) ↠ fromBool ts.isEmpty := is_nil_pairList_any ts
theorem C16_is_nil_churchList_any (ts : List Term) :
    app Gen.CList.is_nil (churchList ts) ↠ fromBool ts.isEmpty := is_nil_churchList_any ts
theorem C16_is_nil_scottList_any (ts : List Term) :
    app Gen.SList.is_nil (scottList ts) ↠ fromBool ts.isEmpty := is_nil_scottList_any ts
theorem C16_is_nil_parigotList_any (ts : List Term) :
    app Gen.GList.is_nil (parigotList ts) ↠ fromBool ts.isEmpty := by
  cases ts with
  | nil => exact is_nil_nil_parigot
  | cons t ts => exact is_nil_cell3 t _ _

theorem C16_head_pairList_any (t : Term) (ts : List Term) (ht : Closed t) :
    app Gen.PList.head (pairList (t :: ts)) ↠ t := by
  have := head_tuple2 t (pairList ts)
  rwa [shiftFV_closed 1 0 ht] at this
theorem C16_head_churchList_any (t : Term) (ts : List Term) (ht : Closed t) :
    app Gen.CList.head (churchList (t :: ts)) ↠ t := by
  have := head_cell2 t (churchListBody ts)
  rwa [shiftFV_closed 2 0 ht] at this
theorem C16_head_scottList_any (t : Term) (ts : List Term) (ht : Closed t) :
    app Gen.SList.head (scottList (t :: ts)) ↠ t := by
  have := head_cell2 t (scottList ts)
  rwa [shiftFV_closed 2 0 ht] at this
theorem C16_head_parigotList_any (t : Term) (ts : List Term) (ht : Closed t) :
    app Gen.GList.head (parigotList (t :: ts)) ↠ t := by
  have := head_cell3 t (parigotList ts) (unabs2 (parigotList ts))
  rwa [shiftFV_closed 2 0 ht] at this

theorem C16_tail_pairList_any (t : Term) (ts : List Term) (hl : Closed (pairList ts)) :
    app Gen.PList.tail (pairList (t :: ts)) ↠ pairList ts := by
  have := tail_tuple2 t (pairList ts)
  rwa [shiftFV_closed 1 0 hl] at this
theorem C16_tail_scottList_any (t : Term) (ts : List Term) (hl : Closed (scottList ts)) :
    app Gen.SList.tail (scottList (t :: ts)) ↠ scottList ts := by
  have := tail_cell2 t (scottList ts)
  rwa [shiftFV_closed 2 0 hl] at this
theorem C16_tail_parigotList_any (t : Term) (ts : List Term) (hl : Closed (parigotList ts)) :
    app Gen.GList.tail (parigotList (t :: ts)) ↠ parigotList ts := by
  have := tail_cell3 t (parigotList ts) (unabs2 (parigotList ts))
  rwa [shiftFV_closed 2 0 hl] at this
-- (the Church list: `C16_tail_churchList_any`, with the other laws of Church `tail` above)

theorem C16_length_any (xs : List Term) : app Gen.PList.length (pairList xs) ↠ intoChurch xs.length :=
  plist_length_any xs

/-- non-vacuity: elements that the conversion captures (`var 1`, `var 2`), an open head, a tail that is closed only as
a whole (`pairList [var 1]` is `λ. 1 1 NIL`) -/
example : app Gen.SList.is_nil (scottList [var 1, var 7]) ↠ fromBool false := C16_is_nil_scottList_any _
example : app Gen.GList.head (parigotList [Gen.Comb.K, var 1, var 9]) ↠ Gen.Comb.K :=
  C16_head_parigotList_any _ _ (by decide)
example : app Gen.PList.tail (pairList [var 5, var 1]) ↠ pairList [var 1] := C16_tail_pairList_any _ _ (by decide)
example : app Gen.CList.tail (churchList [var 1, var 3]) ↠ churchList [var 3] := C16_tail_churchList_any _ _ (by decide)
example : app Gen.PList.length (pairList [var 1, var 2, var 7]) ↠ intoChurch 3 := C16_length_any _

/-- `head` does need its hypothesis: a non-closed head element is captured or renumbered -/
theorem C16_head_needs_closed_head :
    (¬ app Gen.PList.head (pairList [var 1]) ↠ var 1) ∧ (¬ app Gen.PList.head (pairList [var 2]) ↠ var 2) ∧
    (¬ app Gen.CList.head (churchList [var 1]) ↠ var 1) ∧ (¬ app Gen.SList.head (scottList [var 3]) ↠ var 3) ∧
    (¬ app Gen.GList.head (parigotList [var 2]) ↠ var 2) :=
  ⟨C17.not_star_of_norSteps 20 _ _ _ rfl (by decide +kernel) (by decide +kernel) (by decide +kernel),
   C17.not_star_of_norSteps 20 _ _ _ rfl (by decide +kernel) (by decide +kernel) (by decide +kernel),
   C17.not_star_of_norSteps 20 _ _ _ rfl (by decide +kernel) (by decide +kernel) (by decide +kernel),
   C17.not_star_of_norSteps 20 _ _ _ rfl (by decide +kernel) (by decide +kernel) (by decide +kernel),
   C17.not_star_of_norSteps 20 _ _ _ rfl (by decide +kernel) (by decide +kernel) (by decide +kernel)⟩

/-! ### the pair-list library on lists of ARBITRARY (open) terms — the `C16_*_terms` forms without closedness

`pairList (placed 1 0 xs)` is the conversion of the elements `xs`, each shifted over the binders it sits under (for closed
elements it is `pairList xs`: `C16_placed_closed`); `f`, `p`, start values and counts' partners are ARBITRARY terms. -/

theorem C16_length_open (xs : List Term) :
    app Gen.PList.length (pairList (placed 1 0 xs)) ↠ intoChurch xs.length := by
  have h := plist_length_any (placed 1 0 xs)
  rwa [placed_length] at h

theorem C16_index_open (xs : List Term) (i : Nat) (h : i < xs.length) :
    app2 Gen.PList.index (intoChurch i) (pairList (placed 1 0 xs)) ↠ xs[i] := plist_index_open xs i h

theorem C16_reverse_open (xs : List Term) :
    app Gen.PList.reverse (pairList (placed 1 0 xs)) ↠ pairList (placed 1 0 xs.reverse) := plist_reverse_open xs

theorem C16_list_open (xs : List Term) :
    xs.foldl (fun acc x => app acc x) (app Gen.PList.list (intoChurch xs.length)) ↠ pairList (placed 1 0 xs) :=
  plist_list_open xs

theorem C16_append_open (xs ys : List Term) :
    app2 Gen.PList.append (pairList (placed 1 0 xs)) (pairList (placed 1 0 ys)) ↠ pairList (placed 1 0 (xs ++ ys)) :=
  plist_append_open xs ys

theorem C16_map_open (f : Term) (xs : List Term) :
    app2 Gen.PList.map f (pairList (placed 1 0 xs)) ↠ pairList (placed 1 0 (xs.map (app f))) := plist_map_open f xs

theorem C16_foldl_open (f s : Term) (xs : List Term) :
    app3 Gen.PList.foldl f s (pairList (placed 1 0 xs)) ↠ xs.foldl (fun acc x => app2 f acc x) s :=
  plist_foldl_open f s xs

theorem C16_foldr_open (f a : Term) (xs : List Term) :
    app3 Gen.PList.foldr f a (pairList (placed 1 0 xs)) ↠ xs.foldr (fun x acc => app2 f x acc) a :=
  plist_foldr_open f a xs

theorem C16_filter_open (p : Term) (xs : List Term) (keep : Term → Bool)
    (hkeep : ∀ x ∈ xs, app p x ↠ fromBool (keep x)) :
    app2 Gen.PList.filter p (pairList (placed 1 0 xs)) ↠ pairList (placed 1 0 (xs.filter keep)) :=
  plist_filter_open p xs keep hkeep

theorem C16_take_while_open (p : Term) (xs : List Term) (keep : Term → Bool)
    (hkeep : ∀ x ∈ xs, app p x ↠ fromBool (keep x)) :
    app2 Gen.PList.take_while p (pairList (placed 1 0 xs)) ↠ pairList (placed 1 0 (xs.takeWhile keep)) :=
  plist_take_while_open p xs keep hkeep

theorem C16_drop_while_open (p : Term) (xs : List Term) (keep : Term → Bool)
    (hkeep : ∀ x ∈ xs, app p x ↠ fromBool (keep x)) :
    app2 Gen.PList.drop_while p (pairList (placed 1 0 xs)) ↠ pairList (placed 1 0 (xs.dropWhile keep)) :=
  plist_drop_while_open p xs keep hkeep

theorem C16_last_open (xs : List Term) (hne : xs ≠ []) :
    app Gen.PList.last (pairList (placed 1 0 xs)) ↠ xs.getLast hne := plist_last_open xs hne

-- the hypothesis `hne` is not needed: `C16_init_open_all` (`LC/Props/C16Init.lean`) is the law for every list
set_option linter.unusedVariables false in
theorem C16_init_open (xs : List Term) (hne : xs ≠ []) :
    app Gen.PList.init (pairList (placed 1 0 xs)) ↠ pairList (placed 1 0 xs.dropLast) := plist_init_open xs

/-- the elements of the result are the pairs `(x, y)` with arbitrary components, placed under the pair's binder -/
theorem C16_zip_open (xs ys : List Term) :
    app2 Gen.PList.zip (pairList (placed 1 0 xs)) (pairList (placed 1 0 ys)) ↠
      pairList (placed 1 0 ((xs.zip ys).map (fun p => tuple2 (shiftFV 1 0 p.1) (shiftFV 1 0 p.2)))) :=
  plist_zip_open xs ys

theorem C16_zip_with_open (f : Term) (xs ys : List Term) :
    app3 Gen.PList.zip_with f (pairList (placed 1 0 xs)) (pairList (placed 1 0 ys)) ↠
      pairList (placed 1 0 ((xs.zip ys).map (fun p => app2 f p.1 p.2))) :=
  plist_zip_with_open f xs ys

theorem C16_take_open (k : Nat) (xs : List Term) :
    app2 Gen.PList.take (intoChurch k) (pairList (placed 1 0 xs)) ↠ pairList (placed 1 0 (xs.take k)) :=
  plist_take_open k xs

theorem C16_drop_open (k : Nat) (xs : List Term) :
    app2 Gen.PList.drop (intoChurch k) (pairList (placed 1 0 xs)) ↠ pairList (placed 1 0 (xs.drop k)) :=
  plist_drop_open k xs

theorem C16_replicate_open (k : Nat) (y : Term) :
    app2 Gen.PList.replicate (intoChurch k) y ↠ pairList (placed 1 0 (List.replicate k y)) :=
  plist_replicate_open k y

/-- layers 1+2 for a list-valued function on open NORMAL elements: NOR and HNO return the result, every normalising
order that returns returns it -/
theorem C16_computes_open {t : Term} {ws : List Term} (h : t ↠ pairList (placed 1 0 ws))
    (hn : ∀ w ∈ ws, isNormal w = true) : Computes t (pairList (placed 1 0 ws)) :=
  computes_of_star h (C12.pairList_normal _ (normal_placed 1 0 hn))

example : app Gen.PList.reverse (pairList [var 2, app (var 4) (var 3), abs (var 5)]) ↠
    pairList [abs (var 3), app (var 4) (var 3), var 4] :=
  C16_reverse_open [var 1, app (var 2) (var 1), abs (var 2)]

example : ∃ fuel c, reduce .NOR 0 fuel (app2 Gen.PList.append (pairList [var 2]) (pairList [var 3, Gen.Comb.K])) =
    some (pairList [var 2, var 4, Gen.Comb.K], c) :=
  (C16_computes_open (C16_append_open [var 1] [var 2, Gen.Comb.K]) (by decide)).nor

example : app2 Gen.PList.index (intoChurch 1) (pairList [var 2, var 9]) ↠ var 7 :=
  C16_index_open [var 1, var 7] 1 (by decide)

example : app2 Gen.PList.map (var 3) (pairList [var 2, var 4]) ↠ pairList [app (var 4) (var 2), app (var 5) (var 4)] :=
  C16_map_open (var 3) [var 1, var 2]

example : app3 Gen.PList.foldr (var 5) (var 4) (pairList [var 2, var 4]) ↠
    app2 (var 5) (var 1) (app2 (var 5) (var 2) (var 4)) :=
  C16_foldr_open (var 5) (var 4) [var 1, var 2]

example : app2 Gen.PList.filter (app Gen.Comb.K Gen.Bool.tru) (pairList [var 2, var 9]) ↠ pairList [var 2, var 9] :=
  C16_filter_open _ [var 1, var 7] (fun _ => true) (fun x _ => K_elim Gen.Bool.tru x)
example : app2 Gen.PList.zip (pairList [var 2]) (pairList [var 3, var 7]) ↠
    pairList [abs (app2 (var 1) (var 3) (var 4))] :=
  C16_zip_open [var 1] [var 2, var 5]
example : app2 Gen.PList.take (intoChurch 1) (pairList [var 2, var 3]) ↠ pairList [var 2] :=
  C16_take_open 1 [var 1, var 1]
example : app2 Gen.PList.replicate (intoChurch 2) (var 1) ↠ pairList [var 2, var 3] := C16_replicate_open 2 (var 1)

/-- the closedness hypothesis of `C16_reverse_terms` is needed for the UNSHIFTED statement: the raw conversion of
`[var 5, var 6]` is the list `[x₄, x₄]`, whose reverse is itself and not the conversion of `[var 6, var 5]` -/
theorem C16_reverse_terms_needs_closed :
    ¬ app Gen.PList.reverse (pairList [var 5, var 6]) ↠ pairList [var 6, var 5] :=
  C17.not_star_of_norSteps 200 _ _ _ rfl (by decide) (by decide) (by decide)

/-! ## HAP, unbounded, lists of arbitrary admissible elements -/

theorem C16_hapValue_iff (v : Term) : HapValue v ↔ Closed v ∧ isNormal v = true :=
  ⟨fun h => ⟨h.closed, h.normal⟩, fun h => .mk' h.1 h.2⟩

theorem C16_hapValue_num (e : Encoding) (n : Nat) : HapValue (intoNum e n) := hapValue_num e n
theorem C16_hapValue_church (n : Nat) : HapValue (intoChurch n) := hapValue_church n
theorem C16_hapValue_scott (n : Nat) : HapValue (intoScott n) := hapValue_scott n
theorem C16_hapValue_parigot (n : Nat) : HapValue (intoParigot n) := hapValue_parigot n
theorem C16_hapValue_stumpfu (n : Nat) : HapValue (intoStumpFu n) := hapValue_stumpfu n
theorem C16_hapValue_binary (n : Nat) : HapValue (intoBinary n) := hapValue_binary n

example : HapValue (intoChurch 3) ∧ HapValue (intoScott 2) ∧ HapValue (fromBool true) ∧
    HapValue (pairList [intoChurch 1, Gen.Comb.K]) :=
  ⟨hapValue_church 3, hapValue_scott 2, hapValue_bool true, .mk' (by decide) (by decide)⟩

theorem C16_is_nil_pairList_hap_values (ts : List Term) (h : ∀ t ∈ ts, HapValue t) :
    ∃ fuel c, reduce .HAP 0 fuel (app Gen.PList.is_nil (pairList ts)) = some (fromBool ts.isEmpty, c) :=
  (pairListEnc_hap.isNil h).reduce

theorem C16_head_pairList_hap_values (t : Term) (ts : List Term) (h : ∀ u ∈ t :: ts, HapValue u) :
    ∃ fuel c, reduce .HAP 0 fuel (app Gen.PList.head (pairList (t :: ts))) = some (t, c) :=
  (pairListEnc_hap.head h).reduce

theorem C16_tail_pairList_hap_values (t : Term) (ts : List Term) (h : ∀ u ∈ t :: ts, HapValue u) :
    ∃ fuel c, reduce .HAP 0 fuel (app Gen.PList.tail (pairList (t :: ts))) = some (pairList ts, c) :=
  (pairListEnc_hap.tail h).reduce

theorem C16_conv_is_cons_pair_hap_values (ts : List Term) (h : ∀ t ∈ ts, HapValue t) :
    ∃ fuel c, reduce .HAP 0 fuel (ts.foldr (fun t acc => app2 Gen.PList.cons t acc) Gen.PList.nil) =
      some (pairList ts, c) :=
  (pairListEnc_hap.conv_is_cons h).reduce

theorem C16_is_nil_churchList_hap_values (ts : List Term) (h : ∀ t ∈ ts, HapValue t) :
    ∃ fuel c, reduce .HAP 0 fuel (app Gen.CList.is_nil (churchList ts)) = some (fromBool ts.isEmpty, c) :=
  (churchListEnc_hap.isNil h).reduce

theorem C16_head_churchList_hap_values (t : Term) (ts : List Term) (h : ∀ u ∈ t :: ts, HapValue u) :
    ∃ fuel c, reduce .HAP 0 fuel (app Gen.CList.head (churchList (t :: ts))) = some (t, c) :=
  (churchListEnc_hap.head h).reduce

theorem C16_tail_churchList_hap_values (t : Term) (ts : List Term) (h : ∀ u ∈ t :: ts, HapValue u) :
    ∃ fuel c, reduce .HAP 0 fuel (app Gen.CList.tail (churchList (t :: ts))) = some (churchList ts, c) :=
  (churchListEnc_hap.tail h).reduce

theorem C16_conv_is_cons_church_hap_values (ts : List Term) (h : ∀ t ∈ ts, HapValue t) :
    ∃ fuel c, reduce .HAP 0 fuel (ts.foldr (fun t acc => app2 Gen.CList.cons t acc) Gen.CList.nil) =
      some (churchList ts, c) :=
  (churchListEnc_hap.conv_is_cons h).reduce

theorem C16_is_nil_scottList_hap_values (ts : List Term) (h : ∀ t ∈ ts, HapValue t) :
    ∃ fuel c, reduce .HAP 0 fuel (app Gen.SList.is_nil (scottList ts)) = some (fromBool ts.isEmpty, c) :=
  (scottListEnc_hap.isNil h).reduce

theorem C16_head_scottList_hap_values (t : Term) (ts : List Term) (h : ∀ u ∈ t :: ts, HapValue u) :
    ∃ fuel c, reduce .HAP 0 fuel (app Gen.SList.head (scottList (t :: ts))) = some (t, c) :=
  (scottListEnc_hap.head h).reduce

theorem C16_tail_scottList_hap_values (t : Term) (ts : List Term) (h : ∀ u ∈ t :: ts, HapValue u) :
    ∃ fuel c, reduce .HAP 0 fuel (app Gen.SList.tail (scottList (t :: ts))) = some (scottList ts, c) :=
  (scottListEnc_hap.tail h).reduce

theorem C16_conv_is_cons_scott_hap_values (ts : List Term) (h : ∀ t ∈ ts, HapValue t) :
    ∃ fuel c, reduce .HAP 0 fuel (ts.foldr (fun t acc => app2 Gen.SList.cons t acc) Gen.SList.nil) =
      some (scottList ts, c) :=
  (scottListEnc_hap.conv_is_cons h).reduce

theorem C16_is_nil_parigotList_hap_values (ts : List Term) (h : ∀ t ∈ ts, HapValue t) :
    ∃ fuel c, reduce .HAP 0 fuel (app Gen.GList.is_nil (parigotList ts)) = some (fromBool ts.isEmpty, c) :=
  (parigotListEnc_hap.isNil h).reduce

theorem C16_head_parigotList_hap_values (t : Term) (ts : List Term) (h : ∀ u ∈ t :: ts, HapValue u) :
    ∃ fuel c, reduce .HAP 0 fuel (app Gen.GList.head (parigotList (t :: ts))) = some (t, c) :=
  (parigotListEnc_hap.head h).reduce

theorem C16_tail_parigotList_hap_values (t : Term) (ts : List Term) (h : ∀ u ∈ t :: ts, HapValue u) :
    ∃ fuel c, reduce .HAP 0 fuel (app Gen.GList.tail (parigotList (t :: ts))) = some (parigotList ts, c) :=
  (parigotListEnc_hap.tail h).reduce

theorem C16_conv_is_cons_parigot_hap_values (ts : List Term) (h : ∀ t ∈ ts, HapValue t) :
    ∃ fuel c, reduce .HAP 0 fuel (ts.foldr (fun t acc => app2 Gen.GList.cons t acc) Gen.GList.nil) =
      some (parigotList ts, c) :=
  (parigotListEnc_hap.conv_is_cons h).reduce

/-! ### instances: lists of numerals of ANY numeral encoding `e` (Church in
particular) in each of the four list encodings -/

theorem C16_head_scottList_hap_nums (e : Encoding) (n : Nat) (ns : List Nat) :
    ∃ fuel c, reduce .HAP 0 fuel (app Gen.SList.head (scottList ((n :: ns).map (intoNum e)))) =
      some (intoNum e n, c) :=
  C16_head_scottList_hap_values _ _ (forall_map (hapValue_num e) (n :: ns))

theorem C16_tail_scottList_hap_nums (e : Encoding) (n : Nat) (ns : List Nat) :
    ∃ fuel c, reduce .HAP 0 fuel (app Gen.SList.tail (scottList ((n :: ns).map (intoNum e)))) =
      some (scottList (ns.map (intoNum e)), c) :=
  C16_tail_scottList_hap_values _ _ (forall_map (hapValue_num e) (n :: ns))

theorem C16_is_nil_scottList_hap_nums (e : Encoding) (ns : List Nat) :
    ∃ fuel c, reduce .HAP 0 fuel (app Gen.SList.is_nil (scottList (ns.map (intoNum e)))) =
      some (fromBool ns.isEmpty, c) := by
  have := C16_is_nil_scottList_hap_values _ (forall_map (hapValue_num e) ns)
  rwa [List.isEmpty_map] at this

theorem C16_conv_is_cons_scott_hap_nums (e : Encoding) (ns : List Nat) :
    ∃ fuel c, reduce .HAP 0 fuel (ns.foldr (fun n acc => app2 Gen.SList.cons (intoNum e n) acc) Gen.SList.nil) =
      some (scottList (ns.map (intoNum e)), c) := by
  have := C16_conv_is_cons_scott_hap_values _ (forall_map (hapValue_num e) ns)
  rwa [foldr_map_cons] at this

theorem C16_head_parigotList_hap_nums (e : Encoding) (n : Nat) (ns : List Nat) :
    ∃ fuel c, reduce .HAP 0 fuel (app Gen.GList.head (parigotList ((n :: ns).map (intoNum e)))) =
      some (intoNum e n, c) :=
  C16_head_parigotList_hap_values _ _ (forall_map (hapValue_num e) (n :: ns))

theorem C16_tail_parigotList_hap_nums (e : Encoding) (n : Nat) (ns : List Nat) :
    ∃ fuel c, reduce .HAP 0 fuel (app Gen.GList.tail (parigotList ((n :: ns).map (intoNum e)))) =
      some (parigotList (ns.map (intoNum e)), c) :=
  C16_tail_parigotList_hap_values _ _ (forall_map (hapValue_num e) (n :: ns))

theorem C16_is_nil_parigotList_hap_nums (e : Encoding) (ns : List Nat) :
    ∃ fuel c, reduce .HAP 0 fuel (app Gen.GList.is_nil (parigotList (ns.map (intoNum e)))) =
      some (fromBool ns.isEmpty, c) := by
  have := C16_is_nil_parigotList_hap_values _ (forall_map (hapValue_num e) ns)
  rwa [List.isEmpty_map] at this

theorem C16_conv_is_cons_parigot_hap_nums (e : Encoding) (ns : List Nat) :
    ∃ fuel c, reduce .HAP 0 fuel (ns.foldr (fun n acc => app2 Gen.GList.cons (intoNum e n) acc) Gen.GList.nil) =
      some (parigotList (ns.map (intoNum e)), c) := by
  have := C16_conv_is_cons_parigot_hap_values _ (forall_map (hapValue_num e) ns)
  rwa [foldr_map_cons] at this

theorem C16_head_churchList_hap_nums (e : Encoding) (n : Nat) (ns : List Nat) :
    ∃ fuel c, reduce .HAP 0 fuel (app Gen.CList.head (churchList ((n :: ns).map (intoNum e)))) =
      some (intoNum e n, c) :=
  C16_head_churchList_hap_values _ _ (forall_map (hapValue_num e) (n :: ns))

theorem C16_tail_churchList_hap_nums (e : Encoding) (n : Nat) (ns : List Nat) :
    ∃ fuel c, reduce .HAP 0 fuel (app Gen.CList.tail (churchList ((n :: ns).map (intoNum e)))) =
      some (churchList (ns.map (intoNum e)), c) :=
  C16_tail_churchList_hap_values _ _ (forall_map (hapValue_num e) (n :: ns))

theorem C16_head_pairList_hap_nums (e : Encoding) (n : Nat) (ns : List Nat) :
    ∃ fuel c, reduce .HAP 0 fuel (app Gen.PList.head (pairList ((n :: ns).map (intoNum e)))) =
      some (intoNum e n, c) :=
  C16_head_pairList_hap_values _ _ (forall_map (hapValue_num e) (n :: ns))

theorem C16_tail_pairList_hap_nums (e : Encoding) (n : Nat) (ns : List Nat) :
    ∃ fuel c, reduce .HAP 0 fuel (app Gen.PList.tail (pairList ((n :: ns).map (intoNum e)))) =
      some (pairList (ns.map (intoNum e)), c) :=
  C16_tail_pairList_hap_values _ _ (forall_map (hapValue_num e) (n :: ns))

/-! ### the first-order pair-list library under HAP on lists of ARBITRARY admissible elements

(`C16_*_hap` of C16.lean are the instances "elements = Church numerals"; the higher-order functions for an arbitrary
function argument are in C16HigherHap.lean: under HAP the results of `f x` are stored as unevaluated closures and normalised
at the end, so the hypothesis on `f` differs from function to function.) -/

theorem C16_length_hap_values (ts : List Term) (h : ∀ t ∈ ts, HapValue t) :
    ∃ fuel c, reduce .HAP 0 fuel (app Gen.PList.length (pairList ts)) = some (intoChurch ts.length, c) :=
  (plist_length_hap_values ts h).reduce

theorem C16_reverse_hap_values (ts : List Term) (h : ∀ t ∈ ts, HapValue t) :
    ∃ fuel c, reduce .HAP 0 fuel (app Gen.PList.reverse (pairList ts)) = some (pairList ts.reverse, c) :=
  (plist_reverse_hap_values ts h).reduce

theorem C16_append_hap_values (ts us : List Term) (ht : ∀ t ∈ ts, HapValue t) (hu : ∀ t ∈ us, HapValue t) :
    ∃ fuel c, reduce .HAP 0 fuel (app2 Gen.PList.append (pairList ts) (pairList us)) =
      some (pairList (ts ++ us), c) :=
  (plist_append_hap_values ts us ht hu).reduce

theorem C16_index_hap_values (ts : List Term) (h : ∀ t ∈ ts, HapValue t) (i : Nat) (hi : i < ts.length) :
    ∃ fuel c, reduce .HAP 0 fuel (app2 Gen.PList.index (intoChurch i) (pairList ts)) = some (ts[i], c) :=
  (plist_index_hap_values ts h i hi).reduce

theorem C16_last_hap_values (ts : List Term) (h : ∀ t ∈ ts, HapValue t) (hne : ts ≠ []) :
    ∃ fuel c, reduce .HAP 0 fuel (app Gen.PList.last (pairList ts)) = some (ts.getLast hne, c) :=
  (plist_last_hap_values ts h hne).reduce

theorem C16_init_hap_values (ts : List Term) (h : ∀ t ∈ ts, HapValue t) :
    ∃ fuel c, reduce .HAP 0 fuel (app Gen.PList.init (pairList ts)) = some (pairList ts.dropLast, c) :=
  (plist_init_hap_values ts h).reduce

theorem C16_take_hap_values (k : Nat) (ts : List Term) (h : ∀ t ∈ ts, HapValue t) :
    ∃ fuel c, reduce .HAP 0 fuel (app2 Gen.PList.take (intoChurch k) (pairList ts)) = some (pairList (ts.take k), c) :=
  (plist_take_hap_values k ts h).reduce

theorem C16_drop_hap_values (k : Nat) (ts : List Term) (h : ∀ t ∈ ts, HapValue t) :
    ∃ fuel c, reduce .HAP 0 fuel (app2 Gen.PList.drop (intoChurch k) (pairList ts)) = some (pairList (ts.drop k), c) :=
  (plist_drop_hap_values k ts h).reduce

theorem C16_replicate_hap_values (k : Nat) (y : Term) (hy : HapValue y) :
    ∃ fuel c, reduce .HAP 0 fuel (app2 Gen.PList.replicate (intoChurch k) y) =
      some (pairList (List.replicate k y), c) :=
  (plist_replicate_hap_values k y hy).reduce

theorem C16_zip_hap_values (ts us : List Term) (ht : ∀ t ∈ ts, HapValue t) (hu : ∀ t ∈ us, HapValue t) :
    ∃ fuel c, reduce .HAP 0 fuel (app2 Gen.PList.zip (pairList ts) (pairList us)) =
      some (pairList ((ts.zip us).map (fun p => tuple2 p.1 p.2)), c) :=
  (plist_zip_hap_values ts us ht hu).reduce

theorem C16_list_hap_values (ts : List Term) (h : ∀ t ∈ ts, HapValue t) :
    ∃ fuel c, reduce .HAP 0 fuel (ts.foldl app (app Gen.PList.list (intoChurch ts.length))) = some (pairList ts, c) :=
  (plist_list_hap_values ts h).reduce

example : ∃ fuel c, reduce .HAP 0 fuel (app Gen.PList.reverse (pairList [intoScott 1, intoScott 2, intoScott 0])) =
    some (pairList [intoScott 0, intoScott 2, intoScott 1], c) :=
  C16_reverse_hap_values _ (forall_map hapValue_scott [1, 2, 0])
example : ∃ fuel c, reduce .HAP 0 fuel
    (app2 Gen.PList.zip (pairList [fromBool true, fromBool false]) (pairList [intoParigot 1, intoParigot 0, intoParigot 5])) =
    some (pairList [tuple2 (fromBool true) (intoParigot 1), tuple2 (fromBool false) (intoParigot 0)], c) :=
  C16_zip_hap_values _ _ (forall_map hapValue_bool [true, false]) (forall_map hapValue_parigot [1, 0, 5])

/-! ### the constructor/observer laws under HAP: `head (cons a l)`, `tail (cons a l)`, `is_nil (cons a l)`, `is_nil nil`

for an admissible element `a` and the conversion `l` of a list of admissible elements, in all four encodings (layer 1 for
ARBITRARY `a`, `l`: `C16_head_cons_*` … of C16Base.lean).  HAP evaluates the operand `cons a l` first (to the conversion
of `a :: ts`), then the observer. -/

theorem C16_cons_pairList_hap_values (a : Term) (ts : List Term) (h : ∀ u ∈ a :: ts, HapValue u) :
    ∃ fuel c, reduce .HAP 0 fuel (app2 Gen.PList.cons a (pairList ts)) = some (pairList (a :: ts), c) :=
  (pairListEnc_hap.cons h).reduce
theorem C16_cons_churchList_hap_values (a : Term) (ts : List Term) (h : ∀ u ∈ a :: ts, HapValue u) :
    ∃ fuel c, reduce .HAP 0 fuel (app2 Gen.CList.cons a (churchList ts)) = some (churchList (a :: ts), c) :=
  (churchListEnc_hap.cons h).reduce
theorem C16_cons_scottList_hap_values (a : Term) (ts : List Term) (h : ∀ u ∈ a :: ts, HapValue u) :
    ∃ fuel c, reduce .HAP 0 fuel (app2 Gen.SList.cons a (scottList ts)) = some (scottList (a :: ts), c) :=
  (scottListEnc_hap.cons h).reduce
theorem C16_cons_parigotList_hap_values (a : Term) (ts : List Term) (h : ∀ u ∈ a :: ts, HapValue u) :
    ∃ fuel c, reduce .HAP 0 fuel (app2 Gen.GList.cons a (parigotList ts)) = some (parigotList (a :: ts), c) :=
  (parigotListEnc_hap.cons h).reduce

theorem C16_head_cons_pair_hap_values (a : Term) (ts : List Term) (h : ∀ u ∈ a :: ts, HapValue u) :
    ∃ fuel c, reduce .HAP 0 fuel (app Gen.PList.head (app2 Gen.PList.cons a (pairList ts))) = some (a, c) :=
  (pairListEnc_hap.head_cons h).reduce
theorem C16_tail_cons_pair_hap_values (a : Term) (ts : List Term) (h : ∀ u ∈ a :: ts, HapValue u) :
    ∃ fuel c, reduce .HAP 0 fuel (app Gen.PList.tail (app2 Gen.PList.cons a (pairList ts))) = some (pairList ts, c) :=
  (pairListEnc_hap.tail_cons h).reduce
theorem C16_is_nil_cons_pair_hap_values (a : Term) (ts : List Term) (h : ∀ u ∈ a :: ts, HapValue u) :
    ∃ fuel c, reduce .HAP 0 fuel (app Gen.PList.is_nil (app2 Gen.PList.cons a (pairList ts))) =
      some (fromBool false, c) :=
  (pairListEnc_hap.isNil_cons h).reduce

theorem C16_head_cons_church_hap_values (a : Term) (ts : List Term) (h : ∀ u ∈ a :: ts, HapValue u) :
    ∃ fuel c, reduce .HAP 0 fuel (app Gen.CList.head (app2 Gen.CList.cons a (churchList ts))) = some (a, c) :=
  (churchListEnc_hap.head_cons h).reduce
theorem C16_tail_cons_church_hap_values (a : Term) (ts : List Term) (h : ∀ u ∈ a :: ts, HapValue u) :
    ∃ fuel c, reduce .HAP 0 fuel (app Gen.CList.tail (app2 Gen.CList.cons a (churchList ts))) =
      some (churchList ts, c) :=
  (churchListEnc_hap.tail_cons h).reduce
theorem C16_is_nil_cons_church_hap_values (a : Term) (ts : List Term) (h : ∀ u ∈ a :: ts, HapValue u) :
    ∃ fuel c, reduce .HAP 0 fuel (app Gen.CList.is_nil (app2 Gen.CList.cons a (churchList ts))) =
      some (fromBool false, c) :=
  (churchListEnc_hap.isNil_cons h).reduce

theorem C16_head_cons_scott_hap_values (a : Term) (ts : List Term) (h : ∀ u ∈ a :: ts, HapValue u) :
    ∃ fuel c, reduce .HAP 0 fuel (app Gen.SList.head (app2 Gen.SList.cons a (scottList ts))) = some (a, c) :=
  (scottListEnc_hap.head_cons h).reduce
theorem C16_tail_cons_scott_hap_values (a : Term) (ts : List Term) (h : ∀ u ∈ a :: ts, HapValue u) :
    ∃ fuel c, reduce .HAP 0 fuel (app Gen.SList.tail (app2 Gen.SList.cons a (scottList ts))) = some (scottList ts, c) :=
  (scottListEnc_hap.tail_cons h).reduce
theorem C16_is_nil_cons_scott_hap_values (a : Term) (ts : List Term) (h : ∀ u ∈ a :: ts, HapValue u) :
    ∃ fuel c, reduce .HAP 0 fuel (app Gen.SList.is_nil (app2 Gen.SList.cons a (scottList ts))) =
      some (fromBool false, c) :=
  (scottListEnc_hap.isNil_cons h).reduce

theorem C16_head_cons_parigot_hap_values (a : Term) (ts : List Term) (h : ∀ u ∈ a :: ts, HapValue u) :
    ∃ fuel c, reduce .HAP 0 fuel (app Gen.GList.head (app2 Gen.GList.cons a (parigotList ts))) = some (a, c) :=
  (parigotListEnc_hap.head_cons h).reduce
theorem C16_tail_cons_parigot_hap_values (a : Term) (ts : List Term) (h : ∀ u ∈ a :: ts, HapValue u) :
    ∃ fuel c, reduce .HAP 0 fuel (app Gen.GList.tail (app2 Gen.GList.cons a (parigotList ts))) =
      some (parigotList ts, c) :=
  (parigotListEnc_hap.tail_cons h).reduce
theorem C16_is_nil_cons_parigot_hap_values (a : Term) (ts : List Term) (h : ∀ u ∈ a :: ts, HapValue u) :
    ∃ fuel c, reduce .HAP 0 fuel (app Gen.GList.is_nil (app2 Gen.GList.cons a (parigotList ts))) =
      some (fromBool false, c) :=
  (parigotListEnc_hap.isNil_cons h).reduce

/-- `is_nil nil` under HAP, all four encodings (ground facts, checked by the kernel) -/
theorem C16_is_nil_nil_hap :
    (reduce .HAP 0 50 (app Gen.PList.is_nil Gen.PList.nil)).map (·.1) = some (fromBool true) ∧
    (reduce .HAP 0 50 (app Gen.CList.is_nil Gen.CList.nil)).map (·.1) = some (fromBool true) ∧
    (reduce .HAP 0 50 (app Gen.SList.is_nil Gen.SList.nil)).map (·.1) = some (fromBool true) ∧
    (reduce .HAP 0 50 (app Gen.GList.is_nil Gen.GList.nil)).map (·.1) = some (fromBool true) := by decide +kernel

example : ∃ fuel c, reduce .HAP 0 fuel
    (app Gen.CList.tail (app2 Gen.CList.cons (fromBool true) (churchList [Gen.Comb.K, intoChurch 2]))) =
    some (churchList [Gen.Comb.K, intoChurch 2], c) :=
  C16_tail_cons_church_hap_values _ _ (by
    intro u hu
    simp only [List.mem_cons, List.not_mem_nil, or_false] at hu
    rcases hu with rfl | rfl | rfl
    · exact hapValue_bool true
    · exact .mk' (by decide) (by decide)
    · exact hapValue_church 2)
example : ∃ fuel c, reduce .HAP 0 fuel
    (app Gen.GList.head (app2 Gen.GList.cons (intoChurch 3) (parigotList [intoChurch 1]))) = some (intoChurch 3, c) :=
  C16_head_cons_parigot_hap_values _ _ (forall_map hapValue_church [3, 1])

/-! ### non-vacuity: Church numerals in a Scott / Parigot list, a mixed list -/

example : ∃ fuel c, reduce .HAP 0 fuel (app Gen.SList.tail (scottList [intoChurch 2, intoChurch 0, intoChurch 1])) =
    some (scottList [intoChurch 0, intoChurch 1], c) :=
  C16_tail_scottList_hap_nums .Church 2 [0, 1]

example : ∃ fuel c, reduce .HAP 0 fuel (app Gen.GList.head (parigotList [intoChurch 3, intoChurch 1])) =
    some (intoChurch 3, c) :=
  C16_head_parigotList_hap_nums .Church 3 [1]
example : ∃ fuel c, reduce .HAP 0 fuel
    (app2 Gen.GList.cons (intoChurch 3) (app2 Gen.GList.cons (intoChurch 1) Gen.GList.nil)) =
    some (parigotList [intoChurch 3, intoChurch 1], c) :=
  C16_conv_is_cons_parigot_hap_nums .Church [3, 1]

example : ∃ fuel c, reduce .HAP 0 fuel (app Gen.PList.head (pairList [intoStumpFu 2, intoBinary 5, intoChurch 0])) =
    some (intoStumpFu 2, c) :=
  C16_head_pairList_hap_values _ _ (by
    intro u hu
    simp only [List.mem_cons, List.not_mem_nil, or_false] at hu
    rcases hu with rfl | rfl | rfl
    · exact hapValue_stumpfu 2
    · exact hapValue_binary 5
    · exact hapValue_church 0)
example : ∃ fuel c, reduce .HAP 0 fuel (app Gen.GList.is_nil (parigotList [intoChurch 0])) = some (fromBool false, c) :=
  C16_is_nil_parigotList_hap_nums .Church [0]
example : ∃ fuel c, reduce .HAP 0 fuel
    (app2 Gen.SList.cons (intoChurch 2) (app2 Gen.SList.cons (intoChurch 7) Gen.SList.nil)) =
    some (scottList [intoChurch 2, intoChurch 7], c) :=
  C16_conv_is_cons_scott_hap_nums .Church [2, 7]

example : ∃ fuel c, reduce .HAP 0 fuel (app Gen.PList.length (pairList [intoScott 3, fromBool true])) =
    some (intoChurch 2, c) :=
  C16_length_hap_values _ (by
    intro u hu
    simp only [List.mem_cons, List.not_mem_nil, or_false] at hu
    rcases hu with rfl | rfl
    · exact hapValue_scott 3
    · exact hapValue_bool true)
example : ∃ fuel c, reduce .HAP 0 fuel (app2 Gen.PList.index (intoChurch 1) (pairList [intoScott 3, intoScott 5])) =
    some (intoScott 5, c) :=
  C16_index_hap_values [intoScott 3, intoScott 5] (forall_map hapValue_scott [3, 5]) 1 (by decide)
example : ∃ fuel c, reduce .HAP 0 fuel (app2 Gen.PList.take (intoChurch 1) (pairList [intoParigot 1, intoParigot 2])) =
    some (pairList [intoParigot 1], c) :=
  C16_take_hap_values 1 _ (forall_map hapValue_parigot [1, 2])
example : ∃ fuel c, reduce .HAP 0 fuel
    (app2 (app Gen.PList.list (intoChurch 2)) (intoScott 1) (intoScott 0)) = some (pairList [intoScott 1, intoScott 0], c) :=
  C16_list_hap_values [intoScott 1, intoScott 0] (forall_map hapValue_scott [1, 0])

example : ∃ fuel c, reduce .HAP 0 fuel
    (app Gen.CList.tail (churchList [fromBool true, Gen.Comb.K, intoScott 2, pairList [intoChurch 1]])) =
    some (churchList [Gen.Comb.K, intoScott 2, pairList [intoChurch 1]], c) :=
  C16_tail_churchList_hap_values _ _ (by
    intro u hu
    simp only [List.mem_cons, List.not_mem_nil, or_false] at hu
    rcases hu with rfl | rfl | rfl | rfl
    · exact hapValue_bool true
    · exact .mk' (by decide) (by decide)
    · exact hapValue_scott 2
    · exact .mk' (by decide) (by decide))

/-- the kernel agrees on a ground instance (independent of the big-step development) -/
example : (reduce .HAP 0 200 (app Gen.SList.tail (scottList [intoChurch 2, intoChurch 0]))).map (·.1) =
    some (scottList [intoChurch 0]) := by decide +kernel

end LC
