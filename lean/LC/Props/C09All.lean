/-
C09 (companion module) — the Classic notation on ALL strings: the converse lexer theorem

The Classic theorems of `LC/Props/C09.lean` are stated for input strings that are RENDERINGS of named
tokens (`Cl.Renders`: the documented lexical elements).  The property quantifies over all strings.
This file is about all strings:
for every character classification satisfying `Cl.ClsOk` in which the dot is not alphanumeric
(`hdot`; both are checked for Rust's classification on every code point by the harness) and for
EVERY string `s`, exactly one of the following holds (`C09_cla_lex_total_classification`; two of the six
exclusions are `C09_cla_lex_classes_disjoint`, all six `C09_cla_lex_classes_exclusive` in `C09AllMore.lean`):

1. the lexer fails: `s = pre ++ c :: post` where `c` is OFFENDING after `pre` (`Cl.Offending`: at a
   token boundary / as first / as later character of a binder name), and the result is
   `InvalidCharacter pre.length c`; there is only one such position (`C09_cla_offending_unique`);
2. `s` is a rendering (`Cl.Renders`) of the tokens the lexer returns: the domain of `LC/Props/C09.lean`;
3. RESIDUAL CLASS A (known finding 2, DESIGN §8b): `s` is a rendering of COMPLETE tokens except that
   some binder name contains the glyph `λ` (`Cl.RendersB` and not `Cl.GlyphFree`): `λxλy.x`, `\λ.x`.
   `parse` treats the tokens like any others: it succeeds iff they are a printing of a named term
   `nt`, with result `Cl.toDeBruijn nt`; the binder in question binds nothing
   (`C09_cla_glyph_binder_binds_nothing`);
4. RESIDUAL CLASS B: the input ends inside a binder (`Cl.CutBinder`: `… λ`, `… λxy`, no dot).  The
   lexer pushes the unterminated binder; `parse` is ALWAYS an error: `InvalidExpression` if the
   parentheses are unbalanced, `EmptyExpression` otherwise (`C09_cla_cut_binder`).

Specification: `LC/Spec/ClassicAllSpec.lean`; proofs: `LC/Proofs/Syntax/ClassicAll.lean`.
-/
import LC.Props.C09

namespace LC
open Term Parser Spec


namespace C09All

/-- the error of `parse` after a successful lexer run: `InvalidExpression` iff the parentheses of the
named tokens are unbalanced, `EmptyExpression` iff they are balanced but the shape is not a
well-formed expression -/
theorem parse_err_shape {cls : CharCls} {s : List Nat} {cts : List CToken}
    (hl : tokenizeCla cls s = .ok cts) (e : ParseError) :
    parse cls s .Classic = .err e ↔
      (C09D.balAux 0 (cts.map Cl.cshape) = false ∧ e = .InvalidExpression) ∨
      (C09D.balAux 0 (cts.map Cl.cshape) = true ∧ (¬ ∃ u, Gr.DExpr (cts.map Cl.cshape) u) ∧
        e = .EmptyExpression) := by
  obtain ⟨ts, h1⟩ := C09_cla_resolve_total cts
  have hwf : (∃ t, Gr.DExpr ts t) ↔ ∃ u, Gr.DExpr (cts.map Cl.cshape) u := by
    rw [← C09_cla_wellformed_iff cls s cts hl]
    exact exists_congr fun t => (C09_cla_ok_iff cls s cts ts t hl h1).symm
  rw [parse_err_of_tokens (tokensFor_cla hl h1), C09D.parseTokens_error_iff, C09.balAux_resolve h1, hwf]

theorem cut_not_DExpr {cls : CharCls} {cts : List CToken} {s : List Nat}
    (h : Cl.CutBinder cls cts s) (u : Term) : ¬ Gr.DExpr (cts.map Cl.cshape) u := by
  obtain ⟨cts₀, pre, g, nm, _, rfl, _⟩ := h
  rw [List.map_append]
  exact (not_DExpr_empty (cts₀.map Cl.cshape) [] u).2.2

theorem glyphFree_iff (cts : List CToken) :
    Cl.GlyphFree cts ↔ ¬ ∃ n, CToken.CLambda n ∈ cts ∧ cLambda ∈ n :=
  ⟨fun h ⟨n, hn, hl⟩ => h n hn hl, fun h n hn hl => h ⟨n, hn, hl⟩⟩

end C09All

/-! ## facts used in the examples

Code points: `λ` 955, `\` 92, `(` 40, `)` 41, `.` 46, space 32, `#` 35, `1` 49, `2` 50, `x` 120, `y` 121.
The classification is the ASCII (+ `λ`) one of `LC/Proofs/Syntax/Classic.lean`. -/

namespace C09All.Examples
open C09C.Examples (asciiCls asciiCls_ok wf_x)
open Parser.CToken Parser.Token Cl.NTerm

theorem asciiCls_dot : asciiCls.isAlnum cDot = false := C09C.Examples.asciiCls_dot

theorem bn_x : Cl.BName asciiCls [120] := ⟨120, [], rfl, by decide, by simp⟩
theorem bn_xly : Cl.BName asciiCls [120, 955, 121] := ⟨120, [955, 121], rfl, by decide, by decide⟩
theorem bn_l : Cl.BName asciiCls [955] := ⟨955, [], rfl, by decide, by simp⟩

/-- KNOWN FINDING 2, `λxλy.x`: ONE binder named `xλy`, body the free variable `x` … -/
theorem rendersB_kf2 : Cl.RendersB asciiCls [CLambda [120, 955, 121], CName [120]]
    [955, 120, 955, 121, 46, 120] :=
  .lam (g := 955) (n := [120, 955, 121]) (by decide) bn_xly (.name (n := [120]) wf_x trivial .nil)

/-- `x #`: after the rendering `x␣` of the name `x`, the character `#` cannot start a token -/
theorem off_x_hash : Cl.Offending asciiCls [120, 32] 35 :=
  .inl ⟨[CName [120]], .name (n := [120]) wf_x (.inl (by decide)) (.ws (by decide) .nil),
    .inr (by decide), by decide, by decide, by decide, by decide, by decide⟩

/-- `asciiCls` with the dot alphanumeric: `Cl.ClsOk` still holds (`dotCls_ok`) -/
def dotCls : CharCls where
  isWs := asciiCls.isWs
  isAlpha := asciiCls.isAlpha
  isAlnum c := asciiCls.isAlnum c || c == 46
  digit16 := asciiCls.digit16

theorem dotCls_ok : Cl.ClsOk dotCls := by
  obtain ⟨h1, h2, h3⟩ := asciiCls_ok
  refine ⟨h1, fun c h => ?_, fun c h => ?_⟩
  · show (asciiCls.isAlnum c || c == 46) = true
    rw [h2 c h]; rfl
  · have h' : asciiCls.isAlnum c = true ∨ c = 46 := by
      simpa [dotCls] using h
    rcases h' with h' | rfl
    · exact h3 c h'
    · exact ⟨by decide, by decide, by decide, by decide⟩

/-- under `dotCls` the string `x.y` is neither a rendering of complete tokens nor cut off inside a
binder — although the lexer accepts it (as ONE variable name) -/
theorem dot_not_lexes (cts : List CToken) :
    ¬ (Cl.RendersB dotCls cts [120, 46, 121] ∨ Cl.CutBinder dotCls cts [120, 46, 121]) := by
  intro h
  have h1 := C09A.lex_lexes dotCls_ok h
  rw [show tokenizeCla dotCls [120, 46, 121] = .ok [CName [120, 46, 121]] from rfl] at h1
  cases h1
  have hwf : ∀ {cts s}, Cl.RendersB dotCls cts s → ∀ n, cts = [CName n] → Cl.WfName dotCls n := by
    intro cts s h
    induction h with
    | nil => intro n hn; cases hn
    | ws _ _ ih => exact ih
    | lparen _ _ => intro n hn; cases hn
    | rparen _ _ => intro n hn; cases hn
    | lam _ _ _ _ => intro n hn; cases hn
    | name hn _ _ _ => intro n h; cases h; exact hn
  rcases h with h | ⟨cts₀, _, _, nm, _, hc, _⟩
  · exact (hwf h _ rfl).2.1 46 (by simp) rfl
  · cases cts₀ with
    | nil => cases hc
    | cons a l => cases l <;> simp at hc

end C09All.Examples

open C09C.Examples (asciiCls asciiCls_ok wf_x)
open C09All.Examples
open Parser.CToken Parser.Token Cl.NTerm


/-- the renderings of `LC/Props/C09.lean` are the renderings of complete tokens (`Cl.RendersB`: a
binder name is whatever the lexer reads as one, a letter followed by alphanumeric characters) in
which no binder name contains the glyph `λ` -/
theorem C09_cla_renders_iff (cls : CharCls) (hcls : Cl.ClsOk cls)
    (hdot : cls.isAlnum cDot = false) (cts : List CToken) (s : List Nat) :
    Cl.Renders cls cts s ↔ Cl.RendersB cls cts s ∧ Cl.GlyphFree cts :=
  ⟨fun h => ⟨C09C.rendersB_of_renders h, C09A.glyphFree_of_renders h⟩,
   fun h => C09A.renders_of_rendersB hcls hdot h.1 h.2⟩

/-- known finding 2: `λxλy.x` is a rendering of complete tokens (`rendersB_kf2`: ONE binder, named
`xλy`) but NOT a rendering in the sense of `Cl.Renders`, of any tokens -/
example (cts : List CToken) : ¬ Cl.Renders asciiCls cts [955, 120, 955, 121, 46, 120] := by
  intro h
  have h1 := tokenizeCla_render asciiCls asciiCls_ok cts _ h
  have h2 := C09C.lex_rendersB asciiCls_ok rendersB_kf2
  rw [h1] at h2
  cases h2
  exact C09A.glyphFree_of_renders h [120, 955, 121] (by simp) (by decide)

/-- what a binder name is for the lexer, next to `Cl.WfName`: a well-formed name is a binder name
that does not contain the glyph `λ` -/
theorem C09_cla_wfName_iff_bName (cls : CharCls) (hcls : Cl.ClsOk cls)
    (hdot : cls.isAlnum cDot = false) (n : List Nat) :
    Cl.WfName cls n ↔ Cl.BName cls n ∧ cLambda ∉ n :=
  C09A.wfName_iff_bName hcls hdot n

/-- `xλy` is a binder name for the lexer, but not a well-formed name -/
example : Cl.BName asciiCls [120, 955, 121] ∧ ¬ Cl.WfName asciiCls [120, 955, 121] :=
  ⟨bn_xly, fun h => ((C09_cla_wfName_iff_bName _ asciiCls_ok asciiCls_dot _).1 h).2 (by decide)⟩

/-- C09, CONVERSE LEXER THEOREM.  For EVERY string `s`:
* the lexer fails with `InvalidCharacter i c`, where `i` is the length of a prefix `pre` after which
  the character `c` is offending (`Cl.Offending`: `pre` renders complete tokens and `c` can neither
  start a token nor continue the variable name `pre` may end in; or `pre` is such a rendering
  followed by a glyph and `c` is not a letter; or by a glyph and a non-empty beginning of a binder
  name, and `c` is neither the dot nor alphanumeric); or
* the lexer returns tokens of which `s` is a rendering in the sense of `Cl.Renders`; or
* (residual class A, known finding 2) it returns complete tokens of which `s` is a rendering except
  that some binder name contains the glyph `λ`; or
* (residual class B) the input ends inside a binder, which the lexer pushes unterminated. -/
theorem C09_cla_lex_total_classification (cls : CharCls) (hcls : Cl.ClsOk cls)
    (hdot : cls.isAlnum cDot = false) (s : List Nat) :
    (∃ pre c post, s = pre ++ c :: post ∧ Cl.Offending cls pre c ∧
      tokenizeCla cls s = .error (.InvalidCharacter pre.length c)) ∨
    (∃ toks, tokenizeCla cls s = .ok toks ∧ Cl.Renders cls toks s) ∨
    (∃ toks, tokenizeCla cls s = .ok toks ∧ Cl.RendersB cls toks s ∧
      ∃ n, CToken.CLambda n ∈ toks ∧ cLambda ∈ n) ∨
    (∃ toks, tokenizeCla cls s = .ok toks ∧ Cl.CutBinder cls toks s) := by
  rcases C09A.lex_total hcls hdot s with h | ⟨cts, hr | hc, hl⟩
  · exact .inl h
  · by_cases hg : ∃ n, CToken.CLambda n ∈ cts ∧ cLambda ∈ n
    · exact .inr (.inr (.inl ⟨cts, hl, hr, hg⟩))
    · exact .inr (.inl ⟨cts, hl,
        C09A.renders_of_rendersB hcls hdot hr ((C09All.glyphFree_iff cts).2 hg)⟩)
  · exact .inr (.inr (.inr ⟨cts, hl, hc⟩))

/-- THE HYPOTHESIS `hdot` IS NEEDED (for `C09_cla_lex_total_classification` and everything derived
from it): with `dotCls` — `Cl.ClsOk` holds, the dot is alphanumeric — the string `x.y` lexes as ONE
variable name; it is not a rendering of any tokens and belongs to neither residual class -/
example : tokenizeCla dotCls [120, 46, 121] = .ok [CName [120, 46, 121]] := rfl
example (cts : List CToken) :
    ¬ (Cl.RendersB dotCls cts [120, 46, 121] ∨ Cl.CutBinder dotCls cts [120, 46, 121]) :=
  dot_not_lexes cts
example (cts : List CToken) : ¬ Cl.Renders dotCls cts [120, 46, 121] :=
  fun h => dot_not_lexes cts (.inl (C09C.rendersB_of_renders h))

example : ∃ toks, tokenizeCla asciiCls [955, 120, 955, 121, 46, 120] = .ok toks ∧
    Cl.RendersB asciiCls toks [955, 120, 955, 121, 46, 120] ∧
    ∃ n, CToken.CLambda n ∈ toks ∧ cLambda ∈ n :=
  ⟨[.CLambda [120, 955, 121], .CName [120]], rfl, rendersB_kf2, [120, 955, 121], by simp, by decide⟩

/-- two of the six exclusions between the four classes (all six: `C09_cla_lex_classes_exclusive`): a rendering
has no `λ` in a binder name, and a string is not both a rendering of complete tokens and cut off
inside a binder -/
theorem C09_cla_lex_classes_disjoint (cls : CharCls) (hcls : Cl.ClsOk cls) (s : List Nat)
    (toks toks' : List CToken) :
    (Cl.Renders cls toks s → ¬ ∃ n, CToken.CLambda n ∈ toks ∧ cLambda ∈ n) ∧
    (Cl.RendersB cls toks s → ¬ Cl.CutBinder cls toks' s) :=
  ⟨fun h => (C09All.glyphFree_iff toks).1 (C09A.glyphFree_of_renders h),
   fun h h' => C09A.rendersB_not_cut hcls h h'⟩

example : ¬ Cl.CutBinder asciiCls [.CLambda [120]] [955, 120, 46] :=
  (C09_cla_lex_classes_disjoint _ asciiCls_ok _ [.CLambda [120]] _).2
    (.lam (g := 955) (n := [120]) (by decide) bn_x .nil)

/-- the lexer succeeds exactly on the renderings of complete tokens (binder names as the lexer reads
them) and on the inputs that end inside a binder, and returns those tokens -/
theorem C09_cla_lex_ok_iff (cls : CharCls) (hcls : Cl.ClsOk cls) (hdot : cls.isAlnum cDot = false)
    (s : List Nat) (toks : List CToken) :
    tokenizeCla cls s = .ok toks ↔ Cl.RendersB cls toks s ∨ Cl.CutBinder cls toks s :=
  C09A.lex_ok_iff hcls hdot s toks

/-- `x λy`: the input ends inside the binder `λy` -/
example : tokenizeCla asciiCls [120, 32, 955, 121] = .ok [.CName [120], .CLambda [121]] :=
  (C09_cla_lex_ok_iff _ asciiCls_ok (by decide) _ _).2
    (.inr ⟨[.CName [120]], [120, 32], 955, [121], rfl, rfl,
      .name (n := [120]) wf_x (.inl (by decide)) (.ws (by decide) .nil), by decide,
      .inr ⟨121, [], rfl, by decide, by simp⟩⟩)

/-- the lexer fails exactly when the string has an offending position, and reports that character
with its character index -/
theorem C09_cla_lex_error_iff (cls : CharCls) (hcls : Cl.ClsOk cls)
    (hdot : cls.isAlnum cDot = false) (s : List Nat) (e : ParseError) :
    tokenizeCla cls s = .error e ↔
      ∃ pre c post, s = pre ++ c :: post ∧ Cl.Offending cls pre c ∧
        e = .InvalidCharacter pre.length c :=
  C09A.lex_error_iff hcls hdot s e

/-- `λx#`: `#` (35) is offending as a later character of a binder name -/
example : tokenizeCla asciiCls ([955, 120] ++ 35 :: []) = .error (.InvalidCharacter 2 35) :=
  (C09_cla_lex_error_iff _ asciiCls_ok (by decide) _ _).2
    ⟨[955, 120], 35, [], rfl,
      .inr (.inr ⟨[], [], 955, [120], rfl, .nil, by decide, bn_x, by decide, by decide⟩), rfl⟩

/-- an offending position is reported whatever follows it … -/
theorem C09_cla_offending_reported (cls : CharCls) (hcls : Cl.ClsOk cls) (pre : List Nat) (c : Nat)
    (post : List Nat) (h : Cl.Offending cls pre c) :
    tokenizeCla cls (pre ++ c :: post) = .error (.InvalidCharacter pre.length c) ∧
    parse cls (pre ++ c :: post) .Classic = .err (.InvalidCharacter pre.length c) :=
  ⟨C09C.lex_offending hcls h post, C09_cla_lex_error cls _ _ (C09C.lex_offending hcls h post)⟩

/-- `x #…`: `#` is offending at a token boundary (after whitespace) -/
example : parse asciiCls ([120, 32] ++ 35 :: [121]) .Classic
    = .err (.InvalidCharacter 2 35) :=
  (C09_cla_offending_reported _ asciiCls_ok [120, 32] 35 [121] off_x_hash).2

/-- … and it is THE FIRST one: a string has at most one offending position (nothing after it is
looked at) -/
theorem C09_cla_offending_unique (cls : CharCls) (hcls : Cl.ClsOk cls)
    (pre pre' post post' : List Nat) (c c' : Nat)
    (h : Cl.Offending cls pre c) (h' : Cl.Offending cls pre' c')
    (hs : pre ++ c :: post = pre' ++ c' :: post') : pre = pre' ∧ c = c' ∧ post = post' := by
  have h1 := C09C.lex_offending hcls h post
  have h2 := C09C.lex_offending hcls h' post'
  rw [hs, h2] at h1
  simp only [Except.error.injEq, ParseError.InvalidCharacter.injEq] at h1
  obtain ⟨hp, hq⟩ := List.append_inj hs h1.1.symm
  obtain ⟨hc, hq⟩ := List.cons.inj hq
  exact ⟨hp, hc, hq⟩

example : ([120, 32] : List Nat) = [120, 32] ∧ (35 : Nat) = 35 ∧ ([121] : List Nat) = [121] :=
  C09_cla_offending_unique asciiCls asciiCls_ok [120, 32] [120, 32] [121] [121] 35 35
    off_x_hash off_x_hash rfl

/-- in the tokens of any string, no variable is named like a binder whose name contains the glyph
`λ` (a variable name never contains it): such a binder binds nothing -/
theorem C09_cla_glyph_binder_binds_nothing (cls : CharCls) (toks : List CToken) (s : List Nat)
    (h : Cl.RendersB cls toks s) (m n : List Nat) (hm : CToken.CLambda m ∈ toks)
    (hl : cLambda ∈ m) (hn : CToken.CName n ∈ toks) : n ≠ m := by
  rintro rfl
  exact C09A.rendersB_name_glyphfree h n hn hl

/-- in `λxλy.x` the variable `x` is not bound by the binder `xλy` -/
example : ([120] : List Nat) ≠ [120, 955, 121] :=
  C09_cla_glyph_binder_binds_nothing asciiCls _ _ rendersB_kf2 _ _ (by simp) (by decide) (by simp)


/-- C09, Classic notation, ALL STRINGS, success, in one clause: `parse` succeeds with `t` exactly when `s` is a rendering of complete
tokens (binder names as the lexer reads them) that are an admissible printing of a named term whose
translation is `t` -/
theorem C09_cla_all_strings_rendersB (cls : CharCls) (hcls : Cl.ClsOk cls)
    (hdot : cls.isAlnum cDot = false) (s : List Nat) (t : Term) :
    parse cls s .Classic = .ok t ↔
      ∃ cts nt, Cl.RendersB cls cts s ∧ Cl.PrintsN nt false true cts ∧ t = Cl.toDeBruijn nt := by
  constructor
  · intro h
    cases hl : tokenizeCla cls s with
    | error e => rw [C09_cla_lex_error cls s e hl] at h; cases h
    | ok cts =>
      obtain ⟨u, hu⟩ := (C09_cla_wellformed_iff cls s cts hl).1 ⟨t, h⟩
      rcases (C09A.lex_ok_iff hcls hdot s cts).1 hl with hr | hc
      · obtain ⟨nt, hp⟩ := (C09_cla_wellformed_iff_printing cts).1 ⟨u, hu⟩
        rw [parse_cla_of_lex_prints hl hp] at h
        cases h
        exact ⟨cts, nt, hr, hp, rfl⟩
      · exact absurd hu (C09All.cut_not_DExpr hc u)
  · rintro ⟨cts, nt, hr, hp, rfl⟩
    exact parse_cla_of_lex_prints (C09C.lex_rendersB hcls hr) hp

/-- C09, Classic notation, ALL STRINGS, success.  `parse` succeeds with `t` exactly when
* `s` is a rendering (`Cl.Renders`: the documented lexical elements) of named tokens that are an
  admissible printing of a named term `nt`, and `t` is the standard De Bruijn translation of `nt`
  (the domain and the statement of `C09_cla_complete`); or
* (residual class A, known finding 2) the same with a binder name that contains the glyph `λ`: `s` is
  a rendering of complete tokens `cts` (`Cl.RendersB`), some binder name of `cts` contains `λ`, `cts` is
  an admissible printing of a named term `nt` (in which that binder binds nothing), and `t` is the
  translation of `nt`.
No other string parses: not those with an offending character, and not those that end inside a
binder (residual class B). -/
theorem C09_cla_all_strings (cls : CharCls) (hcls : Cl.ClsOk cls) (hdot : cls.isAlnum cDot = false)
    (s : List Nat) (t : Term) :
    parse cls s .Classic = .ok t ↔
      (∃ cts nt, Cl.Renders cls cts s ∧ Cl.PrintsN nt false true cts ∧ t = Cl.toDeBruijn nt) ∨
      (∃ cts nt, Cl.RendersB cls cts s ∧ (∃ n, CToken.CLambda n ∈ cts ∧ cLambda ∈ n) ∧
        Cl.PrintsN nt false true cts ∧ t = Cl.toDeBruijn nt) := by
  rw [C09_cla_all_strings_rendersB cls hcls hdot]
  constructor
  · rintro ⟨cts, nt, hr, hp, rfl⟩
    by_cases hg : ∃ n, CToken.CLambda n ∈ cts ∧ cLambda ∈ n
    · exact .inr ⟨cts, nt, hr, hg, hp, rfl⟩
    · exact .inl ⟨cts, nt,
        C09A.renders_of_rendersB hcls hdot hr ((C09All.glyphFree_iff cts).2 hg), hp, rfl⟩
  · rintro (⟨cts, nt, hr, hp, rfl⟩ | ⟨cts, nt, hr, _, hp, rfl⟩)
    · exact ⟨cts, nt, C09C.rendersB_of_renders hr, hp, rfl⟩
    · exact ⟨cts, nt, hr, hp, rfl⟩

/-- known finding 2, `λxλy.x` (residual class A): it parses to `λ2`, the translation of the named
term `λ(xλy). x`, in which the binder binds nothing -/
example : parse asciiCls [955, 120, 955, 121, 46, 120] .Classic = .ok (abs (var 2)) :=
  (C09_cla_all_strings asciiCls asciiCls_ok asciiCls_dot _ _).2
    (.inr ⟨_, nlam [120, 955, 121] (nvar [120]), rendersB_kf2, ⟨[120, 955, 121], by simp, by decide⟩,
      .lam .var, by decide⟩)

/-- the second witness of known finding 2, `\λ.x`: a binder named `λ`; result `λ2` -/
example : parse asciiCls [92, 955, 46, 120] .Classic = .ok (abs (var 2)) :=
  (C09_cla_all_strings asciiCls asciiCls_ok asciiCls_dot _ _).2
    (.inr ⟨_, nlam [955] (nvar [120]),
      .lam (g := 92) (n := [955]) (by decide) bn_l (.name (n := [120]) wf_x trivial .nil),
      ⟨[955], by simp, by decide⟩, .lam .var, by decide⟩)

/-- `C09_cla_all_strings`, first clause, on a rendering: `λx.x` -/
example : parse asciiCls [955, 120, 46, 120] .Classic = .ok (abs (var 1)) :=
  (C09_cla_all_strings asciiCls asciiCls_ok asciiCls_dot _ _).2
    (.inl ⟨_, nlam [120] (nvar [120]),
      .lam (g := 955) (n := [120]) (by decide) wf_x (.name (n := [120]) wf_x trivial .nil),
      .lam .var, by decide⟩)

example : parse asciiCls [955, 120, 955, 121, 46, 120] .Classic = .ok (abs (var 2)) :=
  (C09_cla_all_strings_rendersB asciiCls asciiCls_ok asciiCls_dot _ _).2
    ⟨_, nlam [120, 955, 121] (nvar [120]), rendersB_kf2, .lam .var, by decide⟩

/-- the result on residual class A: any rendering of complete tokens that are a printing of a named
term parses to its translation, whatever the binder names -/
theorem C09_cla_denotes_rendersB (cls : CharCls) (hcls : Cl.ClsOk cls) (nt : Cl.NTerm)
    (arg fin : Bool) (cts : List CToken) (s : List Nat)
    (hp : Cl.PrintsN nt arg fin cts) (hr : Cl.RendersB cls cts s) :
    parse cls s .Classic = .ok (Cl.toDeBruijn nt) :=
  parse_cla_of_lex_prints (C09C.lex_rendersB hcls hr) hp

example : parse asciiCls [955, 120, 955, 121, 46, 120] .Classic
    = .ok (Cl.toDeBruijn (nlam [120, 955, 121] (nvar [120]))) :=
  C09_cla_denotes_rendersB asciiCls asciiCls_ok _ false true _ _ (.lam .var) rendersB_kf2

/-- the result on residual class B: an input that ends inside a binder is always an error —
`InvalidExpression` if the parentheses (of the whole input) are unbalanced, `EmptyExpression`
otherwise (the unterminated binder is an abstraction without body) -/
theorem C09_cla_cut_binder (cls : CharCls) (hcls : Cl.ClsOk cls) (cts : List CToken) (s : List Nat)
    (h : Cl.CutBinder cls cts s) :
    tokenizeCla cls s = .ok cts ∧
    parse cls s .Classic =
      .err (if C09D.balAux 0 (cts.map Cl.cshape) = true then .EmptyExpression
            else .InvalidExpression) := by
  have hl := C09A.lex_cutBinder hcls h
  refine ⟨hl, (C09All.parse_err_shape hl _).2 ?_⟩
  cases hb : C09D.balAux 0 (cts.map Cl.cshape) with
  | false => exact .inl ⟨rfl, rfl⟩
  | true => exact .inr ⟨rfl, fun ⟨u, hu⟩ => C09All.cut_not_DExpr h u hu, rfl⟩

/-- the crate's own test: `λλλ` is `EmptyExpression` — the input ends inside a binder whose name
is `λλ` (residual class B; with the backslash, `\\\` is `InvalidCharacter 1 '\'`) -/
example : parse asciiCls [955, 955, 955] .Classic = .err .EmptyExpression :=
  (C09_cla_cut_binder asciiCls asciiCls_ok [CLambda [955, 955]] [955, 955, 955]
    ⟨[], [], 955, [955, 955], rfl, rfl, .nil, by decide,
      .inr ⟨955, [955], rfl, by decide, by decide⟩⟩).2
example : parse asciiCls [92, 92, 92] .Classic = .err (.InvalidCharacter 1 92) := rfl

/-- residual class B: `λx` and `λ` (an unterminated binder; balanced, hence `EmptyExpression`) … -/
example : parse asciiCls [955, 120] .Classic = .err .EmptyExpression :=
  (C09_cla_cut_binder asciiCls asciiCls_ok [CLambda [120]] [955, 120]
    ⟨[], [], 955, [120], rfl, rfl, .nil, by decide, .inr bn_x⟩).2
example : parse asciiCls [955] .Classic = .err .EmptyExpression :=
  (C09_cla_cut_binder asciiCls asciiCls_ok [CLambda []] [955]
    ⟨[], [], 955, [], rfl, rfl, .nil, by decide, .inl rfl⟩).2

/-- … and `(λx`: unbalanced, hence `InvalidExpression` -/
example : parse asciiCls [40, 955, 120] .Classic = .err .InvalidExpression :=
  (C09_cla_cut_binder asciiCls asciiCls_ok [CLparen, CLambda [120]] [40, 955, 120]
    ⟨[CLparen], [40], 955, [120], rfl, rfl, .lparen .nil, by decide, .inr bn_x⟩).2

/-- C09, Classic notation, ALL STRINGS, errors.  `parse` returns
* `InvalidCharacter i c` exactly when `c` is the character at index `i` and is offending after the
  first `i` characters;
* `InvalidExpression` exactly when the string lexes (`Cl.RendersB` or `Cl.CutBinder`) to tokens whose
  parentheses are unbalanced;
* `EmptyExpression` exactly when it lexes to tokens with balanced parentheses which are not a
  well-formed expression (an empty input, group or abstraction body). -/
theorem C09_cla_err_all_strings (cls : CharCls) (hcls : Cl.ClsOk cls)
    (hdot : cls.isAlnum cDot = false) (s : List Nat) (e : ParseError) :
    parse cls s .Classic = .err e ↔
      (∃ pre c post, s = pre ++ c :: post ∧ Cl.Offending cls pre c ∧
        e = .InvalidCharacter pre.length c) ∨
      (∃ cts, (Cl.RendersB cls cts s ∨ Cl.CutBinder cls cts s) ∧
        C09D.balAux 0 (cts.map Cl.cshape) = false ∧ e = .InvalidExpression) ∨
      (∃ cts, (Cl.RendersB cls cts s ∨ Cl.CutBinder cls cts s) ∧
        C09D.balAux 0 (cts.map Cl.cshape) = true ∧ (¬ ∃ u, Gr.DExpr (cts.map Cl.cshape) u) ∧
        e = .EmptyExpression) := by
  constructor
  · intro h
    cases hl : tokenizeCla cls s with
    | error e' =>
      rw [C09_cla_lex_error cls s e' hl] at h
      cases h
      exact .inl ((C09A.lex_error_iff hcls hdot s _).1 hl)
    | ok cts =>
      have hlex := (C09A.lex_ok_iff hcls hdot s cts).1 hl
      rcases (C09All.parse_err_shape hl e).1 h with ⟨hb, he⟩ | ⟨hb, hn, he⟩
      · exact .inr (.inl ⟨cts, hlex, hb, he⟩)
      · exact .inr (.inr ⟨cts, hlex, hb, hn, he⟩)
  · rintro (⟨pre, c, post, rfl, ho, rfl⟩ | ⟨cts, hlex, hb, rfl⟩ | ⟨cts, hlex, hb, hn, rfl⟩)
    · exact C09_cla_lex_error cls _ _ (C09C.lex_offending hcls ho post)
    · exact (C09All.parse_err_shape (C09A.lex_lexes hcls hlex) _).2 (.inl ⟨hb, rfl⟩)
    · exact (C09All.parse_err_shape (C09A.lex_lexes hcls hlex) _).2 (.inr ⟨hb, hn, rfl⟩)

/-- `C09_cla_err_all_strings`, second clause: `x)` lexes to tokens with unbalanced parentheses -/
example : parse asciiCls [120, 41] .Classic = .err .InvalidExpression :=
  (C09_cla_err_all_strings asciiCls asciiCls_ok asciiCls_dot _ _).2
    (.inr (.inl ⟨[CName [120], CRparen],
      .inl (.name (n := [120]) wf_x (.inl (by decide)) (.rparen .nil)), by decide, rfl⟩))

/-- "A character that cannot start any token is reported as `InvalidCharacter` with that character
and its character index", for all strings and exactly: `parse` returns `InvalidCharacter i c` iff
`c` is the character number `i` of the input and is offending after the first `i` characters -/
theorem C09_cla_invalid_char_iff (cls : CharCls) (hcls : Cl.ClsOk cls)
    (hdot : cls.isAlnum cDot = false) (s : List Nat) (i c : Nat) :
    parse cls s .Classic = .err (.InvalidCharacter i c) ↔
      ∃ pre post, s = pre ++ c :: post ∧ i = pre.length ∧ Cl.Offending cls pre c := by
  rw [C09_cla_err_all_strings cls hcls hdot]
  constructor
  · rintro (⟨pre, c', post, rfl, ho, he⟩ | ⟨_, _, _, he⟩ | ⟨_, _, _, _, he⟩)
    · cases he; exact ⟨pre, post, rfl, rfl, ho⟩
    · cases he
    · cases he
  · rintro ⟨pre, post, rfl, rfl, ho⟩
    exact .inl ⟨pre, c, post, rfl, ho, rfl⟩

/-- first kind of offending position, directly after a variable name: `x#` -/
example : parse asciiCls ([120] ++ 35 :: []) .Classic = .err (.InvalidCharacter 1 35) :=
  (C09_cla_invalid_char_iff asciiCls asciiCls_ok asciiCls_dot _ _ _).2
    ⟨[120], [], rfl, rfl, .inl ⟨[CName [120]], .name (n := [120]) wf_x trivial .nil,
      .inr (by decide), by decide, by decide, by decide, by decide, by decide⟩⟩

/-- second kind, the empty binder name `λ.x` (repair F12): the dot is not a letter -/
example : parse asciiCls ([955] ++ 46 :: [120]) .Classic = .err (.InvalidCharacter 1 46) :=
  (C09_cla_invalid_char_iff asciiCls asciiCls_ok asciiCls_dot _ _ _).2
    ⟨[955], [120], rfl, rfl, .inr (.inl ⟨[], [], 955, rfl, .nil, by decide, by decide⟩)⟩

/-- third kind, a later character of a binder name: `\x\y.x` — known finding 2 (`λxλy.x`, which
parses, see above) written with the other glyph — is a lexical error at the second backslash -/
example :
    parse asciiCls ([92, 120] ++ 92 :: [121, 46, 120]) .Classic = .err (.InvalidCharacter 2 92) :=
  (C09_cla_invalid_char_iff asciiCls asciiCls_ok asciiCls_dot _ _ _).2
    ⟨[92, 120], [121, 46, 120], rfl, rfl,
      .inr (.inr ⟨[], [], 92, [120], rfl, .nil, by decide, bn_x, by decide, by decide⟩)⟩

/-- second kind again: `\\.x` — the second witness of known finding 2 (`\λ.x`, which parses) written
with the other glyph — is an error at the second backslash -/
example : parse asciiCls ([92] ++ 92 :: [46, 120]) .Classic = .err (.InvalidCharacter 1 92) :=
  (C09_cla_invalid_char_iff asciiCls asciiCls_ok asciiCls_dot _ _ _).2
    ⟨[92], [46, 120], rfl, rfl, .inr (.inl ⟨[], [], 92, rfl, .nil, by decide, by decide⟩)⟩


/-- token level (both notations): the error of the token-to-term stage is `InvalidExpression` iff
the parentheses are unbalanced and `EmptyExpression` iff they are balanced but the token list is
not a well-formed expression; it is never `InvalidCharacter` -/
theorem C09_token_level_error (ts : List Token) :
    (parseTokens ts = .error .InvalidExpression ↔ C09D.balAux 0 ts = false) ∧
    (parseTokens ts = .error .EmptyExpression ↔
      C09D.balAux 0 ts = true ∧ ¬ ∃ t, Gr.DExpr ts t) ∧
    (∀ i c, parseTokens ts ≠ .error (.InvalidCharacter i c)) := by
  refine ⟨?_, ?_, fun i c h => ?_⟩
  · rw [C09D.parseTokens_error_iff]; simp
  · rw [C09D.parseTokens_error_iff]; simp
  · rw [C09D.parseTokens_error_iff] at h; simp at h

example : parseTokens [.Lparen, .Lambda] = .error .InvalidExpression :=
  (C09_token_level_error _).1.2 (by decide)

/-- De Bruijn notation, ALL STRINGS, errors (the success half, `C09_dbr_ok_iff`, is about all
strings already).  `parse` returns
* `InvalidCharacter i c` exactly when `c` is the FIRST character that is neither a token character
  nor white space, and `i` its character index;
* `InvalidExpression` exactly when all characters are valid and the parentheses are unbalanced;
* `EmptyExpression` exactly when all characters are valid, the parentheses are balanced and the
  tokens are not a well-formed expression. -/
theorem C09_dbr_err_all_strings (cls : CharCls) (s : List Nat) (e : ParseError) :
    parse cls s .DeBruijn = .err e ↔
      (∃ pre c post, s = pre ++ c :: post ∧ (∀ c' ∈ pre, Gr.ValidChar cls c') ∧
        ¬ Gr.ValidChar cls c ∧ e = .InvalidCharacter pre.length c) ∨
      ((∀ c ∈ s, Gr.ValidChar cls c) ∧ C09D.balAux 0 (Gr.tokensOf cls s) = false ∧
        e = .InvalidExpression) ∨
      ((∀ c ∈ s, Gr.ValidChar cls c) ∧ C09D.balAux 0 (Gr.tokensOf cls s) = true ∧
        (¬ ∃ t, Gr.DExpr (Gr.tokensOf cls s) t) ∧ e = .EmptyExpression) := by
  simp only [parse_err_iff, tokensFor, tokenizeDbr_error_iff, tokenizeDbr_spec,
    C09D.parseTokens_error_iff]
  constructor
  · rintro (h | ⟨ts, ⟨hv, rfl⟩, ⟨hb, he⟩ | ⟨hb, hn, he⟩⟩)
    · exact .inl h
    · exact .inr (.inl ⟨hv, hb, he⟩)
    · exact .inr (.inr ⟨hv, hb, hn, he⟩)
  · rintro (h | ⟨hv, hb, he⟩ | ⟨hv, hb, hn, he⟩)
    · exact .inl h
    · exact .inr ⟨_, ⟨hv, rfl⟩, .inl ⟨hb, he⟩⟩
    · exact .inr ⟨_, ⟨hv, rfl⟩, .inr ⟨hb, hn, he⟩⟩

example : parse asciiCls [49, 41, 50] .DeBruijn = .err .InvalidExpression :=
  (C09_dbr_err_all_strings asciiCls _ _).2 (.inr (.inl ⟨by decide, by decide, rfl⟩))
example : parse asciiCls ([49] ++ 35 :: []) .DeBruijn = .err (.InvalidCharacter 1 35) :=
  (C09_dbr_err_all_strings asciiCls _ _).2
    (.inl ⟨[49], 35, [], rfl, by decide, by decide, rfl⟩)
example : parse asciiCls [40, 41] .DeBruijn = .err .EmptyExpression :=
  (C09_dbr_err_all_strings asciiCls _ _).2
    (.inr (.inr ⟨by decide, by decide, fun ⟨t, ht⟩ => (not_DExpr_empty [] [] t).1 ht, rfl⟩))

end LC
