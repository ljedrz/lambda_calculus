/-
C09, Classic notation on all strings: the glyph binders bind nothing, and the four lexer classes exclude each other.
-/
import LC.Props.C09All
import LC.Proofs.Syntax.ClassicRename

namespace LC
open Term Parser Spec
open C09C.Examples (asciiCls asciiCls_ok wf_x)
open C09All.Examples
open Parser.CToken Parser.Token Cl.NTerm


/-- C09 (general renaming lemma, any named tokens `cts`, any named term `nt` they print): let `f` rename binder
names such that every name is kept or is not the name of a variable token of `cts` and is sent to a name that is
not the name of a variable token either.  Then
(a) the specification's scoped resolution gives the same De Bruijn tokens for the renamed tokens;
(b) the renamed tokens are a printing of the renamed term (`Cl.renameB`: binders renamed, variables untouched);
(c) the renamed term has the same De Bruijn translation. -/
theorem C09_cla_unreferenced_binder_rename (cts : List CToken) (nt : Cl.NTerm) (arg fin : Bool)
    (hp : Cl.PrintsN nt arg fin cts) (f : List Nat → List Nat)
    (hf : ∀ n, f n = n ∨ (CToken.CName n ∉ cts ∧ CToken.CName (f n) ∉ cts)) :
    Cl.resolveAll (cts.map (Cl.renameTok f)) = Cl.resolveAll cts ∧
    Cl.PrintsN (Cl.renameB f nt) arg fin (cts.map (Cl.renameTok f)) ∧
    Cl.toDeBruijn (Cl.renameB f nt) = Cl.toDeBruijn nt := by
  have hf' : Cl.RenamesOutside f (fun n => CToken.CName n ∈ cts) := hf
  exact ⟨Cl.resolveAll_rename hf' cts (fun x hx => hx), Cl.printsN_rename f hp,
    Cl.toDeBruijn_renameB hf' nt (fun x hx => (Cl.printsN_varNames hp x).1 hx)⟩

/-- the hypothesis is needed: renaming a REFERENCED binder changes the translation (`λx.x` ↦ `λz.x`) -/
example : Cl.toDeBruijn (Cl.renameB (fun _ => [122]) (nlam [120] (nvar [120]))) = abs (var 2) ∧
    Cl.toDeBruijn (nlam [120] (nvar [120])) = abs (var 1) := by decide

/-- C09, residual class A, SEMANTIC form of "a binder whose name contains `λ` binds nothing".  Let `s` be a rendering
of complete tokens `cts` (`Cl.RendersB`: ANY string the lexer accepts that does not end inside a binder) which print
the named term `nt`.  Rename the binders whose name contains the glyph `λ` to ANY names that are not names of
variables of the input, keeping the other binder names.  Then
(a) the scoped resolution `Cl.resolveAll` returns the same De Bruijn tokens;
(b) the renamed tokens print the renamed term;
(c) the De Bruijn translation is unchanged;
(d) `parse` returns the same term on `s` and on every string that renders the renamed tokens. -/
theorem C09_cla_glyph_binder_unreferenced (cls : CharCls) (hcls : Cl.ClsOk cls) (cts : List CToken)
    (s : List Nat) (nt : Cl.NTerm) (arg fin : Bool)
    (hr : Cl.RendersB cls cts s) (hp : Cl.PrintsN nt arg fin cts) (f : List Nat → List Nat)
    (hkeep : ∀ n, cLambda ∉ n → f n = n)
    (hfresh : ∀ m, cLambda ∈ m → CToken.CName (f m) ∉ cts) :
    Cl.resolveAll (cts.map (Cl.renameTok f)) = Cl.resolveAll cts ∧
    Cl.PrintsN (Cl.renameB f nt) arg fin (cts.map (Cl.renameTok f)) ∧
    Cl.toDeBruijn (Cl.renameB f nt) = Cl.toDeBruijn nt ∧
    (parse cls s .Classic = .ok (Cl.toDeBruijn nt) ∧
      ∀ s', Cl.RendersB cls (cts.map (Cl.renameTok f)) s' →
        parse cls s' .Classic = .ok (Cl.toDeBruijn nt)) := by
  have hf : ∀ n, f n = n ∨ (CToken.CName n ∉ cts ∧ CToken.CName (f n) ∉ cts) := by
    intro n
    by_cases hl : cLambda ∈ n
    · exact .inr ⟨fun hn => C09A.rendersB_name_glyphfree hr n hn hl, hfresh n hl⟩
    · exact .inl (hkeep n hl)
  obtain ⟨h1, h2, h3⟩ := C09_cla_unreferenced_binder_rename cts nt arg fin hp f hf
  refine ⟨h1, h2, h3, C09_cla_denotes_rendersB cls hcls nt arg fin cts s hp hr, fun s' hr' => ?_⟩
  rw [← h3]
  exact C09_cla_denotes_rendersB cls hcls _ arg fin _ s' h2 hr'

/-- known finding 2, `λxλy.x`: the binder `xλy` renamed to `z` — `λz.x` — has the same resolved tokens `λ 2` and the
same translation `λ2`; renaming it to `x`, a variable name of the input, is excluded by `hfresh` (and would capture) -/
example :
    let f : List Nat → List Nat := fun n => if n = [120, 955, 121] then [122] else n
    Cl.resolveAll ([CLambda [120, 955, 121], CName [120]].map (Cl.renameTok f))
      = Cl.resolveAll [CLambda [120, 955, 121], CName [120]] ∧
    [CLambda [120, 955, 121], CName [120]].map (Cl.renameTok f) = [CLambda [122], CName [120]] ∧
    Cl.resolveAll [CLambda [120, 955, 121], CName [120]] = some [Lambda, Number 2] ∧
    Cl.toDeBruijn (Cl.renameB f (nlam [120, 955, 121] (nvar [120]))) = abs (var 2) := by
  intro f
  have h := C09_cla_glyph_binder_unreferenced asciiCls asciiCls_ok _ _ (nlam [120, 955, 121] (nvar [120]))
    false true rendersB_kf2 (.lam .var) f
    (fun n hn => by
      have : n ≠ [120, 955, 121] := by rintro rfl; exact hn (by decide)
      simp [f, this])
    (fun m hm => by
      by_cases hmm : m = [120, 955, 121]
      · simp [f, hmm]
      · have : m ≠ [120] := by rintro rfl; exact absurd hm (by decide)
        simp [f, hmm, this])
  exact ⟨h.1, by decide, by decide, by rw [h.2.2.1]; decide⟩

/-- clause (d) on the same input: `λxλy.x` and `λz.x` (a rendering of the renamed tokens) parse to the same term -/
example : parse asciiCls [955, 120, 955, 121, 46, 120] .Classic = .ok (abs (var 2)) ∧
    parse asciiCls [955, 122, 46, 120] .Classic = .ok (abs (var 2)) := by
  have h := C09_cla_glyph_binder_unreferenced asciiCls asciiCls_ok _ _ (nlam [120, 955, 121] (nvar [120]))
    false true rendersB_kf2 (.lam .var) (fun n => if n = [120, 955, 121] then [122] else n)
    (fun n hn => by
      have : n ≠ [120, 955, 121] := by rintro rfl; exact hn (by decide)
      simp [this])
    (fun m hm => by
      by_cases hmm : m = [120, 955, 121]
      · simp [hmm]
      · have : m ≠ [120] := by rintro rfl; exact absurd hm (by decide)
        simp [hmm, this])
  refine ⟨h.2.2.2.1, h.2.2.2.2 [955, 122, 46, 120] ?_⟩
  exact .lam (g := 955) (n := [122]) (by decide) ⟨122, [], rfl, by decide, by simp⟩
    (.name (n := [120]) wf_x trivial .nil)

/-- C09, residual class A, one binder: if the binder name `m` contains the glyph `λ` and `m'` is not the name of a
variable of the input, renaming the binders named `m` to `m'` (everything else kept) changes neither the resolved
tokens nor the translation -/
theorem C09_cla_glyph_binder_rename_one (cls : CharCls) (cts : List CToken) (s : List Nat)
    (nt : Cl.NTerm) (arg fin : Bool) (hr : Cl.RendersB cls cts s) (hp : Cl.PrintsN nt arg fin cts)
    (m m' : List Nat) (hm : cLambda ∈ m) (hm' : CToken.CName m' ∉ cts) :
    Cl.resolveAll (cts.map (Cl.renameTok (fun n => if n = m then m' else n))) = Cl.resolveAll cts ∧
    Cl.toDeBruijn (Cl.renameB (fun n => if n = m then m' else n) nt) = Cl.toDeBruijn nt := by
  have hf : ∀ n, (fun n => if n = m then m' else n) n = n ∨
      (CToken.CName n ∉ cts ∧ CToken.CName ((fun n => if n = m then m' else n) n) ∉ cts) := by
    intro n
    by_cases hn : n = m
    · subst hn
      exact .inr ⟨fun h => C09A.rendersB_name_glyphfree hr n h hm, by simpa using hm'⟩
    · exact .inl (by simp [hn])
  obtain ⟨h1, _, h3⟩ := C09_cla_unreferenced_binder_rename cts nt arg fin hp _ hf
  exact ⟨h1, h3⟩

/-- `\λ.x` (a binder named `λ`) against `\y.x` -/
example : Cl.toDeBruijn (Cl.renameB (fun n => if n = [955] then [121] else n) (nlam [955] (nvar [120])))
    = Cl.toDeBruijn (nlam [955] (nvar [120])) :=
  (C09_cla_glyph_binder_rename_one asciiCls [CLambda [955], CName [120]] [92, 955, 46, 120] _ false true
    (.lam (g := 92) (n := [955]) (by decide) bn_l (.name (n := [120]) wf_x trivial .nil)) (.lam .var)
    [955] [121] (by decide) (by decide)).2

/-- C09, residual class A, direct form.  The specification resolves a variable occurrence `n` against the binders
in scope `bound` (innermost first) by `bound.idxOf? n`.  For a variable of the tokens of ANY string (rendering of
complete tokens) and ANY list of binders in scope: if the lookup succeeds with position `p`, the binder at position
`p` is named exactly `n` and its name does not contain the glyph `λ`; so a binder whose name contains `λ` is never
the one a variable resolves to. -/
theorem C09_cla_resolved_binder_glyphfree (cls : CharCls) (cts : List CToken) (s : List Nat)
    (hr : Cl.RendersB cls cts s) (n : List Nat) (hn : CToken.CName n ∈ cts) (bound : List (List Nat))
    (p : Nat) (hp : bound.idxOf? n = some p) :
    ∃ m, bound[p]? = some m ∧ m = n ∧ cLambda ∉ m :=
  ⟨n, Cl.idxOf?_some_getElem? hp, rfl, C09A.rendersB_name_glyphfree hr n hn⟩

/-- in `λxλy.x`, the variable `x` looked up in the scope `[xλy, x]`: position 1, not the glyph binder at 0 -/
example : ∃ m, ([[120, 955, 121], [120]] : List (List Nat))[1]? = some m ∧ m = [120] ∧ cLambda ∉ m :=
  C09_cla_resolved_binder_glyphfree asciiCls _ _ rendersB_kf2 [120] (by simp) _ 1 (by decide)


/-- C09: the four alternatives of `C09_cla_lex_total_classification` (offending character / rendering / rendering with
a glyph in a binder name / input ends inside a binder) are PAIRWISE contradictory; with that theorem: every string
is in EXACTLY one class -/
theorem C09_cla_lex_classes_exclusive (cls : CharCls) (hcls : Cl.ClsOk cls) (s : List Nat) :
    let D1 := ∃ pre c post, s = pre ++ c :: post ∧ Cl.Offending cls pre c ∧
      tokenizeCla cls s = .error (.InvalidCharacter pre.length c)
    let D2 := ∃ toks, tokenizeCla cls s = .ok toks ∧ Cl.Renders cls toks s
    let D3 := ∃ toks, tokenizeCla cls s = .ok toks ∧ Cl.RendersB cls toks s ∧
      ∃ n, CToken.CLambda n ∈ toks ∧ cLambda ∈ n
    let D4 := ∃ toks, tokenizeCla cls s = .ok toks ∧ Cl.CutBinder cls toks s
    ¬ (D1 ∧ D2) ∧ ¬ (D1 ∧ D3) ∧ ¬ (D1 ∧ D4) ∧ ¬ (D2 ∧ D3) ∧ ¬ (D2 ∧ D4) ∧ ¬ (D3 ∧ D4) := by
  intro D1 D2 D3 D4
  refine ⟨?_, ?_, ?_, ?_, ?_, ?_⟩
  · rintro ⟨⟨_, _, _, _, _, he⟩, ⟨toks, hl, _⟩⟩
    rw [hl] at he; cases he
  · rintro ⟨⟨_, _, _, _, _, he⟩, ⟨toks, hl, _⟩⟩
    rw [hl] at he; cases he
  · rintro ⟨⟨_, _, _, _, _, he⟩, ⟨toks, hl, _⟩⟩
    rw [hl] at he; cases he
  · rintro ⟨⟨toks, hl, hr⟩, ⟨toks', hl', _, hg⟩⟩
    rw [hl] at hl'; cases hl'
    exact (C09_cla_lex_classes_disjoint cls hcls s toks toks).1 hr hg
  · rintro ⟨⟨toks, _, hr⟩, ⟨toks', _, hc⟩⟩
    exact (C09_cla_lex_classes_disjoint cls hcls s toks toks').2 (C09C.rendersB_of_renders hr) hc
  · rintro ⟨⟨toks, _, hr, _⟩, ⟨toks', _, hc⟩⟩
    exact (C09_cla_lex_classes_disjoint cls hcls s toks toks').2 hr hc

/-- non-vacuity: `λxλy.x` is in class 3 (`C09All.lean`), hence in none of the others — e.g. it has no offending
character -/
example : ¬ ∃ pre c post, [955, 120, 955, 121, 46, 120] = pre ++ c :: post ∧ Cl.Offending asciiCls pre c ∧
    tokenizeCla asciiCls [955, 120, 955, 121, 46, 120] = .error (.InvalidCharacter pre.length c) :=
  fun h => (C09_cla_lex_classes_exclusive asciiCls asciiCls_ok _).2.1
    ⟨h, [.CLambda [120, 955, 121], .CName [120]], rfl, rendersB_kf2, [120, 955, 121], by simp, by decide⟩

end LC
