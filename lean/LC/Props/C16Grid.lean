/-
C16 — cross-check grids for the list functions under HAP on short lists, decided by the kernel.  Every grid has a
counterpart for lists of any length in `LC/Props/C16.lean`; the grids are an independent cross-check of those theorems
and of the model's reducer.
-/
import LC.Proofs.GridEval
import LC.Props.C13
import LC.Props.C16Base

namespace LC
open Term Spec Enc C16

/-! ## HAP on short lists
`Grid.runsTo .HAP fuel t n = true` implies `∃ c, reduce .HAP 0 fuel t = some (n, c)` (`Grid.runsTo_spec`); `FUEL` is the
constant of C13 (100000).  In every proof `rw [Grid.runsTo_eq_box]` puts `Grid.runsToB` (`LC/Proofs/GridEval.lean`) in front of
`Grid.runsTo`: the kernel runs the evaluator on terms with boxes, which returns only what `reduce` returns, and `reduce`
itself only where that evaluator answers `false`.  The grids: all lists of length ≤ 3 over {0, 1} (`lists3`), pairs of lists of length ≤ 2
(`lists2`) for the binary functions, counts 0..3 for take/drop/replicate, start values 0..2 for the folds.  The lists of
the Church/Scott/Parigot list modules hold numerals of the SAME encoding (what the Rust `vec![1, 2].into_scott()`
builds); pair lists hold Church numerals. -/

namespace C16
def lists2 : List (List Nat) := [[], [0], [1], [0,0], [0,1], [1,0], [1,1]]
def lists3 : List (List Nat) :=
  [[], [0], [1], [0,0], [0,1], [1,0], [1,1], [0,0,0], [0,0,1], [0,1,0], [0,1,1], [1,0,0], [1,0,1], [1,1,0], [1,1,1]]
end C16

/-! ### constructors and observers of the four encodings -/

theorem C16_grid_is_nil_pair : lists3.all (fun ns =>
    Grid.runsTo .HAP FUEL (app Gen.PList.is_nil (pairList (ns.map intoChurch))) (fromBool ns.isEmpty)) = true := by rw [Grid.runsTo_eq_box]; decide +kernel

theorem C16_grid_head_pair : lists3.all (fun ns => match ns with
    | [] => true
    | n :: _ => Grid.runsTo .HAP FUEL (app Gen.PList.head (pairList (ns.map intoChurch))) (intoChurch n)) = true := by rw [Grid.runsTo_eq_box]; decide +kernel

theorem C16_grid_tail_pair : lists3.all (fun ns => match ns with
    | [] => true
    | _ :: r => Grid.runsTo .HAP FUEL (app Gen.PList.tail (pairList (ns.map intoChurch))) (pairList (r.map intoChurch))) = true := by
  rw [Grid.runsTo_eq_box]; decide +kernel

theorem C16_grid_conv_pair : lists3.all (fun ns =>
    Grid.runsTo .HAP FUEL ((ns.map intoChurch).foldr (fun t acc => app2 Gen.PList.cons t acc) Gen.PList.nil)
      (pairList (ns.map intoChurch))) = true := by rw [Grid.runsTo_eq_box]; decide +kernel

theorem C16_grid_is_nil_church : lists3.all (fun ns =>
    Grid.runsTo .HAP FUEL (app Gen.CList.is_nil (churchList (ns.map intoChurch))) (fromBool ns.isEmpty)) = true := by rw [Grid.runsTo_eq_box]; decide +kernel

theorem C16_grid_head_church : lists3.all (fun ns => match ns with
    | [] => true
    | n :: _ => Grid.runsTo .HAP FUEL (app Gen.CList.head (churchList (ns.map intoChurch))) (intoChurch n)) = true := by rw [Grid.runsTo_eq_box]; decide +kernel

theorem C16_grid_tail_church : lists3.all (fun ns => match ns with
    | [] => true
    | _ :: r => Grid.runsTo .HAP FUEL (app Gen.CList.tail (churchList (ns.map intoChurch))) (churchList (r.map intoChurch))) = true := by
  rw [Grid.runsTo_eq_box]; decide +kernel

theorem C16_grid_conv_church : lists3.all (fun ns =>
    Grid.runsTo .HAP FUEL ((ns.map intoChurch).foldr (fun t acc => app2 Gen.CList.cons t acc) Gen.CList.nil)
      (churchList (ns.map intoChurch))) = true := by rw [Grid.runsTo_eq_box]; decide +kernel

theorem C16_grid_is_nil_scott : lists3.all (fun ns =>
    Grid.runsTo .HAP FUEL (app Gen.SList.is_nil (scottList (ns.map intoScott))) (fromBool ns.isEmpty)) = true := by rw [Grid.runsTo_eq_box]; decide +kernel

theorem C16_grid_head_scott : lists3.all (fun ns => match ns with
    | [] => true
    | n :: _ => Grid.runsTo .HAP FUEL (app Gen.SList.head (scottList (ns.map intoScott))) (intoScott n)) = true := by rw [Grid.runsTo_eq_box]; decide +kernel

theorem C16_grid_tail_scott : lists3.all (fun ns => match ns with
    | [] => true
    | _ :: r => Grid.runsTo .HAP FUEL (app Gen.SList.tail (scottList (ns.map intoScott))) (scottList (r.map intoScott))) = true := by
  rw [Grid.runsTo_eq_box]; decide +kernel

theorem C16_grid_conv_scott : lists3.all (fun ns =>
    Grid.runsTo .HAP FUEL ((ns.map intoScott).foldr (fun t acc => app2 Gen.SList.cons t acc) Gen.SList.nil)
      (scottList (ns.map intoScott))) = true := by rw [Grid.runsTo_eq_box]; decide +kernel

theorem C16_grid_is_nil_parigot : lists3.all (fun ns =>
    Grid.runsTo .HAP FUEL (app Gen.GList.is_nil (parigotList (ns.map intoParigot))) (fromBool ns.isEmpty)) = true := by rw [Grid.runsTo_eq_box]; decide +kernel

theorem C16_grid_head_parigot : lists3.all (fun ns => match ns with
    | [] => true
    | n :: _ => Grid.runsTo .HAP FUEL (app Gen.GList.head (parigotList (ns.map intoParigot))) (intoParigot n)) = true := by rw [Grid.runsTo_eq_box]; decide +kernel

theorem C16_grid_tail_parigot : lists3.all (fun ns => match ns with
    | [] => true
    | _ :: r => Grid.runsTo .HAP FUEL (app Gen.GList.tail (parigotList (ns.map intoParigot))) (parigotList (r.map intoParigot))) = true := by
  rw [Grid.runsTo_eq_box]; decide +kernel

theorem C16_grid_conv_parigot : lists3.all (fun ns =>
    Grid.runsTo .HAP FUEL ((ns.map intoParigot).foldr (fun t acc => app2 Gen.GList.cons t acc) Gen.GList.nil)
      (parigotList (ns.map intoParigot))) = true := by rw [Grid.runsTo_eq_box]; decide +kernel

/-! ### the pair-list library -/

theorem C16_grid_length : lists3.all (fun ns =>
    Grid.runsTo .HAP FUEL (app Gen.PList.length (cl ns)) (intoChurch ns.length)) = true := by rw [Grid.runsTo_eq_box]; decide +kernel

theorem C16_grid_index : lists3.all (fun ns => (List.range ns.length).all fun i =>
    Grid.runsTo .HAP FUEL (app2 Gen.PList.index (intoChurch i) (cl ns)) (intoChurch (ns.getD i 0))) = true := by rw [Grid.runsTo_eq_box]; decide +kernel

theorem C16_grid_reverse : lists3.all (fun ns =>
    Grid.runsTo .HAP FUEL (app Gen.PList.reverse (cl ns)) (cl ns.reverse)) = true := by rw [Grid.runsTo_eq_box]; decide +kernel

theorem C16_grid_list : lists3.all (fun ns =>
    Grid.runsTo .HAP FUEL
      ((ns.map intoChurch).foldl (fun acc x => app acc x) (app Gen.PList.list (intoChurch ns.length))) (cl ns)) = true := by rw [Grid.runsTo_eq_box]; decide +kernel

theorem C16_grid_append : lists2.all (fun ms => lists2.all fun ns =>
    Grid.runsTo .HAP FUEL (app2 Gen.PList.append (cl ms) (cl ns)) (cl (ms ++ ns))) = true := by rw [Grid.runsTo_eq_box]; decide +kernel

theorem C16_grid_last : lists3.all (fun ns => ns.isEmpty ||
    Grid.runsTo .HAP FUEL (app Gen.PList.last (cl ns)) (intoChurch (ns.getLastD 0))) = true := by rw [Grid.runsTo_eq_box]; decide +kernel

theorem C16_grid_init : lists3.all (fun ns =>
    Grid.runsTo .HAP FUEL (app Gen.PList.init (cl ns)) (cl ns.dropLast)) = true := by rw [Grid.runsTo_eq_box]; decide +kernel

theorem C16_grid_zip : lists2.all (fun ms => lists2.all fun ns =>
    Grid.runsTo .HAP FUEL (app2 Gen.PList.zip (cl ms) (cl ns))
      (pairList ((ms.zip ns).map (fun p => tuple2 (intoChurch p.1) (intoChurch p.2))))) = true := by rw [Grid.runsTo_eq_box]; decide +kernel

theorem C16_grid_take : lists3.all (fun ns => (List.range 4).all fun k =>
    Grid.runsTo .HAP FUEL (app2 Gen.PList.take (intoChurch k) (cl ns)) (cl (ns.take k))) = true := by rw [Grid.runsTo_eq_box]; decide +kernel

theorem C16_grid_drop : lists3.all (fun ns => (List.range 4).all fun k =>
    Grid.runsTo .HAP FUEL (app2 Gen.PList.drop (intoChurch k) (cl ns)) (cl (ns.drop k))) = true := by rw [Grid.runsTo_eq_box]; decide +kernel

theorem C16_grid_replicate : (Grid.range2 3 2).all (fun (k, y) =>
    Grid.runsTo .HAP FUEL (app2 Gen.PList.replicate (intoChurch k) (intoChurch y)) (cl (List.replicate k y))) = true := by rw [Grid.runsTo_eq_box]; decide +kernel

theorem C16_grid_map_succ : lists3.all (fun ns =>
    Grid.runsTo .HAP FUEL (app2 Gen.PList.map Gen.Church.succ (cl ns)) (cl (ns.map (· + 1)))) = true := by rw [Grid.runsTo_eq_box]; decide +kernel

theorem C16_grid_foldl_add : lists3.all (fun ns => (List.range 3).all fun s =>
    Grid.runsTo .HAP FUEL (app3 Gen.PList.foldl Gen.Church.add (intoChurch s) (cl ns)) (intoChurch (ns.foldl (· + ·) s))) = true := by rw [Grid.runsTo_eq_box]; decide +kernel

theorem C16_grid_foldr_add : lists3.all (fun ns => (List.range 3).all fun a =>
    Grid.runsTo .HAP FUEL (app3 Gen.PList.foldr Gen.Church.add (intoChurch a) (cl ns)) (intoChurch (ns.foldr (· + ·) a))) = true := by rw [Grid.runsTo_eq_box]; decide +kernel

theorem C16_grid_foldl_sub : lists3.all (fun ns => (List.range 3).all fun s =>
    Grid.runsTo .HAP FUEL (app3 Gen.PList.foldl Gen.Church.sub (intoChurch s) (cl ns)) (intoChurch (ns.foldl (· - ·) s))) = true := by rw [Grid.runsTo_eq_box]; decide +kernel

theorem C16_grid_foldr_sub : lists3.all (fun ns => (List.range 3).all fun a =>
    Grid.runsTo .HAP FUEL (app3 Gen.PList.foldr Gen.Church.sub (intoChurch a) (cl ns)) (intoChurch (ns.foldr (· - ·) a))) = true := by rw [Grid.runsTo_eq_box]; decide +kernel

theorem C16_grid_filter_is_zero : lists3.all (fun ns =>
    Grid.runsTo .HAP FUEL (app2 Gen.PList.filter Gen.Church.is_zero (cl ns)) (cl (ns.filter (· == 0)))) = true := by rw [Grid.runsTo_eq_box]; decide +kernel

theorem C16_grid_take_while_is_zero : lists3.all (fun ns =>
    Grid.runsTo .HAP FUEL (app2 Gen.PList.take_while Gen.Church.is_zero (cl ns)) (cl (ns.takeWhile (· == 0)))) = true := by rw [Grid.runsTo_eq_box]; decide +kernel

theorem C16_grid_drop_while_is_zero : lists3.all (fun ns =>
    Grid.runsTo .HAP FUEL (app2 Gen.PList.drop_while Gen.Church.is_zero (cl ns)) (cl (ns.dropWhile (· == 0)))) = true := by rw [Grid.runsTo_eq_box]; decide +kernel

theorem C16_grid_zip_with_sub : lists2.all (fun ms => lists2.all fun ns =>
    Grid.runsTo .HAP FUEL (app3 Gen.PList.zip_with Gen.Church.sub (cl ms) (cl ns))
      (cl ((ms.zip ns).map (fun p => p.1 - p.2)))) = true := by rw [Grid.runsTo_eq_box]; decide +kernel

/-- a HAP run read back as a statement about the reducer: HAP returns `[0, 1]` for `append [0] [1]` -/
example : ∃ c, reduce .HAP 0 FUEL (app2 Gen.PList.append (cl [0]) (cl [1])) = some (cl [0, 1], c) :=
  Grid.runsTo_spec (by rw [Grid.runsTo_eq_box]; decide +kernel)

end LC
