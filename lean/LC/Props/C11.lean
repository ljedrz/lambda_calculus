/-
C11 — De Bruijn-notation Debug output parses back to the identical term

"For every term (open or closed) whose indices lie in 1..=15, parsing the Debug output in
DeBruijn notation yields exactly the original term. The output follows the documented compact
format: one upper-case hexadecimal digit per index, the configured lambda glyph, no whitespace,
and parentheses only around abstractions in operator or operand position and applications in
operand position."

`debug` is the model's printer (`LC/Model/Display.lean`).  `smallIdx` (all indices in 1..=15) and the documented format
`printDbr lam pos t` (`pos = 0`: the whole term) are defined in `LC/Proofs/Syntax/DebugFormat.lean`, the hypothesis
`C11.HexOk` on `to_digit(16)` in `LC/Proofs/Syntax/DebugLex.lean`.
-/
import LC.Proofs.Syntax.DebugDigits

namespace LC
open Term Parser Display

namespace C11

theorem map_ok {ε α β : Type} (f : α → β) (r : α) :
    f <$> (Except.ok r : Except ε α) = Except.ok (f r) := C09C.except_map_ok f r

end C11


/-- C11: the Debug output of a term with indices in 1..=15 parses back (De Bruijn notation) to
exactly that term -/
theorem C11_roundtrip (cls : CharCls) (hc : C11.HexOk cls) (lam : Nat) (hl : lam = 955 ∨ lam = 92)
    (t : Term) (h : smallIdx t = true) :
    parse cls (debug lam t) .DeBruijn = .ok t :=
  dbr_stages (C11.lex_debug cls hc lam hl t h) (congrArg Outcome.ofResult (C09C.parseTokens_printD t 0))


theorem C11_format (lam : Nat) (t : Term) (h : smallIdx t = true) :
    debug lam t = printDbr lam 0 t :=
  (C11.showDbr_eq_printDbr lam t h).1

/-- C11, no whitespace: every code point of the output is the lambda glyph, a parenthesis or one
of the fifteen upper-case hexadecimal digits `1`..`9`, `A`..`F` -/
theorem C11_no_whitespace (lam : Nat) (t : Term) (h : smallIdx t = true) (c : Nat)
    (hc : c ∈ debug lam t) :
    c = lam ∨ c = 40 ∨ c = 41 ∨ ∃ d, 1 ≤ d ∧ d ≤ 15 ∧ c = hexDigit d := by
  rw [C11_format lam t h] at hc
  exact C11.printDbr_chars lam t h 0 c hc

/-- the same in terms of code points: `λ`/`\`, `(`, `)`, `'1'..'9'`, `'A'..'F'` — in particular none
of the ASCII / Unicode whitespace characters -/
theorem C11_charset (lam : Nat) (t : Term) (h : smallIdx t = true) (c : Nat)
    (hc : c ∈ debug lam t) :
    c = lam ∨ c = 40 ∨ c = 41 ∨ (49 ≤ c ∧ c ≤ 57) ∨ (65 ≤ c ∧ c ≤ 70) := by
  rcases C11_no_whitespace lam t h c hc with h | h | h | ⟨d, h1, h2, rfl⟩
  · exact .inl h
  · exact .inr (.inl h)
  · exact .inr (.inr (.inl h))
  · right; right; right
    unfold hexDigit; split <;> omega

/-- the code points with the Unicode property `White_Space` (= Rust's `char::is_whitespace`) -/
def unicodeWhiteSpace : List Nat :=
  [9, 10, 11, 12, 13, 32, 133, 160, 5760, 8192, 8193, 8194, 8195, 8196, 8197, 8198, 8199, 8200,
    8201, 8202, 8232, 8233, 8239, 8287, 12288]

/-- … so the output contains no whitespace character -/
theorem C11_no_unicode_whitespace (lam : Nat) (hl : lam = 955 ∨ lam = 92) (t : Term)
    (h : smallIdx t = true) (c : Nat) (hc : c ∈ debug lam t) : c ∉ unicodeWhiteSpace := by
  have h := C11_charset lam t h c hc
  simp only [unicodeWhiteSpace, List.mem_cons, List.not_mem_nil, or_false]
  omega

/-- C11, one digit per index: the output has one character per variable occurrence, one per
abstraction and two per parenthesised subterm … -/
theorem C11_one_digit_per_index (lam : Nat) (t : Term) (h : smallIdx t = true) :
    (debug lam t).length = C11.numVars t + C11.numAbs t + 2 * C11.numParens 0 t := by
  rw [C11_format lam t h]; exact C11.printDbr_length lam t 0

/-- … and the characters that are neither the glyph nor a parenthesis are exactly the hex digits
of the indices, in left-to-right order -/
theorem C11_digits (lam : Nat) (hl : lam = 955 ∨ lam = 92) (t : Term) (h : smallIdx t = true) :
    (debug lam t).filter (fun c => !C11.isPunct lam c) = (C11.indices t).map hexDigit := by
  rw [C11_format lam t h]; exact C11.printDbr_digits lam hl t h 0


namespace C11

/-- ASCII-only classification: hex digits `0-9`, `A-F`, `a-f` with their values; whitespace
space / tab / LF / CR; letters `a-z`, `A-Z` -/
def asciiCls : CharCls where
  isWs c := c == 32 || c == 9 || c == 10 || c == 13
  isAlpha c := (decide (97 ≤ c) && decide (c ≤ 122)) || (decide (65 ≤ c) && decide (c ≤ 90))
  isAlnum c := (decide (97 ≤ c) && decide (c ≤ 122)) || (decide (65 ≤ c) && decide (c ≤ 90)) ||
    (decide (48 ≤ c) && decide (c ≤ 57))
  digit16 c :=
    if 48 ≤ c ∧ c ≤ 57 then some (c - 48)
    else if 65 ≤ c ∧ c ≤ 70 then some (c - 55)
    else if 97 ≤ c ∧ c ≤ 102 then some (c - 87)
    else none

theorem asciiCls_hexOk : HexOk asciiCls where
  digit := by decide

/-- `parse` in De Bruijn notation, stage by stage, the three intermediate results given (for ground examples; cf.
`dbr_stages` in `LC/Proofs/Syntax/DeBruijn.lean`) -/
theorem parse_stages (cls : CharCls) (s : List Nat) (tk : List Token) (es : List Expression)
    (t : Term) (h1 : tokenizeDbr cls s = .ok tk) (h2 : getAst tk = .ok (.Sequence es))
    (h3 : foldExprs es = .ok t) : parse cls s .DeBruijn = .ok t := by
  simp [parse, h1, h2, h3, map_ok]

/-- a test term: indices 1, 2, 10..15, abstractions and applications in all three positions -/
def sample : Term :=
  abs (app (app (app (abs (app (var 1) (var 10))) (var 11)) (app (var 12) (abs (abs (var 13)))))
    (abs (app (app (var 14) (app (var 15) (var 2))) (abs (var 1)))))

/-- `λ(λ1A)B(C(λλD))(λE(F2)(λ1))` -/
def sampleOut (lam : Nat) : List Nat :=
  [lam, 40, lam, 49, 65, 41, 66, 40, 67, 40, lam, lam, 68, 41, 41, 40, lam, 69, 40, 70, 50, 41,
    40, lam, 49, 41, 41]

theorem debug_sample_lambda : debug 955 sample = sampleOut 955 := by decide +kernel
theorem debug_sample_backslash : debug 92 sample = sampleOut 92 := by decide +kernel

/-- ground evaluation of the single-pass parser model itself (no use of the general theorem, nor of the cursor model by
which the other files evaluate): lexer and `getAst` by `rfl`, `foldList` through its equations -/
example : parse asciiCls (debug 955 sample) .DeBruijn = .ok sample := by
  rw [debug_sample_lambda]
  refine parse_stages _ _ _ _ _ (by rfl) (by rfl) ?_
  simp [foldExprs, foldList, foldTerms, sample]

example : parse asciiCls (debug 92 sample) .DeBruijn = .ok sample := by
  rw [debug_sample_backslash]
  refine parse_stages _ _ _ _ _ (by rfl) (by rfl) ?_
  simp [foldExprs, foldList, foldTerms, sample]

/-- the general theorem instantiated (non-vacuity of `HexOk`) -/
example : parse asciiCls (debug 955 sample) .DeBruijn = .ok sample :=
  C11_roundtrip asciiCls asciiCls_hexOk 955 (.inl rfl) sample (by decide)

/-- the restriction to indices ≤ 15 is necessary: 16 prints as `10`, which reads back as the
application of index 1 to index 0 … -/
example : parse asciiCls (debug 955 (var 16)) .DeBruijn = .ok (app (var 1) (var 0)) := by
  have hd : debug 955 (var 16) = [49, 48] := by decide +kernel
  rw [hd]
  refine parse_stages _ _ [.Number 1, .Number 0] [.Variable 1, .Variable 0] _ (by rfl) (by rfl) ?_
  simp [foldExprs, foldList, foldTerms]

/-- … and so is the restriction to indices ≥ 1: index 0 prints as `undefined` -/
example : parse asciiCls (debug 955 (var 0)) .DeBruijn = .err (.InvalidCharacter 0 117) := by
  have hd : debug 955 (var 0) = [117, 110, 100, 101, 102, 105, 110, 101, 100] := by decide +kernel
  rw [hd]; rfl

end C11

end LC
