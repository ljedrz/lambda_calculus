/-
C08 / C01 — UD is an inert constant for MULTI-STEP reduction (parametricity)

C08: "… index 0 (UD) appears in the result only if it appeared in the input and is never shifted, substituted for,
or captured."   C01: "The UD placeholder (index 0) behaves as an inert constant."

`LC/Props/C08.lean` states the one-step positional facts.  This file states the property for whole runs of
`apply` / `reduce` / `beta` / histories of `reduce` calls:  UD behaves EXACTLY like a free variable that nobody else
uses.  `udToFree k d t` (`LC/Proofs/UDParam.lean`) replaces every occurrence of UD in `t` — a term standing under `d`
binders — by the outer reference number `k + 1`, i.e. by `var (k + d + m + 1)` at an occurrence under `m` binders of `t`.

* forward (no hypothesis on `k`): every operation of the model and of the specification COMMUTES with `udToFree k d` —
  same `Ok`/`Err`, same `none`/`some`, same count, same redex selected, the results related by the same renaming;
* when reference `k + 1` is fresh (`freeInAux d (k+1) t = false`, e.g. `maxIndex t ≤ k + d`) the renaming is injective
  with explicit inverse `freeToUD k d`, and freshness survives reduction: the result of reducing a term with UD is
  the `freeToUD`-image of the result of reducing the term in which UD is a fresh free variable (`C08_ud_inert_constant`).
  So UD is never shifted, substituted for, captured, and it is duplicated / dropped exactly as a free variable is.
-/
import LC.Proofs.UDParamInj
import LC.Props.C06

namespace LC
open Term Spec

/-- `update_free_variables` commutes with the renaming (the term stands under `d + own` binders, `own` of them its own) -/
theorem C08_ud_parametric_shiftFV (k d added own : Nat) (t : Term) :
    udToFree k (d + added + own) (shiftFV added own t) = shiftFV added own (udToFree k (d + own) t) :=
  udToFree_shiftFV k d added own t

/-- `_apply(rhs, depth)` commutes with the renaming at every depth `e + 1 ≥ 1` (the only depths at which it runs on a
body): the body stands under `d + e + 1` binders, the argument under `d`, the result under `d + e` -/
theorem C08_ud_parametric_applyAux (k d e : Nat) (rhs t : Term) :
    udToFree k (d + e) (applyAux rhs (e + 1) t)
      = applyAux (udToFree k d rhs) (e + 1) (udToFree k (d + e + 1) t) :=
  udToFree_applyAux k d e rhs t

theorem C08_ud_parametric_contract (k d : Nat) (b a : Term) :
    udToFree k d (contract b a) = contract (udToFree k (d + 1) b) (udToFree k d a) :=
  udToFree_contract k d b a

theorem C08_ud_parametric_isAbs (k d : Nat) (t : Term) : isAbs (udToFree k d t) = isAbs t :=
  isAbs_udToFree k d t

/-- `apply` commutes with the renaming; the `NotAbs` error is preserved -/
theorem C08_ud_parametric_apply (k d : Nat) (t a : Term) :
    Term.apply (udToFree k d t) (udToFree k d a) = (Term.apply t a).map (udToFree k d) := by
  cases t with
  | var i => cases i <;> rfl
  | abs b =>
    simp only [udToFree_abs, Term.apply, Except.map]
    rw [← contract, ← contract, udToFree_contract]
  | app l r => rfl

/-- the `&mut self` form of `apply`: receiver afterwards and returned `Result` -/
theorem C08_ud_parametric_applyMut (k d : Nat) (t a : Term) :
    applyMut (udToFree k d t) (udToFree k d a) = (udToFree k d (applyMut t a).1, (applyMut t a).2) := by
  cases t with
  | var i => cases i <;> rfl
  | abs b =>
    simp only [udToFree_abs, applyMut]
    rw [← contract, ← contract, udToFree_contract]
  | app l r => rfl

-- (λ. 1 0 (λ. 0 2 1)).apply(0 2): the argument (containing UD) is copied twice, once under a binder; k = 4, d = 0
example :
    Term.apply (abs (app (app (var 1) (var 0)) (abs (app (app (var 0) (var 2)) (var 1))))) (app (var 0) (var 2))
      = .ok (app (app (app (var 0) (var 2)) (var 0)) (abs (app (app (var 0) (app (var 0) (var 3))) (var 1)))) ∧
    Term.apply (udToFree 4 0 (abs (app (app (var 1) (var 0)) (abs (app (app (var 0) (var 2)) (var 1))))))
        (udToFree 4 0 (app (var 0) (var 2)))
      = .ok (app (app (app (var 5) (var 2)) (var 5)) (abs (app (app (var 6) (app (var 6) (var 3))) (var 1)))) ∧
    Term.apply (udToFree 4 0 (var 0)) (udToFree 4 0 (var 0)) = .error .NotAbs :=
  ⟨rfl, rfl, rfl⟩

/-- every strategy selects the same redex in the renamed term and contracts it to the renamed contractum -/
theorem C08_ud_parametric_step (o : Order) (k d : Nat) (t : Term) :
    stepOrd o (udToFree k d t) = (stepOrd o t).map (udToFree k d) :=
  udToFree_stepOrd o k d t

/-- iterated: `n` strategy steps of the term are `n` strategy steps of the renamed term -/
theorem C08_ud_parametric_iter (o : Order) (k d n : Nat) (t u : Term) (h : Iter (stepOrd o) n t u) :
    Iter (stepOrd o) n (udToFree k d t) (udToFree k d u) :=
  h.map (udToFree k d) fun _ _ hs => by rw [udToFree_stepOrd, hs]; rfl

example : stepOrd .HAP (udToFree 2 0 (abs (app (abs (app (var 1) (var 0))) (var 0))))
    = some (abs (app (var 4) (var 4))) ∧
    stepOrd .HAP (abs (app (abs (app (var 1) (var 0))) (var 0))) = some (abs (app (var 0) (var 0))) := by
  decide

/-- the traversals, from any start count -/
theorem C08_ud_parametric_betaOrd (o : Order) (L fuel k d : Nat) (t : Term) (c : Nat) :
    betaOrd o L fuel (udToFree k d t) c
      = (betaOrd o L fuel t c).map (fun r => (udToFree k d r.1, r.2)) :=
  udToFree_betaOrd o L fuel k d t c

/-- `reduce` (every order, limit, fuel) commutes with the renaming of UD to the outer reference
`k + 1` — it runs out of fuel on the same inputs, counts the same number of contractions and leaves the renamed term -/
theorem C08_ud_parametric_reduce (o : Order) (L fuel k d : Nat) (t : Term) :
    reduce o L fuel (udToFree k d t) = (reduce o L fuel t).map (fun r => (udToFree k d r.1, r.2)) :=
  udToFree_reduce o L fuel k d t

theorem C08_ud_parametric_betaFn (o : Order) (L fuel k d : Nat) (t : Term) :
    beta (udToFree k d t) o L fuel = (beta t o L fuel).map (udToFree k d) := by
  simp only [beta, udToFree_reduce]
  cases reduce o L fuel t <;> rfl

/-- any history of `reduce` calls (arbitrary orders, limits, fuels) -/
theorem C08_ud_parametric_history (h : List (Order × Nat × Nat)) (k d : Nat) (t : Term) :
    runHistory h (udToFree k d t) = (runHistory h t).map (udToFree k d) := by
  induction h generalizing t with
  | nil => rfl
  | cons p h ih =>
    obtain ⟨o, L, f⟩ := p
    simp only [runHistory, udToFree_reduce]
    cases reduce o L f t with
    | none => rfl
    | some q => obtain ⟨t', c⟩ := q; exact ih t'

-- T = (λx. λy. x x UD (λz. UD y)) (λw. UD): reducing T copies the argument `λw. UD` twice (into positions under one
-- binder), then erases one copy; UD occurrences under one and two binders are kept.
-- NOR normalises in 2 steps, CBV stops at the abstraction after 1, so does HSP with limit 1;
-- in the renamed term (k = 4) UD is `var 5` at depth 0, `var 6` under one binder, `var 7` under two.
example :
    reduce .NOR 0 12 (app (abs (abs (app (app (app (var 2) (var 2)) (var 0)) (abs (app (var 0) (var 2))))))
        (abs (var 0)))
      = some (abs (app (app (var 0) (var 0)) (abs (app (var 0) (var 2)))), 2) ∧
    reduce .NOR 0 12 (udToFree 4 0 (app (abs (abs (app (app (app (var 2) (var 2)) (var 0))
        (abs (app (var 0) (var 2)))))) (abs (var 0))))
      = some (abs (app (app (var 6) (var 6)) (abs (app (var 7) (var 2)))), 2) ∧
    reduce .CBV 0 12 (app (abs (abs (app (app (app (var 2) (var 2)) (var 0)) (abs (app (var 0) (var 2))))))
        (abs (var 0)))
      = some (abs (app (app (app (abs (var 0)) (abs (var 0))) (var 0)) (abs (app (var 0) (var 2)))), 1) ∧
    reduce .CBV 0 12 (udToFree 4 0 (app (abs (abs (app (app (app (var 2) (var 2)) (var 0))
        (abs (app (var 0) (var 2)))))) (abs (var 0))))
      = some (abs (app (app (app (abs (var 7)) (abs (var 7))) (var 6)) (abs (app (var 7) (var 2)))), 1) ∧
    reduce .HSP 1 12 (udToFree 4 0 (app (abs (abs (app (app (app (var 2) (var 2)) (var 0))
        (abs (app (var 0) (var 2)))))) (abs (var 0))))
      = some (abs (app (app (app (abs (var 7)) (abs (var 7))) (var 6)) (abs (app (var 7) (var 2)))), 1) ∧
    udToFree 4 0 (app (abs (abs (app (app (app (var 2) (var 2)) (var 0)) (abs (app (var 0) (var 2))))))
        (abs (var 0)))
      = app (abs (abs (app (app (app (var 2) (var 2)) (var 7)) (abs (app (var 8) (var 2)))))) (abs (var 6)) := by
  decide

-- out of fuel on the same inputs: Ω UD
example : reduce .APP 0 9 (app (app (abs (app (var 1) (var 1))) (abs (app (var 1) (var 1)))) (var 0)) = none ∧
    reduce .APP 0 9 (udToFree 0 0 (app (app (abs (app (var 1) (var 1))) (abs (app (var 1) (var 1)))) (var 0)))
      = none := by
  decide

example : runHistory [(.CBN, 1, 10), (.APP, 0, 10)] (udToFree 1 0 (app (abs (abs (app (var 2) (var 0)))) (var 3)))
    = some (udToFree 1 0 (abs (app (var 4) (var 0)))) ∧
    udToFree 1 0 (abs (app (var 4) (var 0))) = abs (app (var 4) (var 3)) := by decide

/-- when reference `k + 1` occurs neither in `t` nor in `u`, the renaming identifies them only if they are equal -/
theorem C08_ud_injective (k d : Nat) (t u : Term) (ht : freeInAux d (k + 1) t = false)
    (hu : freeInAux d (k + 1) u = false) (h : udToFree k d t = udToFree k d u) : t = u := by
  rw [← freeToUD_udToFree k d t ht, ← freeToUD_udToFree k d u hu, h]

/-- under the bound `udBound k d`: every `var i` at binder depth `e` (counted from `d`) has `i ≤ e + k` -/
theorem C08_ud_injective_of_bound (k d : Nat) (t u : Term) (ht : udBound k d t = true) (hu : udBound k d u = true)
    (h : udToFree k d t = udToFree k d u) : t = u :=
  C08_ud_injective k d t u (fresh_of_udBound k d t ht) (fresh_of_udBound k d u hu) h

/-- `maxIndex` form, at top level: `k + 1` is greater than every index of `t` and `u` -/
theorem C08_ud_injective_of_maxIndex (k : Nat) (t u : Term) (ht : maxIndex t ≤ k) (hu : maxIndex u ≤ k)
    (h : udToFree k 0 t = udToFree k 0 u) : t = u :=
  C08_ud_injective k 0 t u (fresh_of_maxIndex k 0 t ht) (fresh_of_maxIndex k 0 u hu) h

theorem C08_ud_freeToUD_udToFree (k d : Nat) (t : Term) (h : freeInAux d (k + 1) t = false) :
    freeToUD k d (udToFree k d t) = t :=
  freeToUD_udToFree k d t h

-- the hypothesis is needed: with k = 0 the reference number 1 is in use, and `UD 1` and `1 1` are identified
example : udToFree 0 0 (app (var 0) (var 1)) = udToFree 0 0 (app (var 1) (var 1)) ∧
    freeInAux 0 (0 + 1) (app (var 0) (var 1)) = true := by decide
example : freeInAux 0 (4 + 1) (abs (app (var 0) (app (var 5) (var 1)))) = false ∧
    maxIndex (abs (app (var 0) (app (var 5) (var 1)))) ≤ 4 + 1 ∧
    udBound 4 0 (abs (app (var 0) (app (var 5) (var 1)))) = true := by decide

/-- the renamed term contains no UD; it mentions reference `k + 1` exactly when the original mentions UD -/
theorem C08_ud_renamed_away (k d : Nat) (t : Term) (h : freeInAux d (k + 1) t = false) :
    hasUD (udToFree k d t) = false ∧ freeInAux d (k + 1) (udToFree k d t) = hasUD t :=
  ⟨hasUD_udToFree k d t, freeInAux_udToFree k d t h⟩

theorem C08_ud_absent (k d : Nat) (t : Term) (h : hasUD t = false) : udToFree k d t = t := by
  induction t generalizing d with
  | var i => cases i <;> simp [hasUD] at h ⊢
  | abs b ih => simp only [hasUD] at h; simp [ih (d + 1) h]
  | app l r ihl ihr =>
    simp only [hasUD, Bool.or_eq_false_iff] at h
    simp [ihl d h.1, ihr d h.2]

/-- freshness of a reference survives `reduce` -/
theorem C08_ud_fresh_reduce (o : Order) (L fuel k d : Nat) (t t' : Term) (c : Nat)
    (h : reduce o L fuel t = some (t', c)) (hk : freeInAux d (k + 1) t = false) :
    freeInAux d (k + 1) t' = false :=
  fresh_reduce h d k hk

/-- C08 / C01, UD IS AN INERT CONSTANT: let reference `k + 1` be fresh for `t`.  Then what `reduce` does to `t` is
DETERMINED by what it does to the term in which UD is that fresh free variable:
(a) `reduce` on `t` is `reduce` on the renamed term followed by renaming the variable back to UD (same `none`, same count);
(b) whenever the renamed term reduces to `(r', c)`, `t` reduces to `(r, c)` for the UNIQUE `k+1`-fresh `r` whose renaming
    is `r'` — every UD of the result sits exactly where the fresh variable sits, under the same binders. -/
theorem C08_ud_inert_constant (o : Order) (L fuel k d : Nat) (t : Term) (hk : freeInAux d (k + 1) t = false) :
    reduce o L fuel t = (reduce o L fuel (udToFree k d t)).map (fun r => (freeToUD k d r.1, r.2)) ∧
    ∀ r' c, reduce o L fuel (udToFree k d t) = some (r', c) →
      ∃ r, reduce o L fuel t = some (r, c) ∧ udToFree k d r = r' ∧ freeInAux d (k + 1) r = false ∧
        ∀ r₂, freeInAux d (k + 1) r₂ = false → udToFree k d r₂ = r' → r₂ = r := by
  rw [udToFree_reduce]
  cases hr : reduce o L fuel t with
  | none => exact ⟨rfl, fun r' c h => by cases h⟩
  | some p =>
    obtain ⟨r, c⟩ := p
    have hf := fresh_reduce hr d k hk
    refine ⟨?_, ?_⟩
    · simp only [Option.map_some, udP, freeToUD_udToFree k d r hf]
    · intro r' c' h
      simp only [Option.map_some, udP, Option.some.injEq, Prod.mk.injEq] at h
      obtain ⟨h1, h2⟩ := h
      subst h1 h2
      exact ⟨r, rfl, rfl, hf, fun r₂ h₂ he => C08_ud_injective k d r₂ r h₂ hf he⟩

/-- the same at top level with the `maxIndex` hypothesis: `k + 1` exceeds every index of `t` -/
theorem C08_ud_inert_constant_maxIndex (o : Order) (L fuel k : Nat) (t : Term) (hk : maxIndex t ≤ k) :
    reduce o L fuel t = (reduce o L fuel (udToFree k 0 t)).map (fun r => (freeToUD k 0 r.1, r.2)) :=
  (C08_ud_inert_constant o L fuel k 0 t (fresh_of_maxIndex k 0 t hk)).1

-- T of above has maxIndex 2; with k = 4: rename, reduce, rename back = reduce
example : maxIndex (app (abs (abs (app (app (app (var 2) (var 2)) (var 0)) (abs (app (var 0) (var 2))))))
      (abs (var 0))) ≤ 4 ∧
    (reduce .NOR 0 12 (udToFree 4 0 (app (abs (abs (app (app (app (var 2) (var 2)) (var 0))
        (abs (app (var 0) (var 2)))))) (abs (var 0))))).map (fun r => (freeToUD 4 0 r.1, r.2))
      = some (abs (app (app (var 0) (var 0)) (abs (app (var 0) (var 2)))), 2) := by
  decide

theorem C08_ud_parametric_substTop (k d : Nat) (b a : Term) :
    udToFree k d (substTop b a) = substTop (udToFree k (d + 1) b) (udToFree k d a) :=
  udToFree_substTop k d b a

/-- C01 "inert constant": a β-step of the specification is a β-step of the renamed terms -/
theorem C08_ud_parametric_beta (k d : Nat) (t u : Term) (h : Beta t u) :
    Beta (udToFree k d t) (udToFree k d u) :=
  udToFree_beta h k d

/-- and conversely every β-step of the renamed term is the renaming of a β-step of the term: the renamed UD opens no
redex and blocks none -/
theorem C08_ud_parametric_beta_reflect (k d : Nat) (t u' : Term) (h : Beta (udToFree k d t) u') :
    ∃ u, u' = udToFree k d u ∧ Beta t u := by
  induction t generalizing d u' with
  | var i => cases i <;> cases h
  | abs b ih =>
    cases h with
    | congAbs hb =>
      obtain ⟨u, rfl, hu⟩ := ih (d + 1) _ hb
      exact ⟨abs u, rfl, Beta.congAbs hu⟩
  | app l r ihl ihr =>
    generalize hl : udToFree k d l = l0 at h
    generalize hr : udToFree k d r = r0 at h
    simp only [udToFree_app] at h
    rw [hl, hr] at h
    cases h with
    | red b0 a0 =>
      cases l with
      | var i => cases i <;> cases hl
      | abs b =>
        simp only [udToFree_abs, abs.injEq] at hl
        subst hl hr
        exact ⟨substTop b r, (udToFree_substTop k d b r).symm, Beta.red b r⟩
      | app l1 l2 => cases hl
    | congAppL hb =>
      subst hl hr
      obtain ⟨u, rfl, hu⟩ := ihl d _ hb
      exact ⟨app u r, rfl, Beta.congAppL hu⟩
    | congAppR hb =>
      subst hl hr
      obtain ⟨u, rfl, hu⟩ := ihr d _ hb
      exact ⟨app l u, rfl, Beta.congAppR hu⟩

theorem C08_ud_parametric_steps (k d n : Nat) (t u : Term) (h : Steps n t u) :
    Steps n (udToFree k d t) (udToFree k d u) := by
  induction h with
  | zero t => exact Steps.zero _
  | succ hb _ ih => exact Steps.succ (udToFree_beta hb k d) ih

theorem C08_ud_parametric_star (k d : Nat) (t u : Term) (h : Star t u) :
    Star (udToFree k d t) (udToFree k d u) :=
  h.map (udToFree_beta · k d)

/-- multi-step form of the converse: every reduct of the renamed term is the renaming of a reduct of the term -/
theorem C08_ud_parametric_star_reflect (k d : Nat) (t u' : Term) (h : Star (udToFree k d t) u') :
    ∃ u, u' = udToFree k d u ∧ Star t u := by
  generalize hx : udToFree k d t = x at h
  induction h generalizing t with
  | refl _ => exact ⟨t, hx.symm, Star.refl _⟩
  | head hb _ ih =>
    subst hx
    obtain ⟨m, rfl, hm⟩ := C08_ud_parametric_beta_reflect k d t _ hb
    obtain ⟨u, hu, hs⟩ := ih m rfl
    exact ⟨u, hu, Star.head hm hs⟩

theorem C08_ud_parametric_normal (k d : Nat) (t : Term) : Normal (udToFree k d t) ↔ Normal t := by
  constructor
  · intro hn u hb
    exact hn _ (udToFree_beta hb k d)
  · intro hn u' hb
    obtain ⟨u, _, hu⟩ := C08_ud_parametric_beta_reflect k d t u' hb
    exact hn u hu

example : Beta (app (abs (app (var 1) (var 0))) (var 0)) (app (var 0) (var 0)) := Beta.red _ _
example : Beta (udToFree 3 0 (app (abs (app (var 1) (var 0))) (var 0))) (app (var 4) (var 4)) :=
  C08_ud_parametric_beta 3 0 _ _ (Beta.red _ _)

end LC
