/-
C04 — The limit is a hard bound and a limited run is a prefix of the unlimited run

"With a non-zero limit reduce never performs more contractions than the limit, and the returned
count is the number it did perform. Reduction is a deterministic function of (term, order):
reduce(o, n) followed by reduce(o, m) leaves the same term and the same total count as
reduce(o, n+m), and limit 0 equals repeating reduce(o, 1) until it returns 0."

Derived from `reduce_sound` (the result is the `c`-th iterate of the deterministic small-step function
`stepOrd o`, within the limit, and strategy-normal if limit is left) and from the uniqueness /
composition of bounded runs (`RL.BRun`, `RL.URun`); what concerns the fuel, from `betaOrd_mono` and
`reduce_total`, `reduce_complete`.
-/
import LC.Proofs.ReduceLemmas
import LC.Proofs.Complete.All

namespace LC
open Term

/-- C04: a non-zero limit is a hard bound on the count -/
theorem C04_bound (o : Order) (L fuel : Nat) (t t' : Term) (c : Nat) (hL : L ≠ 0)
    (h : reduce o L fuel t = some (t', c)) : c ≤ L :=
  (reduce_sound o L fuel t t' c h).2.1 hL

/-- C04: the count is the number of strategy steps performed; the result is that iterate -/
theorem C04_is_iter (o : Order) (L fuel : Nat) (t t' : Term) (c : Nat)
    (h : reduce o L fuel t = some (t', c)) : Iter (stepOrd o) c t t' :=
  (reduce_sound o L fuel t t' c h).1

/-- ω₃-like growing term `(λx. x x x)(λx. x x x)`: the limit really cuts the run -/
example : reduce .NOR 3 20 (app (abs (app (app (var 1) (var 1)) (var 1))) (abs (app (app (var 1) (var 1)) (var 1))))
    = some (app (app (app (app (abs (app (app (var 1) (var 1)) (var 1))) (abs (app (app (var 1) (var 1)) (var 1))))
        (abs (app (app (var 1) (var 1)) (var 1)))) (abs (app (app (var 1) (var 1)) (var 1))))
        (abs (app (app (var 1) (var 1)) (var 1))), 3) := by decide

/-- C04: `reduce(o, n)` then `reduce(o, m)` is `reduce(o, n + m)` — same term, same total count -/
theorem C04_compose (o : Order) (n m f₁ f₂ f₃ : Nat) (t t₁ t₂ t₃ : Term) (c₁ c₂ c₃ : Nat)
    (hn : n ≠ 0) (hm : m ≠ 0)
    (h₁ : reduce o n f₁ t = some (t₁, c₁)) (h₂ : reduce o m f₂ t₁ = some (t₂, c₂))
    (h₃ : reduce o (n + m) f₃ t = some (t₃, c₃)) :
    t₃ = t₂ ∧ c₃ = c₁ + c₂ :=
  ((RL.reduce_brun hn h₁).comp (RL.reduce_brun hm h₂)).unique (RL.reduce_brun (by omega) h₃)

example :
    reduce .APP 1 10 (app (abs (var 1)) (app (abs (var 1)) (app (abs (var 1)) (var 7))))
      = some (app (abs (var 1)) (app (abs (var 1)) (var 7)), 1) ∧
    reduce .APP 2 10 (app (abs (var 1)) (app (abs (var 1)) (var 7))) = some (var 7, 2) ∧
    reduce .APP 3 10 (app (abs (var 1)) (app (abs (var 1)) (app (abs (var 1)) (var 7))))
      = some (var 7, 3) := by decide

/-- C04: a limited run followed by an unlimited run is the unlimited run -/
theorem C04_compose_unlimited (o : Order) (n f₁ f₂ f₃ : Nat) (t t₁ t₂ t₃ : Term) (c₁ c₂ c₃ : Nat)
    (hn : n ≠ 0)
    (h₁ : reduce o n f₁ t = some (t₁, c₁)) (h₂ : reduce o 0 f₂ t₁ = some (t₂, c₂))
    (h₃ : reduce o 0 f₃ t = some (t₃, c₃)) :
    t₃ = t₂ ∧ c₃ = c₁ + c₂ :=
  ((RL.reduce_brun hn h₁).comp_urun (RL.reduce_urun h₂)).unique (RL.reduce_urun h₃)

/-- C04: a limited run is a prefix of the unlimited run: the unlimited run makes at least as
many steps, and its first `c` steps lead to the limited result -/
theorem C04_prefix (o : Order) (L f₁ f₂ : Nat) (t t₁ t₂ : Term) (c₁ c₂ : Nat)
    (h₁ : reduce o L f₁ t = some (t₁, c₁)) (h₂ : reduce o 0 f₂ t = some (t₂, c₂)) :
    c₁ ≤ c₂ ∧ Iter (stepOrd o) c₁ t t₁ ∧ Iter (stepOrd o) (c₂ - c₁) t₁ t₂ := by
  have it₁ := (reduce_sound o L f₁ t t₁ c₁ h₁).1
  obtain ⟨it₂, hn₂⟩ := RL.reduce_urun h₂
  have hle : c₁ ≤ c₂ := RL.iter_le_of_none it₂ hn₂ it₁
  exact ⟨hle, it₁, it₁.suffix it₂ hle⟩

/-- C04: the result does not depend on the fuel (the model's recursion-depth bound): `reduce` is
a function of (term, order, limit) -/
theorem C04_fuel_irrelevant (o : Order) (L f f' : Nat) (t : Term) (r r' : Term × Nat)
    (h : reduce o L f t = some r) (h' : reduce o L f' t = some r') : r = r' :=
  -- with the larger of the two fuels both answers are returned
  Option.some.inj ((betaOrd_mono o L h (Nat.le_max_left f f')).symm.trans
    (betaOrd_mono o L h' (Nat.le_max_right f f')))

example : reduce .HAP 0 6 (app (abs (var 1)) (app (abs (var 1)) (var 7))) = some (var 7, 2) ∧
    reduce .HAP 0 30 (app (abs (var 1)) (app (abs (var 1)) (var 7))) = some (var 7, 2) := by decide

/-- C04: limit 0 runs the strategy to its fixpoint -/
theorem C04_unlimited_is_fixpoint (o : Order) (fuel : Nat) (t t' : Term) (c : Nat)
    (h : reduce o 0 fuel t = some (t', c)) : Iter (stepOrd o) c t t' ∧ stepOrd o t' = none :=
  RL.reduce_urun h

/-- C04: limit 1 performs exactly one strategy step if there is one, and returns 0 otherwise -/
theorem C04_single_step (o : Order) (fuel : Nat) (t t' : Term) (c : Nat)
    (h : reduce o 1 fuel t = some (t', c)) :
    (stepOrd o t = some t' ∧ c = 1) ∨ (stepOrd o t = none ∧ t' = t ∧ c = 0) := by
  obtain ⟨it, hle, hn⟩ := RL.reduce_brun (by omega) h
  cases it with
  | zero _ => exact Or.inr ⟨hn (by omega), rfl, rfl⟩
  | @succ k _ u _ hs hrest =>
    have hk : k = 0 := by omega
    subst hk
    cases hrest
    exact Or.inl ⟨hs, rfl⟩

example : reduce .CBN 1 10 (app (abs (var 1)) (app (abs (var 1)) (var 7)))
      = some (app (abs (var 1)) (var 7), 1) ∧
    stepOrd .CBN (app (abs (var 1)) (app (abs (var 1)) (var 7))) = some (app (abs (var 1)) (var 7)) ∧
    reduce .CBN 1 10 (var 7) = some (var 7, 0) := by decide

/-- successive `reduce o` calls with the given (limit, fuel) pairs, counts summed -/
def runLimits (o : Order) : List (Nat × Nat) → Term → Option (Term × Nat)
  | [], t => some (t, 0)
  | (n, f) :: ls, t =>
    match reduce o n f t with
    | none => none
    | some (t', c) =>
      match runLimits o ls t' with
      | none => none
      | some (t'', c') => some (t'', c + c')

def sumLimits : List (Nat × Nat) → Nat
  | [] => 0
  | (n, _) :: ls => n + sumLimits ls

/-- a sequence of positive-limit calls is the bounded run of the summed limit -/
theorem runLimits_brun (o : Order) (ls : List (Nat × Nat)) (hpos : ∀ p ∈ ls, p.1 ≠ 0)
    (t t₂ : Term) (c : Nat) (h : runLimits o ls t = some (t₂, c)) :
    RL.BRun (stepOrd o) (sumLimits ls) t t₂ c := by
  induction ls generalizing t c with
  | nil =>
    simp only [runLimits, Option.some.injEq, Prod.mk.injEq] at h
    obtain ⟨rfl, rfl⟩ := h
    exact RL.BRun.zero t
  | cons p ls ih =>
    obtain ⟨n, f⟩ := p
    simp only [runLimits] at h
    cases h1 : reduce o n f t with
    | none => simp [h1] at h
    | some q =>
      obtain ⟨t', c1⟩ := q
      simp only [h1] at h
      cases h2 : runLimits o ls t' with
      | none => simp [h2] at h
      | some q2 =>
        obtain ⟨t'', c2⟩ := q2
        simp only [h2, Option.some.injEq, Prod.mk.injEq] at h
        obtain ⟨rfl, rfl⟩ := h
        have hn : n ≠ 0 := hpos (n, f) (List.mem_cons_self)
        have := ih (fun p hp => hpos p (List.mem_cons_of_mem _ hp)) t' c2 h2
        exact (RL.reduce_brun hn h1).comp this

/-- C04, list form: any non-empty sequence of calls with positive limits `n₁, …, n_k` leaves the
same term and the same total count as one call with limit `n₁ + … + n_k` -/
theorem C04_compose_list (o : Order) (ls : List (Nat × Nat)) (hne : ls ≠ [])
    (hpos : ∀ p ∈ ls, p.1 ≠ 0) (f : Nat) (t t₂ t₃ : Term) (c c₃ : Nat)
    (h : runLimits o ls t = some (t₂, c))
    (h₃ : reduce o (sumLimits ls) f t = some (t₃, c₃)) :
    t₃ = t₂ ∧ c₃ = c := by
  have hs : sumLimits ls ≠ 0 := by
    cases ls with
    | nil => exact absurd rfl hne
    | cons p ls =>
      obtain ⟨n, f⟩ := p
      have : n ≠ 0 := hpos (n, f) (List.mem_cons_self)
      simp only [sumLimits]; omega
  exact (runLimits_brun o ls hpos t t₂ c h).unique (RL.reduce_brun hs h₃)

example : runLimits .NOR [(1, 10), (2, 10)]
      (app (abs (var 1)) (app (abs (var 1)) (app (abs (var 1)) (var 7)))) = some (var 7, 3) := by
  decide

/-- C04: limit 0 equals repeating `reduce(o, 1)` until it returns 0: if a sequence of limit-1
calls is followed by a limit-1 call that returns count 0, the term and the summed count are those
of the unlimited run -/
theorem C04_repeat_single (o : Order) (ls : List (Nat × Nat)) (hone : ∀ p ∈ ls, p.1 = 1)
    (f f' : Nat) (t t₂ t₂' t₃ : Term) (c c₃ : Nat)
    (h : runLimits o ls t = some (t₂, c))
    (hlast : reduce o 1 f t₂ = some (t₂', 0))
    (h₃ : reduce o 0 f' t = some (t₃, c₃)) :
    t₃ = t₂ ∧ c₃ = c := by
  have hb := runLimits_brun o ls (fun p hp => by rw [hone p hp]; omega) t t₂ c h
  have hn : stepOrd o t₂ = none := by
    rcases C04_single_step o f t₂ t₂' 0 hlast with ⟨_, h0⟩ | ⟨hn, _, _⟩
    · omega
    · exact hn
  exact (RL.URun.unique ⟨hb.1, hn⟩ (RL.reduce_urun h₃))

example : runLimits .CBV [(1, 10), (1, 10)] (app (abs (var 1)) (app (abs (var 1)) (var 7)))
      = some (var 7, 2) ∧
    reduce .CBV 1 10 (var 7) = some (var 7, 0) ∧
    reduce .CBV 0 10 (app (abs (var 1)) (app (abs (var 1)) (var 7))) = some (var 7, 2) := by decide

/-- limited calls always return: with a non-zero limit the recursion terminates on every term
(`fuel` bounds the depth of the call tree; some finite depth always suffices) -/
theorem C04_total (o : Order) (L : Nat) (hL : L ≠ 0) (t : Term) :
    ∃ fuel r, reduce o L fuel t = some r := reduce_total o L hL t

/-- the unlimited call returns exactly when the strategy's run from `t` is finite, and then with
the strategy's normal form and the run's length -/
theorem C04_unlimited_returns_iff (o : Order) (t t' : Term) (c : Nat) :
    (∃ fuel, reduce o 0 fuel t = some (t', c)) ↔ (Iter (stepOrd o) c t t' ∧ stepOrd o t' = none) := by
  constructor
  · rintro ⟨fuel, h⟩; exact C04_unlimited_is_fixpoint o fuel t t' c h
  · exact RL.reduce_of_urun

theorem C04_fuel_mono (o : Order) (L f f' : Nat) (t : Term) (r : Term × Nat)
    (h : reduce o L f t = some r) (hle : f ≤ f') : reduce o L f' t = some r :=
  betaOrd_mono o L h hle

/-- non-vacuity of `C04_total`: Ω under a limit of 3 returns after exactly 3 steps -/
example : ∃ fuel, reduce .NOR 3 fuel (app (abs (app (var 1) (var 1))) (abs (app (var 1) (var 1))))
    = some (app (abs (app (var 1) (var 1))) (abs (app (var 1) (var 1))), 3) := ⟨10, by decide⟩

end LC
