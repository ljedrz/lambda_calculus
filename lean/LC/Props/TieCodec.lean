/-
TIE (trusted-base reduction): the line protocol of the driver carries values faithfully.

The correspondence check (DESIGN §3.2) pipes operation lines to the compiled driver, which decodes terms, numbers,
tokens, expressions, ... from the words of the line (`LC/Drv/Codec.lean`), runs MODEL functions and prints the results.
These theorems are about the functions the driver actually runs.  The wire format they refer to (`termWords`, `Spells`,
`orderWord`, `charWord`, `exprWords`, `cpsWords`, `res…Words`, `Words`, `lineOf`) is specified in `LC/Drv/Wire.lean`.

 * ROUND TRIP: every decoder inverts the corresponding printer / wire format, leaving the rest of the line untouched;
 * INJECTIVITY: no two different model results print the same line, for the result printers that print a model value
   (`TIE_codec_res…_injective`); the answers put together by driver code are listed in the header of `TieCodecExec.lean`;
 * TOTALITY: what `decTerm` and the single-word decoders (`orderOf`, `encOf`, `decTok`, `decCTok`, `decChar`) accept is
   stated exactly, and on anything else they answer `none` (the driver prints `bad-op`).  For the keywords that is the wire
   format; a NUMBER is accepted in every spelling `String.toNat?` reads (`007`, `1_0`), not only in the one the printers
   write (`Spells`, `TIE_codec_token_total`, `TIE_codec_char_total`); the count-prefixed lists of numbers and characters do
   NOT insist on their count (`TIE_codec_nats_count`, `TIE_codec_chars_count`);
 * the fuel-indexed decoders of `Codec.lean` satisfy the recursion equations without fuel.
The theorems about whole operations (`exec line = printer (model function arguments)`) are in `TieCodecExec.lean`.
-/
import LC.Proofs.DriverCodecExpr

open LC LC.Term LC.Parser Drv

theorem TIE_codec_nat_roundtrip (n : Nat) : (toString n).toNat? = some n := toNat?_toString n

example : (toString 18446744073709551615).toNat? = some 18446744073709551615 := TIE_codec_nat_roundtrip _

theorem TIE_codec_int_roundtrip (i : Int) : (toString i).toInt? = some i := Int.toInt?_repr i

example : (toString (-3 : Int)).toInt? = some (-3) := TIE_codec_int_roundtrip _

theorem TIE_codec_nat_injective {n m : Nat} (h : toString n = toString m) : n = m := toString_nat_inj h

example : toString 10 ≠ toString 1 := fun h => absurd (TIE_codec_nat_injective h) (by decide)

/-- the driver splits a line of space-separated words into exactly these words -/
theorem TIE_codec_tokenize_line {l : List String} (hl : Words l) : tokenize (lineOf l) = l :=
  tokenize_intercalate hl

example : tokenize "reduce NOR 0 A L 1 2" = ["reduce", "NOR", "0", "A", "L", "1", "2"] := by
  have h : "reduce NOR 0 A L 1 2" = lineOf ["reduce", "NOR", "0", "A", "L", "1", "2"] := by decide +kernel
  rw [h]
  exact TIE_codec_tokenize_line (.cons lit_words (.cons lit_words (.cons lit_words (.cons lit_words
    (.cons lit_words (.cons lit_words lit_words))))))

/-- what `tokenize` does on ANY line: split the characters at every space, drop the empty pieces -/
theorem TIE_codec_tokenize_spec (line : String) :
    tokenize line = ((line.toList.splitOn ' ').map String.ofList).filter (· ≠ "") := by
  rw [tokenize, splitChar_eq]

example : tokenize "  a  b " = ["a", "b"] := by rw [TIE_codec_tokenize_spec]; decide +kernel

theorem TIE_codec_line_injective {l m : List String} (hl : Words l) (hm : Words m) (h : lineOf l = lineOf m) :
    l = m := intercalate_inj hl hm h

/-- the hypothesis `Words` is needed: a "word" containing a space is split -/
example : lineOf ["a", "b c"] = lineOf ["a b", "c"] := by decide +kernel

theorem TIE_codec_showTerm_words (t : Term) : showTerm t = lineOf (termWords t) ∧ Words (termWords t) :=
  ⟨showTerm_eq t, termWords_words t⟩

example : showTerm (app (abs (var 1)) (var 2)) = "A L 1 2" := by decide +kernel

theorem TIE_codec_term_roundtrip_words (t : Term) (rest : List String) :
    decTerm (termWords t ++ rest) = some (t, rest) := decTerm_termWords t rest

example : decTerm ["A", "L", "1", "2", "x"] = some (app (abs (var 1)) (var 2), ["x"]) :=
  TIE_codec_term_roundtrip_words (app (abs (var 1)) (var 2)) ["x"]

theorem TIE_codec_term_roundtrip_line (t : Term) : decTerm (tokenize (showTerm t)) = some (t, []) := by
  rw [showTerm_eq, tokenize_intercalate (termWords_words t)]
  simpa using decTerm_termWords t []

example : decTerm (tokenize "A L 1 2") = some (app (abs (var 1)) (var 2), []) :=
  TIE_codec_term_roundtrip_line (app (abs (var 1)) (var 2))

theorem TIE_codec_showTerm_injective {t u : Term} (h : showTerm t = showTerm u) : t = u :=
  inj_of_words showTerm_eq termWords_words (fun _ _ => termWords_inj) h

example : showTerm (app (var 1) (var 2)) ≠ showTerm (app (var 12) (var 0)) :=
  fun h => absurd (TIE_codec_showTerm_injective h) (by decide)

/-- the word encoding is prefix-free: a word list starts with the words of at most one term -/
theorem TIE_codec_termWords_prefix_free {t u : Term} {r s : List String}
    (h : termWords t ++ r = termWords u ++ s) : t = u ∧ r = s := termWords_append_inj h

example : termWords (var 1) ++ ["2"] ≠ termWords (var 12) ++ [] :=
  fun h => absurd (TIE_codec_termWords_prefix_free h).1 (by decide)

/-- TOTALITY: `decTerm` succeeds exactly on a spelling of one term (`Spells`: `L`, `A`, and any word
`String.toNat?` reads as a number) followed by the rest it returns; on everything else it answers `none` -/
theorem TIE_codec_decTerm_total {ws : List String} {t : Term} {rest : List String} :
    decTerm ws = some (t, rest) ↔ ∃ pre, ws = pre ++ rest ∧ Spells pre t :=
  decTermF_eq_some_iff (Nat.le_refl _)

example : decTerm ["A", "07", "1_0", "z"] = some (app (var 7) (var 10), ["z"]) :=
  TIE_codec_decTerm_total.2 ⟨["A", "07", "1_0"], rfl,
    Spells.app (ws := ["07"]) (vs := ["1_0"]) (.var (by toNat_some)) (.var (by toNat_some))⟩

/-- TOTALITY, the refusals: nothing to read -/
theorem TIE_codec_decTerm_empty : decTerm [] = none := decTerm_nil

example : decTerm (tokenize "   ") = none := by
  have : tokenize "   " = [] := by rw [TIE_codec_tokenize_spec]; decide +kernel
  rw [this, TIE_codec_decTerm_empty]

/-- TOTALITY, the refusals: a word that is not `L`, `A` or a number (the driver never defaults to some term) -/
theorem TIE_codec_decTerm_bad_word {w : String} (rest : List String) (hL : w ≠ "L") (hA : w ≠ "A")
    (hn : w.toNat? = none) : decTerm (w :: rest) = none := by
  rw [decTerm_num _ _ hL hA, hn]; rfl

example : decTerm ["x", "1"] = none := TIE_codec_decTerm_bad_word _ (by decide) (by decide) (by toNat_none)
example : decTerm ["-1"] = none := TIE_codec_decTerm_bad_word _ (by decide) (by decide) (by toNat_none)
example : decTerm ["l", "1"] = none := TIE_codec_decTerm_bad_word _ (by decide) (by decide) (by toNat_none)

/-- TOTALITY, the refusals: an abstraction without a body, an application without its two arguments -/
theorem TIE_codec_decTerm_truncated {ws : List String} (h : decTerm ws = none) :
    decTerm ("L" :: ws) = none ∧ decTerm ("A" :: ws) = none ∧
    ∀ t, decTerm ("A" :: (termWords t ++ ws)) = none := by
  refine ⟨by simp [decTerm_L, h], by simp [decTerm_A, h], fun t => ?_⟩
  simp [decTerm_A, decTerm_termWords, h]

example : decTerm ["L"] = none ∧ decTerm ["A"] = none ∧ decTerm ["A", "1"] = none := by
  obtain ⟨h1, h2, h3⟩ := TIE_codec_decTerm_truncated TIE_codec_decTerm_empty
  exact ⟨h1, h2, h3 (var 1)⟩

/-- a successful `decTerm` consumes at least one word, and what it leaves is a suffix of the line -/
theorem TIE_codec_decTerm_consumes {ws : List String} {t : Term} {rest : List String}
    (h : decTerm ws = some (t, rest)) : rest.length < ws.length ∧ ∃ pre, ws = pre ++ rest :=
  ⟨decTermF_length h, (decTermF_spells h).imp fun _ h => h.1⟩

example : ∃ pre, ["L", "1", "x"] = pre ++ ["x"] :=
  (TIE_codec_decTerm_consumes (TIE_codec_term_roundtrip_words (abs (var 1)) ["x"])).2

/-- the (fuel-indexed, total) `decTerm` of `Codec.lean` satisfies the four recursion equations
without fuel: it IS the function they define -/
theorem TIE_codec_decTerm_equations :
    decTerm [] = none ∧
    (∀ rest, decTerm ("L" :: rest) = (do let (b, rest') ← decTerm rest; pure (.abs b, rest'))) ∧
    (∀ rest, decTerm ("A" :: rest) =
      (do let (l, r1) ← decTerm rest
          let (r, r2) ← decTerm r1
          pure (.app l r, r2))) ∧
    (∀ w rest, w ≠ "L" → w ≠ "A" → decTerm (w :: rest) = (do let k ← w.toNat?; pure (.var k, rest))) :=
  ⟨decTerm_nil, decTerm_L, decTerm_A, decTerm_num⟩

example : decTerm ["L"] = none := by
  rw [TIE_codec_decTerm_equations.2.1, TIE_codec_decTerm_equations.1]; rfl

/-- ROUND TRIP: `n` terms written one after the other are read back (`mapp`, `vect`, `tuple`) -/
theorem TIE_codec_terms_roundtrip (ts : List Term) (rest : List String) :
    decTerms ts.length ((ts.map termWords).flatten ++ rest) = some (ts, rest) := decTerms_termWords ts rest

example : decTerms 2 ["L", "1", "A", "1", "2", "3"] = some ([abs (var 1), app (var 1) (var 2)], ["3"]) :=
  TIE_codec_terms_roundtrip [abs (var 1), app (var 1) (var 2)] ["3"]

/-- a successful `decTerms n` returns exactly `n` terms (too few terms on the line: `none`) -/
theorem TIE_codec_terms_count {n : Nat} {ws : List String} {ts : List Term} {rest : List String}
    (h : decTerms n ws = some (ts, rest)) : ts.length = n := by
  induction n generalizing ws ts rest with
  | zero => simp [decTerms_zero] at h; simp [← h.1]
  | succ n ih =>
    simp only [decTerms_succ, Option.bind_eq_bind, Option.bind_eq_some_iff] at h
    obtain ⟨p, -, ⟨more, r'⟩, h2, h3⟩ := h
    cases h3
    simp [ih h2]

example : decTerms 2 ["1"] = none := by
  have h : decTerm ["1"] = some (var 1, []) := TIE_codec_term_roundtrip_words (var 1) []
  rw [decTerms_succ, h]
  simp [decTerms_succ, decTerm_nil]

/-- `orderOf` accepts exactly the seven order words, each for its own order (never a default order) -/
theorem TIE_codec_order_total {w : String} {o : Order} : orderOf w = some o ↔ w = orderWord o := by
  constructor
  · intro h
    unfold orderOf at h
    -- each arm of `orderOf` returns the order whose word it has tested for; the last arm returns `none`
    split at h <;> simp at h <;> subst h <;> rfl
  · rintro rfl; exact orderOf_orderWord o

example : orderOf "HAP" = some .HAP ∧ orderOf "hap" = none ∧ orderOf "" = none := by decide +kernel

/-- `encOf` accepts exactly the five encoding words, each for its own encoding -/
theorem TIE_codec_encoding_total {w : String} {e : Enc.Encoding} : encOf w = some e ↔ w = encWord e := by
  constructor
  · intro h
    unfold encOf at h
    split at h <;> simp at h <;> subst h <;> rfl
  · rintro rfl; exact encOf_encWord e

example : encOf "stumpfu" = some .StumpFu ∧ encOf "Church" = none := by decide +kernel

theorem TIE_codec_errName_injective {e e' : TermError} (h : errName e = errName e') : e = e' := errName_inj h

example : errName .NotAbs ≠ errName .NotApp := by decide

theorem TIE_codec_b01_injective {b b' : Bool} (h : b01 b = b01 b') : b = b' := by
  cases b <;> cases b' <;> first | rfl | (revert h; decide)

example : b01 true = "1" ∧ b01 false = "0" := by decide

/-- ROUND TRIP: a list of `reduce` calls is read back (`hist`) -/
theorem TIE_codec_calls_roundtrip (cs : List (Order × Nat)) (rest : List String) :
    parseCalls cs.length ((cs.map callWords).flatten ++ rest) = some (cs, rest) := parseCalls_callWords cs rest

example : parseCalls 2 ["NOR", "1", "CBV", "0", "A", "1", "2"] = some ([(.NOR, 1), (.CBV, 0)], ["A", "1", "2"]) :=
  TIE_codec_calls_roundtrip [(.NOR, 1), (.CBV, 0)] ["A", "1", "2"]

theorem TIE_codec_calls_count {n : Nat} {ws : List String} {cs : List (Order × Nat)} {rest : List String}
    (h : parseCalls n ws = some (cs, rest)) : cs.length = n := by
  induction n generalizing ws cs rest with
  | zero => simp [parseCalls_zero] at h; simp [← h.1]
  | succ n ih =>
    match ws with
    | [] => simp [parseCalls] at h
    | [_] => simp [parseCalls] at h
    | o :: l :: ws =>
      simp only [parseCalls_succ, Option.bind_eq_bind, Option.bind_eq_some_iff] at h
      obtain ⟨o', -, l', -, ⟨more, r'⟩, h3, h4⟩ := h
      cases h4
      simp [ih h3]

example : parseCalls 2 ["NOR", "1"] = none := by
  have h : "1".toNat? = some 1 := by toNat_some
  simp [parseCalls, orderOf, h]

/-- ROUND TRIP: `k` printed numbers are read back (`vecn`) -/
theorem TIE_codec_nats_roundtrip (ns : List Nat) (rest : List String) :
    decNats ns.length (ns.map toString ++ rest) = some ns := decNats_toString ns rest

example : decNats 3 ["4", "0", "17", "x"] = some [4, 0, 17] := TIE_codec_nats_roundtrip [4, 0, 17] ["x"]

/-- WEAKNESS of the protocol: `decNats n` does not insist on `n` numbers — a line with fewer
words is silently read as a shorter list (the count of the decoded list is `min n |words|`, not `n`) -/
theorem TIE_codec_nats_count {n : Nat} {ws : List String} {ns : List Nat} (h : decNats n ws = some ns) :
    ns.length = min n ws.length := by
  rw [decNats] at h
  rw [mapM_option_length h, List.length_take]

example : decNats 2 ["1"] = some [1] := by
  have : "1".toNat? = some 1 := by toNat_some
  simp [decNats, this]

/-- ROUND TRIP: a character word `cp:flags:dig` is read back -/
theorem TIE_codec_char_roundtrip (x : Nat × Nat × Nat) : decChar (charWord x) = some x := decChar_charWord x

example : decChar "955:6:16" = some (955, 6, 16) := by
  have : "955:6:16" = charWord (955, 6, 16) := by decide +kernel
  rw [this]; exact TIE_codec_char_roundtrip _

/-- ROUND TRIP: `n` character words are read back (`lexd`, `lexc`, `parse`) -/
theorem TIE_codec_chars_roundtrip (xs : List (Nat × Nat × Nat)) (rest : List String) :
    decChars xs.length (xs.map charWord ++ rest) = some xs := decChars_charWord xs rest

example : decChars 2 ["49:4:1", "955:6:16", "x"] = some [(49, 4, 1), (955, 6, 16)] := by
  have : ["49:4:1", "955:6:16", "x"] = [(49, 4, 1), (955, 6, 16)].map charWord ++ ["x"] := by decide +kernel
  rw [this]; exact TIE_codec_chars_roundtrip [(49, 4, 1), (955, 6, 16)] ["x"]

/-- TOTALITY: `decChar` accepts exactly three numbers separated by two colons -/
theorem TIE_codec_char_total {s : String} {x : Nat × Nat × Nat} :
    decChar s = some x ↔ ∃ a b c, splitChar ':' s = [a, b, c] ∧
      a.toNat? = some x.1 ∧ b.toNat? = some x.2.1 ∧ c.toNat? = some x.2.2 := by
  obtain ⟨x1, x2, x3⟩ := x
  unfold decChar
  constructor
  · intro h
    split at h
    · rename_i a b c heq
      refine ⟨a, b, c, heq, ?_⟩
      cases ha : a.toNat? <;> cases hb : b.toNat? <;> cases hc : c.toNat? <;> simp [ha, hb, hc] at h ⊢
      exact h
    · exact absurd h (by simp)
  · rintro ⟨a, b, c, heq, ha, hb, hc⟩
    simp only at ha hb hc
    simp [heq, ha, hb, hc]

example : decChar "49:4" = none := by
  cases h : decChar "49:4" with
  | none => rfl
  | some x =>
    obtain ⟨a, b, c, hs, -⟩ := TIE_codec_char_total.1 h
    have h2 : splitChar ':' "49:4" = ["49", "4"] := by rw [splitChar_eq]; decide +kernel
    rw [h2] at hs
    exact absurd (congrArg List.length hs) (by simp)

/-- WEAKNESS (as for `decNats`): fewer character words than announced are accepted -/
theorem TIE_codec_chars_count {n : Nat} {ws : List String} {xs : List (Nat × Nat × Nat)}
    (h : decChars n ws = some xs) : xs.length = min n ws.length := by
  rw [decChars] at h
  rw [mapM_option_length h, List.length_take]

example : decChars 3 ["49:4:1"] = some [(49, 4, 1)] := by
  have h : decChar "49:4:1" = some (49, 4, 1) := by
    have : "49:4:1" = charWord (49, 4, 1) := by decide +kernel
    rw [this]; exact TIE_codec_char_roundtrip _
  simp [decChars, h]

theorem TIE_codec_token_roundtrip (t : Token) : decTok (showTok t) = some t := decTok_showTok t

example : decTok "N12" = some (.Number 12) := by
  have : "N12" = showTok (.Number 12) := by decide +kernel
  rw [this]; exact TIE_codec_token_roundtrip _

theorem TIE_codec_showTok_injective {t u : Token} (h : showTok t = showTok u) : t = u :=
  inj_of_dec decTok_showTok h

example : showTok (.Number 1) ≠ showTok .Lambda := fun h => absurd (TIE_codec_showTok_injective h) (by decide)

/-- TOTALITY: `decTok` accepts exactly `L`, `(`, `)` and `N` followed by a number; everything else is refused -/
theorem TIE_codec_token_total {w : String} {t : Token} :
    decTok w = some t ↔
      (w = "L" ∧ t = .Lambda) ∨ (w = "(" ∧ t = .Lparen) ∨ (w = ")" ∧ t = .Rparen) ∨
      ∃ s n, w = "N" ++ s ∧ s.toNat? = some n ∧ t = .Number n := by
  constructor
  · intro h
    by_cases h1 : w = "L"
    · subst h1; simp [decTok] at h; simp [← h]
    by_cases h2 : w = "("
    · subst h2; simp [decTok] at h; simp [← h]
    by_cases h3 : w = ")"
    · subst h3; simp [decTok] at h; simp [← h]
    by_cases h4 : w.startsWith "N" = true
    · obtain ⟨s, rfl⟩ := exists_of_startsWith h4
      rw [decTok_N] at h
      obtain ⟨n, hs, rfl⟩ := Option.map_eq_some_iff.1 h
      exact Or.inr (Or.inr (Or.inr ⟨s, n, rfl, hs, rfl⟩))
    · simp only [decTok, beq_iff_eq, h1, h2, h3, h4, if_false] at h
      exact absurd h (by simp)
  · rintro (⟨rfl, rfl⟩ | ⟨rfl, rfl⟩ | ⟨rfl, rfl⟩ | ⟨s, n, rfl, hs, rfl⟩)
    · simp [decTok]
    · simp [decTok]
    · simp [decTok]
    · rw [decTok_N, hs]; rfl

example : decTok "N" = none ∧ decTok "M1" = none := by
  constructor
  · have : "N" = "N" ++ "" := by decide +kernel
    rw [this, decTok_N, toNat?_empty]; rfl
  · cases h : decTok "M1" with
    | none => rfl
    | some t =>
      rcases TIE_codec_token_total.1 h with ⟨h, -⟩ | ⟨h, -⟩ | ⟨h, -⟩ | ⟨s, n, h, -⟩
      · exact absurd h (by decide)
      · exact absurd h (by decide)
      · exact absurd h (by decide)
      · exact absurd h (fun h => by simpa using congrArg String.toList h)

/-- ROUND TRIP: a printed name (code points joined by dots) is read back -/
theorem TIE_codec_name_roundtrip (n : List Nat) : decName (showName n) = some n := decName_showName n

example : decName "97.98" = some [97, 98] ∧ decName "" = some [] := by
  constructor
  · have : "97.98" = showName [97, 98] := by decide +kernel
    rw [this]; exact TIE_codec_name_roundtrip _
  · exact TIE_codec_name_roundtrip []

theorem TIE_codec_ctoken_roundtrip (t : CToken) : decCTok (showCTok t) = some t := decCTok_showCTok t

example : decCTok "CL:97.98" = some (.CLambda [97, 98]) := by
  have : "CL:97.98" = showCTok (.CLambda [97, 98]) := by decide +kernel
  rw [this]; exact TIE_codec_ctoken_roundtrip _

theorem TIE_codec_showCTok_injective {t u : CToken} (h : showCTok t = showCTok u) : t = u :=
  inj_of_dec decCTok_showCTok h

example : showCTok (.CLambda [97]) ≠ showCTok (.CName [97]) :=
  fun h => absurd (TIE_codec_showCTok_injective h) (by decide)

/-- TOTALITY: `decCTok` accepts exactly `(`, `)`, and `CL:` / `CN:` followed by a name -/
theorem TIE_codec_ctoken_total {w : String} {t : CToken} :
    decCTok w = some t ↔
      (w = "(" ∧ t = .CLparen) ∨ (w = ")" ∧ t = .CRparen) ∨
      (∃ s n, w = "CL:" ++ s ∧ decName s = some n ∧ t = .CLambda n) ∨
      (∃ s n, w = "CN:" ++ s ∧ decName s = some n ∧ t = .CName n) := by
  constructor
  · intro h
    by_cases h2 : w = "("
    · subst h2; simp [decCTok] at h; simp [← h]
    by_cases h3 : w = ")"
    · subst h3; simp [decCTok] at h; simp [← h]
    by_cases h4 : w.startsWith "CL:" = true
    · obtain ⟨s, rfl⟩ := exists_of_startsWith h4
      rw [decCTok_CL] at h
      obtain ⟨n, hs, rfl⟩ := Option.map_eq_some_iff.1 h
      exact Or.inr (Or.inr (Or.inl ⟨s, n, rfl, hs, rfl⟩))
    by_cases h5 : w.startsWith "CN:" = true
    · obtain ⟨s, rfl⟩ := exists_of_startsWith h5
      rw [decCTok_CN] at h
      obtain ⟨n, hs, rfl⟩ := Option.map_eq_some_iff.1 h
      exact Or.inr (Or.inr (Or.inr ⟨s, n, rfl, hs, rfl⟩))
    · simp only [decCTok, beq_iff_eq, h2, h3, h4, h5, if_false] at h
      exact absurd h (by simp)
  · rintro (⟨rfl, rfl⟩ | ⟨rfl, rfl⟩ | ⟨s, n, rfl, hs, rfl⟩ | ⟨s, n, rfl, hs, rfl⟩)
    · simp [decCTok]
    · simp [decCTok]
    · rw [decCTok_CL, hs]; rfl
    · rw [decCTok_CN, hs]; rfl

example : decCTok "CX:5" = none := by
  cases h : decCTok "CX:5" with
  | none => rfl
  | some t =>
    rcases TIE_codec_ctoken_total.1 h with ⟨h, -⟩ | ⟨h, -⟩ | ⟨s, n, h, -⟩ | ⟨s, n, h, -⟩
    · exact absurd h (by decide)
    · exact absurd h (by decide)
    · have := congrArg String.toList h; simp at this
    · have := congrArg String.toList h; simp at this

/-- ROUND TRIP for the token lists of `ast` and `conv` (the driver maps the decoder over the words) -/
theorem TIE_codec_tokens_roundtrip (ts : List Token) (cts : List CToken) :
    (ts.map showTok).mapM decTok = some ts ∧ (cts.map showCTok).mapM decCTok = some cts :=
  ⟨mapM_dec_enc decTok_showTok ts, mapM_dec_enc decCTok_showCTok cts⟩

example : ["L", "N1", "("].mapM decTok = some [.Lambda, .Number 1, .Lparen] := by
  have : ["L", "N1", "("] = [Token.Lambda, .Number 1, .Lparen].map showTok := by decide +kernel
  rw [this]; exact (TIE_codec_tokens_roundtrip _ []).1

theorem TIE_codec_showExpr_words (e : Expression) : showExpr e = lineOf (exprWords e) ∧ Words (exprWords e) :=
  ⟨showExpr_eq e, exprWords_words e⟩

example : showExpr (.Sequence [.Abstraction, .Sequence [.Variable 1], .Sequence []]) = "S3 A S1 V1 S0" :=
  (TIE_codec_showExpr_words _).1.trans (by decide +kernel)

theorem TIE_codec_expr_roundtrip_words (e : Expression) (rest : List String) :
    decExpr (exprWords e ++ rest) = some (e, rest) := decExpr_exprWords e rest

example : decExpr ["S2", "A", "V1", "x"] = some (.Sequence [.Abstraction, .Variable 1], ["x"]) := by
  have : ["S2", "A", "V1", "x"] = exprWords (.Sequence [.Abstraction, .Variable 1]) ++ ["x"] := by decide +kernel
  rw [this]; exact TIE_codec_expr_roundtrip_words _ _

theorem TIE_codec_expr_roundtrip_line (e : Expression) : decExpr (tokenize (showExpr e)) = some (e, []) := by
  rw [showExpr_eq, tokenize_intercalate (exprWords_words e)]
  simpa using decExpr_exprWords e []

example : decExpr (tokenize "S2 A V1") = some (.Sequence [.Abstraction, .Variable 1], []) := by
  have : "S2 A V1" = showExpr (.Sequence [.Abstraction, .Variable 1]) :=
    ((TIE_codec_showExpr_words _).1.trans (by decide)).symm
  rw [this]; exact TIE_codec_expr_roundtrip_line _

/-- ROUND TRIP: `n` expressions written one after the other are read back (`fold`) -/
theorem TIE_codec_exprs_roundtrip (es : List Expression) (rest : List String) :
    decExprs es.length (exprsWords es ++ rest) = some (es, rest) := decExprs_exprsWords es rest

example : decExprs 2 ["A", "V1", "x"] = some ([.Abstraction, .Variable 1], ["x"]) := by
  have : ["A", "V1", "x"] = exprsWords [.Abstraction, .Variable 1] ++ ["x"] := by decide +kernel
  rw [this]; exact TIE_codec_exprs_roundtrip [.Abstraction, .Variable 1] ["x"]

/-- a successful `decExpr` consumes a non-empty prefix of the words and returns the rest untouched;
a successful `decExprs n` returns exactly `n` expressions -/
theorem TIE_codec_expr_consumes {ws : List String} {e : Expression} {r : List String} {n : Nat}
    {es : List Expression} :
    (decExpr ws = some (e, r) → r.length < ws.length ∧ ∃ pre, ws = pre ++ r) ∧
    (decExprs n ws = some (es, r) → es.length = n) := by
  refine ⟨fun h => ⟨decExprF_length h, ((decExprF_consumes_aux _).1 _ _ _ h).imp fun _ h => h.2⟩, ?_⟩
  induction n generalizing ws es r with
  | zero =>
    intro h
    simp [decExprs_zero] at h
    simp [← h.1]
  | succ n ih =>
    intro h
    simp only [decExprs_succ, Option.bind_eq_bind, Option.bind_eq_some_iff] at h
    obtain ⟨p, -, ⟨more, r'⟩, h2, h3⟩ := h
    cases h3
    simp [ih h2]

example : decExprs 2 ["A"] = none := by
  rw [decExprs_succ, decExpr_A]
  simp [decExprs_succ, decExpr_nil]

theorem TIE_codec_showExpr_injective {e e' : Expression} (h : showExpr e = showExpr e') : e = e' :=
  inj_of_words showExpr_eq exprWords_words (fun _ _ => exprWords_inj) h

example : showExpr (.Sequence [.Variable 1, .Variable 2]) ≠ showExpr (.Sequence [.Variable 12]) :=
  fun h => absurd (TIE_codec_showExpr_injective h) (by simp)

/-- the (fuel-indexed, total) `decExpr` / `decExprs` of `Codec.lean` satisfy the mutual recursion
equations without fuel -/
theorem TIE_codec_decExpr_equations :
    decExpr [] = none ∧
    (∀ w rest, decExpr (w :: rest) =
      if w == "A" then some (.Abstraction, rest)
      else if w.startsWith "V" then do
        let i ← (w.drop 1).toString.toNat?
        pure (.Variable i, rest)
      else if w.startsWith "S" then do
        let n ← (w.drop 1).toString.toNat?
        let (es, rest') ← decExprs n rest
        pure (.Sequence es, rest')
      else none) ∧
    (∀ ts, decExprs 0 ts = some ([], ts)) ∧
    (∀ n ts, decExprs (n+1) ts =
      (do let (e, r) ← decExpr ts
          let (more, r') ← decExprs n r
          pure (e :: more, r'))) :=
  ⟨decExpr_nil, decExpr_cons, decExprs_zero, decExprs_succ⟩

example : decExpr ["A", "x"] = some (.Abstraction, ["x"]) := by
  rw [TIE_codec_decExpr_equations.2.1]; rfl

/-- TOTALITY, four refusals: nothing to read; a sequence shorter than announced (`S2 A`); `S` without a count; a word that
starts no expression -/
theorem TIE_codec_decExpr_refusals :
    decExpr [] = none ∧ decExpr ["S2", "A"] = none ∧ decExpr ["S"] = none ∧ decExpr ["X"] = none := by
  refine ⟨decExpr_nil, ?_, ?_, ?_⟩
  · have : "S2" = "S" ++ toString 2 := by decide +kernel
    rw [this, decExpr_S, toNat?_toString]
    simp [decExprs_succ, decExpr_A, decExpr_nil]
  · have : "S" = "S" ++ "" := by decide +kernel
    rw [this, decExpr_S, toNat?_empty]; rfl
  · rw [decExpr_cons]; simp

example : decExpr ["S2", "A"] = none := TIE_codec_decExpr_refusals.2.1

theorem TIE_codec_showCps_words (s : List Nat) : showCps s = lineOf (cpsWords s) ∧ Words (cpsWords s) :=
  ⟨showCps_eq s, cpsWords_words s⟩

example : showCps [955, 49] = "2 955 49" := by decide +kernel

theorem TIE_codec_showCps_injective {s s' : List Nat} (h : showCps s = showCps s') : s = s' :=
  inj_of_words showCps_eq cpsWords_words
    (fun _ _ h => inj_of_dec (mapM_dec_enc toNat?_toString) (List.cons.inj h).2) h

example : showCps [1, 2] ≠ showCps [12] := fun h => absurd (TIE_codec_showCps_injective h) (by decide)

theorem TIE_codec_showErr_injective {e e' : ParseError} (h : showErr e = showErr e') : e = e' :=
  inj_of_words showErr_eq (fun e => by rw [errWords_eq]; exact Words.cons lit_words (errTail_words e))
    (fun e e' h => errTail_inj e e' (congrArg List.tail h)) h

example : showErr (.InvalidCharacter 1 23) ≠ showErr (.InvalidCharacter 12 3) :=
  fun h => absurd (TIE_codec_showErr_injective h) (by decide)

/-- accessors (`acc`, `put`) -/
theorem TIE_codec_resTerm_injective {r r' : Except TermError Term} (h : resTerm r = resTerm r') : r = r' :=
  exceptLine_inj resTerm_eq (fun _ => rfl) (fun _ => rfl) termWords_words errName_words
    (fun _ _ => termWords_inj) errName_singleton_inj h

example : resTerm (.ok (var 1)) ≠ resTerm (.error .NotVar) :=
  fun h => absurd (TIE_codec_resTerm_injective h) (by simp)

theorem TIE_codec_resNat_injective {r r' : Except TermError Nat} (h : resNat r = resNat r') : r = r' :=
  exceptLine_inj (w := fun n => [toString n]) resNat_eq (fun _ => rfl) (fun _ => rfl) nat_words errName_words
    (fun _ _ h => toString_nat_inj (List.cons.inj h).1) errName_singleton_inj h

example : resNat (.ok 1) ≠ resNat (.ok 10) := fun h => absurd (TIE_codec_resNat_injective h) (by simp)

/-- `unapp`: the separator `,` between the two terms cannot be confused with a term word -/
theorem TIE_codec_resPair_injective {r r' : Except TermError (Term × Term)} (h : resPair r = resPair r') :
    r = r' := by
  refine exceptLine_inj (w := fun p => termWords p.1 ++ "," :: termWords p.2) resPair_eq (fun _ => rfl)
    (fun _ => rfl) (fun p => (termWords_words p.1).append (Words.cons lit_words (termWords_words p.2)))
    errName_words (fun p q h => ?_) errName_singleton_inj h
  obtain ⟨h1, h2⟩ := termWords_append_inj h
  exact Prod.ext h1 (termWords_inj (List.cons.inj h2).2)

example : resPair (.ok (app (var 1) (var 2), var 3)) ≠ resPair (.ok (var 1, app (var 2) (var 3))) :=
  fun h => absurd (TIE_codec_resPair_injective h) (by simp)

/-- `lexd` -/
theorem TIE_codec_resToks_injective {r r' : Except ParseError (List Token)} (h : resToks r = resToks r') :
    r = r' :=
  exceptLine_inj resToks_eq (fun _ => rfl) errWords_eq tokWords_words errTail_words
    (fun _ _ => inj_of_dec (mapM_dec_enc decTok_showTok)) errTail_inj h

example : resToks (.ok [.Number 1, .Number 2]) ≠ resToks (.ok [.Number 12]) :=
  fun h => absurd (TIE_codec_resToks_injective h) (by simp)

/-- `lexc` -/
theorem TIE_codec_resCToks_injective {r r' : Except ParseError (List CToken)} (h : resCToks r = resCToks r') :
    r = r' :=
  exceptLine_inj resCToks_eq (fun _ => rfl) errWords_eq ctokWords_words errTail_words
    (fun _ _ => inj_of_dec (mapM_dec_enc decCTok_showCTok)) errTail_inj h

example : resCToks (.ok [.CName [1, 2]]) ≠ resCToks (.ok [.CName [12]]) :=
  fun h => absurd (TIE_codec_resCToks_injective h) (by simp)

/-- `conv` -/
theorem TIE_codec_resConv_injective {r r' : Option (List Token)} (h : resConv r = resConv r') : r = r' :=
  optionLine_inj (w := fun ts => "ok" :: ts.map showTok) resConv_eq (fun _ => rfl) rfl
    (fun ts => Words.cons lit_words (tokWords_words ts)) lit_words
    (fun _ _ h => inj_of_dec (mapM_dec_enc decTok_showTok) (List.cons.inj h).2) (fun _ h => by simp at h) h

example : resConv (some []) ≠ resConv none := fun h => absurd (TIE_codec_resConv_injective h) (by simp)

/-- `ast` -/
theorem TIE_codec_resAst_injective {r r' : Except ParseError Expression} (h : resAst r = resAst r') : r = r' :=
  exceptLine_inj resAst_eq (fun _ => rfl) errWords_eq exprWords_words errTail_words
    (fun _ _ => exprWords_inj) errTail_inj h

example : resAst (.ok (.Sequence [])) ≠ resAst (.error .EmptyExpression) :=
  fun h => absurd (TIE_codec_resAst_injective h) (by simp)

/-- `fold` -/
theorem TIE_codec_resFold_injective {r r' : Except ParseError Term} (h : resFold r = resFold r') : r = r' :=
  exceptLine_inj resFold_eq (fun _ => rfl) errWords_eq termWords_words errTail_words
    (fun _ _ => termWords_inj) errTail_inj h

example : resFold (.ok (var 1)) ≠ resFold (.error .EmptyExpression) :=
  fun h => absurd (TIE_codec_resFold_injective h) (by simp)

/-- `parse`: a term, an error and a panic are told apart -/
theorem TIE_codec_resParse_injective {r r' : Outcome} (h : resParse r = resParse r') : r = r' :=
  inj_of_words resParse_eq resParseWords_words resParseWords_inj h

example : resParse (.err .EmptyExpression) = "err EE" ∧ resParse .panic = "PANIC" ∧
    resParse (.ok (var 1)) = "ok 1" := by decide +kernel

/-- `reduce`: the result term, the step count and `fuel` are told apart -/
theorem TIE_codec_resReduce_injective {r r' : Option (Term × Nat)} (h : resReduce r = resReduce r') : r = r' := by
  refine optionLine_inj (w := fun p => toString p.2 :: termWords p.1) resReduce_eq (fun _ => rfl) rfl
    (fun p => Words.cons (nat_words p.2) (termWords_words p.1)) lit_words (fun p q h => ?_)
    (fun p h => termWords_ne_nil p.1 (List.cons.inj h).2) h
  exact Prod.ext (termWords_inj (List.cons.inj h).2) (toString_nat_inj (List.cons.inj h).1)

example : resReduce (some (var 2, 11)) ≠ resReduce (some (var 12, 1)) :=
  fun h => absurd (TIE_codec_resReduce_injective h) (by decide)

/-- `beta` -/
theorem TIE_codec_resBeta_injective {r r' : Option Term} (h : resBeta r = resBeta r') : r = r' :=
  optionLine_inj resBeta_eq (fun _ => rfl) rfl termWords_words lit_words (fun _ _ => termWords_inj)
    (fun _ => termWords_ne_singleton toNat?_fuel) h

example : resBeta (some (var 1)) ≠ resBeta none := fun h => absurd (TIE_codec_resBeta_injective h) (by simp)
