/-
C16 — List operations agree with sequence semantics in all four list encodings

"List operations agree with sequence semantics in all four list encodings: For all short lists of
numerals, nil/cons/head/tail/is_nil of the pair, Church, Scott and Parigot list modules behave as
constructors and observers of sequences (is_nil is TRUE exactly on the empty list, head and tail of
a cons return its parts - also for arbitrary, non-numeral element and tail terms), and the list
conversions produce exactly what repeated cons produces. Every pair-list library function (length,
index, reverse, list, append, map, foldl, foldr, filter, last, init, zip, zip_with, take,
take_while, drop, drop_while, replicate) normalises to the encoding of the result of the
corresponding operation on native vectors, under NOR, HNO and HAP."

`Computes t n` (Proofs/Layer2.lean) packages, for ALL arguments (lists of ANY length):
  conv   : t ↠ n                      (by induction, Proofs/List/{Basic,OpenLibA,OpenLibB}.lean)
  normal : n is a β-normal form
  nor/hno: reduce NOR / HNO with limit 0 return exactly n for some fuel, i.e. they TERMINATE (C07)
  any    : whenever reduce under NOR, HNO, APP or HAP with limit 0 returns at all, it returns n (C06)
That HAP terminates with the right result is proved for lists of any length in LC/Props/C16.lean, which imports this
file (the eager proofs in `LC/Proofs/Eager/ListA.lean`, `ListB.lean` are stated with the abbreviation `cl` defined below).  The
finite grids of `LC/Props/C16Grid.lean` (on short lists the kernel runs the evaluator `Grid.runsToB`, which returns only what
the model reducer returns) are an independent cross-check of those theorems.

In this file: the constructors and observers of the four encodings — laws for ARBITRARY (open, non-numeral) payload
terms; observers on the `Vec` conversions and conversions = repeated cons, for every encoding at once from the interface
`ListEnc` (Proofs/List/Basic.lean) —; the pair-list library — the general `↠` forms for arbitrary closed element terms
(`C16_*_terms`, from the forms for arbitrary elements of Proofs/List/OpenLibA, OpenLibB), then lists of Church numerals
`cl ns = pairList (ns.map intoChurch)` (what the Rust `vec![..].into_pair_list()` of numerals builds), the higher-order
functions for ANY closed function term whose action on numerals is known (+ the concrete instances) —; non-vacuity examples.
Many theorems here and in C16More.lean are one line naming a lemma of `LC/Proofs/List`: every property theorem carries the
prefix of its property (`C16_`), which is what the per-property audit goes by.
The operations are the GENERATED constants `Gen.PList/CList/SList/GList.*`, re-extracted from the
Rust source on every run, mentioned by name only.
-/
import LC.Proofs.Layer2
import LC.Proofs.List.Basic
import LC.Proofs.List.PairLibA
import LC.Proofs.List.PairLibB
import LC.Proofs.Eager.Church
import LC.Props.C12

namespace LC
open Term Spec Enc

/-! ## constructors and observers, four encodings -/

/-! ### laws for ARBITRARY payload terms `a x` (open or closed, numeral or not) -/

theorem C16_head_cons_pair (a x : Term) : app Gen.PList.head (app2 Gen.PList.cons a x) ↠ a :=
  (Star.congAppR _ (ListMore.cons_pair_any a x)).trans (ListMore.head_tuple2 a _)
theorem C16_head_cons_scott (a x : Term) : app Gen.SList.head (app2 Gen.SList.cons a x) ↠ a :=
  (Star.congAppR _ (ListMore.cons_scott_any a x)).trans (ListMore.head_cell2 a _)
theorem C16_head_cons_parigot (a x : Term) : app Gen.GList.head (app2 Gen.GList.cons a x) ↠ a :=
  (Star.congAppR _ (ListMore.cons_parigot_any a x)).trans (ListMore.head_cell3 a _ _)
theorem C16_head_cons_church (a x : Term) : app Gen.CList.head (app2 Gen.CList.cons a x) ↠ a :=
  (Star.congAppR _ (ListMore.cons_church_any a x)).trans (ListMore.head_cell2 a _)

theorem C16_tail_cons_pair (a x : Term) : app Gen.PList.tail (app2 Gen.PList.cons a x) ↠ x :=
  (Star.congAppR _ (ListMore.cons_pair_any a x)).trans (ListMore.tail_tuple2 _ x)
theorem C16_tail_cons_scott (a x : Term) : app Gen.SList.tail (app2 Gen.SList.cons a x) ↠ x :=
  (Star.congAppR _ (ListMore.cons_scott_any a x)).trans (ListMore.tail_cell2 _ x)
theorem C16_tail_cons_parigot (a x : Term) : app Gen.GList.tail (app2 Gen.GList.cons a x) ↠ x :=
  (Star.congAppR _ (ListMore.cons_parigot_any a x)).trans (ListMore.tail_cell3 _ x _)

/-- Church (fold) list: `TAIL` rebuilds the tail by FOLDING the list, so `tail (cons a x) ↠ x` is stated for `x` a
list; here: the conversion of any `Vec` of closed terms.  For two terms `x` that are not lists the law is refuted
below (`C16_tail_cons_church_needs_list`). -/
theorem C16_tail_cons_church (a : Term) (ts : List Term) (ha : Closed a) (h : ∀ t ∈ ts, Closed t) :
    app Gen.CList.tail (app2 Gen.CList.cons a (churchList ts)) ↠ churchList ts :=
  churchListEnc.tail_cons_conv ha h

/-- for a FOLD-encoded list `tail (cons a x) ↠ x` is not a law for arbitrary `x`: it fails for the open
term `x := var 7` and for the closed normal term `x := I` -/
theorem C16_tail_cons_church_needs_list :
    (¬ app Gen.CList.tail (app2 Gen.CList.cons (var 1) (var 7)) ↠ var 7) ∧
    (¬ app Gen.CList.tail (app2 Gen.CList.cons (var 1) Gen.Comb.I) ↠ Gen.Comb.I) :=
  ⟨C17.not_star_of_norSteps 30 _ _ _ rfl (by decide +kernel) (by decide +kernel) (by decide +kernel),
   -- `tail (cons a I)` has the normal form `λλ.1 UD (λ1)`, not `I`
   C17.not_star_of_norSteps 100 _ (abs (abs (app2 (var 1) (var 0) (abs (var 1))))) _ (by decide +kernel) (by decide +kernel)
     (by decide +kernel) (by decide +kernel)⟩

theorem C16_is_nil_nil_pair : app Gen.PList.is_nil Gen.PList.nil ↠ fromBool true := is_nil_nil_pair
theorem C16_is_nil_nil_church : app Gen.CList.is_nil Gen.CList.nil ↠ fromBool true := is_nil_nil_church
theorem C16_is_nil_nil_scott : app Gen.SList.is_nil Gen.SList.nil ↠ fromBool true := is_nil_nil_scott
theorem C16_is_nil_nil_parigot : app Gen.GList.is_nil Gen.GList.nil ↠ fromBool true := is_nil_nil_parigot

theorem C16_is_nil_cons_pair (a x : Term) :
    app Gen.PList.is_nil (app2 Gen.PList.cons a x) ↠ fromBool false :=
  (Star.congAppR _ (ListMore.cons_pair_any a x)).trans (ListMore.is_nil_tuple2 _ _)
theorem C16_is_nil_cons_church (a x : Term) :
    app Gen.CList.is_nil (app2 Gen.CList.cons a x) ↠ fromBool false :=
  (Star.congAppR _ (ListMore.cons_church_any a x)).trans (ListMore.is_nil_cell2 _ _)
theorem C16_is_nil_cons_scott (a x : Term) :
    app Gen.SList.is_nil (app2 Gen.SList.cons a x) ↠ fromBool false :=
  (Star.congAppR _ (ListMore.cons_scott_any a x)).trans (ListMore.is_nil_cell2 _ _)
theorem C16_is_nil_cons_parigot (a x : Term) :
    app Gen.GList.is_nil (app2 Gen.GList.cons a x) ↠ fromBool false :=
  (Star.congAppR _ (ListMore.cons_parigot_any a x)).trans (ListMore.is_nil_cell3 _ _ _)

/-! ### observers on the `Vec` conversions (lists of closed terms, any length) -/

theorem C16_head_pairList (t : Term) (ts : List Term) (ht : Closed t) (hts : ∀ u ∈ ts, Closed u) :
    app Gen.PList.head (pairList (t :: ts)) ↠ t := pairListEnc.head_conv ht hts
theorem C16_tail_pairList (t : Term) (ts : List Term) (ht : Closed t) (hts : ∀ u ∈ ts, Closed u) :
    app Gen.PList.tail (pairList (t :: ts)) ↠ pairList ts := pairListEnc.tail_conv ht hts
theorem C16_is_nil_pairList (ts : List Term) (h : ∀ t ∈ ts, Closed t) :
    app Gen.PList.is_nil (pairList ts) ↠ fromBool ts.isEmpty := pairListEnc.isNil_conv h

theorem C16_head_churchList (t : Term) (ts : List Term) (ht : Closed t) (hts : ∀ u ∈ ts, Closed u) :
    app Gen.CList.head (churchList (t :: ts)) ↠ t := churchListEnc.head_conv ht hts
theorem C16_tail_churchList (t : Term) (ts : List Term) (ht : Closed t) (hts : ∀ u ∈ ts, Closed u) :
    app Gen.CList.tail (churchList (t :: ts)) ↠ churchList ts := churchListEnc.tail_conv ht hts
theorem C16_is_nil_churchList (ts : List Term) (h : ∀ t ∈ ts, Closed t) :
    app Gen.CList.is_nil (churchList ts) ↠ fromBool ts.isEmpty := churchListEnc.isNil_conv h

theorem C16_head_scottList (t : Term) (ts : List Term) (ht : Closed t) (hts : ∀ u ∈ ts, Closed u) :
    app Gen.SList.head (scottList (t :: ts)) ↠ t := scottListEnc.head_conv ht hts
theorem C16_tail_scottList (t : Term) (ts : List Term) (ht : Closed t) (hts : ∀ u ∈ ts, Closed u) :
    app Gen.SList.tail (scottList (t :: ts)) ↠ scottList ts := scottListEnc.tail_conv ht hts
theorem C16_is_nil_scottList (ts : List Term) (h : ∀ t ∈ ts, Closed t) :
    app Gen.SList.is_nil (scottList ts) ↠ fromBool ts.isEmpty := scottListEnc.isNil_conv h

theorem C16_head_parigotList (t : Term) (ts : List Term) (ht : Closed t) (hts : ∀ u ∈ ts, Closed u) :
    app Gen.GList.head (parigotList (t :: ts)) ↠ t := parigotListEnc.head_conv ht hts
theorem C16_tail_parigotList (t : Term) (ts : List Term) (ht : Closed t) (hts : ∀ u ∈ ts, Closed u) :
    app Gen.GList.tail (parigotList (t :: ts)) ↠ parigotList ts := parigotListEnc.tail_conv ht hts
theorem C16_is_nil_parigotList (ts : List Term) (h : ∀ t ∈ ts, Closed t) :
    app Gen.GList.is_nil (parigotList ts) ↠ fromBool ts.isEmpty := parigotListEnc.isNil_conv h

namespace C16


/-- the three observers of one list encoding, lifted to the reducer, on the conversion `conv` of ANY list of closed
normal terms (in particular: numerals of any encoding) -/
structure ObserversCompute (head tail isNil : Term) (conv : List Term → Term) : Prop where
  head : ∀ (t : Term) (ts : List Term), (∀ u ∈ t :: ts, Closed u) → (∀ u ∈ t :: ts, isNormal u = true) →
    Computes (app head (conv (t :: ts))) t
  tail : ∀ (t : Term) (ts : List Term), (∀ u ∈ t :: ts, Closed u) → (∀ u ∈ t :: ts, isNormal u = true) →
    Computes (app tail (conv (t :: ts))) (conv ts)
  is_nil : ∀ ts : List Term, (∀ u ∈ ts, Closed u) → Computes (app isNil (conv ts)) (fromBool ts.isEmpty)

end C16
open C16

theorem _root_.LC.ListEnc.conv_computes (E : ListEnc) (ts : List Term) (h : ∀ t ∈ ts, Closed t)
    (hn : ∀ t ∈ ts, isNormal t = true) : Computes (ts.foldr (fun t acc => app2 E.cons t acc) E.nil) (E.conv ts) :=
  computes_of_star (E.conv_is_cons h) (E.normal_conv ts hn)

theorem _root_.LC.ListEnc.observers (E : ListEnc) : ObserversCompute E.head E.tail E.isNil E.conv where
  head t ts hc hn := computes_of_star (E.head_conv (hc t (by simp)) (forall_tail hc)) (hn t (by simp))
  tail t ts hc hn := computes_of_star (E.tail_conv (hc t (by simp)) (forall_tail hc)) (E.normal_conv ts (forall_tail hn))
  is_nil ts hc := computes_of_star (E.isNil_conv hc) (Eager.isNormal_fromBool _)

theorem C16_observers_pair : ObserversCompute Gen.PList.head Gen.PList.tail Gen.PList.is_nil pairList :=
  pairListEnc.observers

theorem C16_observers_church : ObserversCompute Gen.CList.head Gen.CList.tail Gen.CList.is_nil churchList :=
  churchListEnc.observers

theorem C16_observers_scott : ObserversCompute Gen.SList.head Gen.SList.tail Gen.SList.is_nil scottList :=
  scottListEnc.observers

theorem C16_observers_parigot :
    ObserversCompute Gen.GList.head Gen.GList.tail Gen.GList.is_nil parigotList :=
  parigotListEnc.observers

/-! ### the conversions produce exactly what repeated `cons` produces -/

theorem C16_conv_is_cons_pair (ts : List Term) (h : ∀ t ∈ ts, Closed t) :
    ts.foldr (fun t acc => app2 Gen.PList.cons t acc) Gen.PList.nil ↠ pairList ts := pairListEnc.conv_is_cons h
theorem C16_conv_is_cons_church (ts : List Term) (h : ∀ t ∈ ts, Closed t) :
    ts.foldr (fun t acc => app2 Gen.CList.cons t acc) Gen.CList.nil ↠ churchList ts := churchListEnc.conv_is_cons h
theorem C16_conv_is_cons_scott (ts : List Term) (h : ∀ t ∈ ts, Closed t) :
    ts.foldr (fun t acc => app2 Gen.SList.cons t acc) Gen.SList.nil ↠ scottList ts := scottListEnc.conv_is_cons h
theorem C16_conv_is_cons_parigot (ts : List Term) (h : ∀ t ∈ ts, Closed t) :
    ts.foldr (fun t acc => app2 Gen.GList.cons t acc) Gen.GList.nil ↠ parigotList ts :=
  parigotListEnc.conv_is_cons h

/-- with closed NORMAL elements (e.g. numerals) the conversion's result is THE normal form of the repeated cons, and
NOR/HNO return it -/
theorem C16_conv_computes_pair (ts : List Term) (h : ∀ t ∈ ts, Closed t) (hn : ∀ t ∈ ts, isNormal t = true) :
    Computes (ts.foldr (fun t acc => app2 Gen.PList.cons t acc) Gen.PList.nil) (pairList ts) :=
  pairListEnc.conv_computes ts h hn
theorem C16_conv_computes_church (ts : List Term) (h : ∀ t ∈ ts, Closed t) (hn : ∀ t ∈ ts, isNormal t = true) :
    Computes (ts.foldr (fun t acc => app2 Gen.CList.cons t acc) Gen.CList.nil) (churchList ts) :=
  churchListEnc.conv_computes ts h hn
theorem C16_conv_computes_scott (ts : List Term) (h : ∀ t ∈ ts, Closed t) (hn : ∀ t ∈ ts, isNormal t = true) :
    Computes (ts.foldr (fun t acc => app2 Gen.SList.cons t acc) Gen.SList.nil) (scottList ts) :=
  scottListEnc.conv_computes ts h hn
theorem C16_conv_computes_parigot (ts : List Term) (h : ∀ t ∈ ts, Closed t) (hn : ∀ t ∈ ts, isNormal t = true) :
    Computes (ts.foldr (fun t acc => app2 Gen.GList.cons t acc) Gen.GList.nil) (parigotList ts) :=
  parigotListEnc.conv_computes ts h hn

/-! ## the pair-list library: layers 1 and 2, for ALL lists -/

namespace C16

/-- the pair list of the Church numerals of `ns` — the Rust `vec![n₁.into_church(), …].into_pair_list()` -/
abbrev cl (ns : List Nat) : Term := pairList (ns.map intoChurch)

theorem closed_nums (ns : List Nat) : ∀ t ∈ ns.map intoChurch, Closed t := forall_map closed_intoChurch ns
theorem normal_nums (ns : List Nat) : ∀ t ∈ ns.map intoChurch, isNormal t = true :=
  forall_map normal_intoChurch ns
theorem normal_cl (ns : List Nat) : isNormal (cl ns) = true := C12.pairList_normal _ (normal_nums ns)

theorem pairList_congr {α : Type} (f g : α → Term) (l : List α) (h : ∀ a ∈ l, f a ↠ g a) :
    pairList (l.map f) ↠ pairList (l.map g) := by
  induction l with
  | nil => exact Star.refl _
  | cons a l ih =>
    show tuple2 (f a) (pairList (l.map f)) ↠ tuple2 (g a) (pairList (l.map g))
    exact PairLibA.tuple_cong (h a (by simp)) (ih (forall_tail h))

theorem pairList_congr_idx (xs ys : List Term) (hl : xs.length = ys.length)
    (hi : ∀ i (h1 : i < xs.length) (h2 : i < ys.length), xs[i] ↠ ys[i]) : pairList xs ↠ pairList ys := by
  induction xs generalizing ys with
  | nil =>
    cases ys with
    | nil => exact Star.refl _
    | cons y ys => cases hl
  | cons x xs ih =>
    cases ys with
    | nil => cases hl
    | cons y ys =>
      show tuple2 x (pairList xs) ↠ tuple2 y (pairList ys)
      refine PairLibA.tuple_cong (hi 0 (by simp) (by simp)) (ih ys (by simpa using hl) ?_)
      intro i h1 h2
      have := hi (i + 1) (by simp; omega) (by simp; omega)
      simpa using this

theorem foldl_start_star (f : Term) {s s' : Term} (h : s ↠ s') (xs : List Term) :
    xs.foldl (fun acc x => app2 f acc x) s ↠ xs.foldl (fun acc x => app2 f acc x) s' := by
  induction xs generalizing s s' with
  | nil => exact h
  | cons x xs ih => exact ih (Star.congAppL _ (Star.congAppR _ h))

theorem foldl_nums (f : Term) (op : Nat → Nat → Nat)
    (hop : ∀ a b, app2 f (intoChurch a) (intoChurch b) ↠ intoChurch (op a b)) (s : Nat) (ns : List Nat) :
    (ns.map intoChurch).foldl (fun acc x => app2 f acc x) (intoChurch s) ↠ intoChurch (ns.foldl op s) := by
  induction ns generalizing s with
  | nil => exact Star.refl _
  | cons n ns ih =>
    simp only [List.map_cons, List.foldl_cons]
    exact (foldl_start_star f (hop s n) _).trans (ih (op s n))

theorem foldr_nums (f : Term) (op : Nat → Nat → Nat)
    (hop : ∀ a b, app2 f (intoChurch a) (intoChurch b) ↠ intoChurch (op a b)) (a : Nat) (ns : List Nat) :
    (ns.map intoChurch).foldr (fun x acc => app2 f x acc) (intoChurch a) ↠ intoChurch (ns.foldr op a) := by
  induction ns with
  | nil => exact Star.refl _
  | cons n ns ih =>
    simp only [List.map_cons, List.foldr_cons]
    exact (Star.congAppR _ ih).trans (hop n _)

/-- a predicate on numbers, transported to terms through the Church decoder (junk value on non-numerals) -/
def keepT (keep : Nat → Bool) (t : Term) : Bool :=
  match Dec.decodeChurch t with
  | some n => keep n
  | none => false

theorem keepT_num (keep : Nat → Bool) : keepT keep ∘ intoChurch = keep := by
  funext n; simp [keepT, C12_decode_church]

theorem keepT_spec (p : Term) (keep : Nat → Bool) (hk : ∀ n, app p (intoChurch n) ↠ fromBool (keep n))
    (ns : List Nat) : ∀ x ∈ ns.map intoChurch, app p x ↠ fromBool (keepT keep x) := by
  intro x hx
  obtain ⟨n, _, rfl⟩ := List.mem_map.1 hx
  have : keepT keep (intoChurch n) = keep n := congrFun (keepT_num keep) n
  rw [this]; exact hk n

theorem normal_tuple2_nums (l : List (Nat × Nat)) :
    isNormal (pairList (l.map (fun p => tuple2 (intoChurch p.1) (intoChurch p.2)))) = true :=
  C12.pairList_normal _ (forall_map (fun _ => normal_tuple2 (normal_intoChurch _) (normal_intoChurch _)) l)

end C16

/-! ### the general layer-1 forms: lists of ARBITRARY closed terms (not only numerals)

Each is the form for arbitrary elements (`LC/Proofs/List/OpenLibA.lean`, `OpenLibB.lean`; `C16_*_open` in C16More.lean) on
closed elements, where `OpenLib.opl xs = pairList xs` (`OpenLib.opl_closed`). -/

/- The closedness hypotheses on `f`, `p` and the start values (`C16_foldl_terms`, `C16_foldr_terms`, `C16_filter_terms`, and
further down `C16_take_while`, `C16_drop_while`, which have no `_terms` form; on the elements in `C16_length_terms`) are part
of the statements; the proofs do not need them (`C16_*_open` in C16More.lean).  The unused-variable linter is switched off
at exactly these theorems. -/
set_option linter.unusedVariables false in
theorem C16_length_terms (xs : List Term) (hxs : ∀ t ∈ xs, Closed t) :
    app Gen.PList.length (pairList xs) ↠ intoChurch xs.length := plist_length_any xs

theorem C16_index_terms (xs : List Term) (hxs : ∀ t ∈ xs, Closed t) (i : Nat) (h : i < xs.length) :
    app2 Gen.PList.index (intoChurch i) (pairList xs) ↠ xs[i] := by
  have h' := plist_index_open xs i h
  rwa [OpenLib.opl_closed hxs] at h'

theorem C16_reverse_terms (xs : List Term) (hxs : ∀ t ∈ xs, Closed t) :
    app Gen.PList.reverse (pairList xs) ↠ pairList xs.reverse := by
  have h := plist_reverse_open xs
  rwa [OpenLib.opl_closed hxs, OpenLib.opl_closed fun t ht => hxs t (List.mem_reverse.1 ht)] at h

theorem C16_append_terms (xs ys : List Term) (hxs : ∀ t ∈ xs, Closed t) (hys : ∀ t ∈ ys, Closed t) :
    app2 Gen.PList.append (pairList xs) (pairList ys) ↠ pairList (xs ++ ys) := by
  have h := plist_append_open xs ys
  rwa [OpenLib.opl_closed hxs, OpenLib.opl_closed hys, OpenLib.opl_closed fun t ht => (List.mem_append.1 ht).elim (hxs t) (hys t)] at h

theorem C16_map_terms (f : Term) (hf : Closed f) (xs : List Term) (hxs : ∀ t ∈ xs, Closed t) :
    app2 Gen.PList.map f (pairList xs) ↠ pairList (xs.map (app f)) := by
  have h := plist_map_open f xs
  have hr : ∀ t ∈ xs.map (app f), Closed t := by
    intro t ht
    obtain ⟨x, hx, rfl⟩ := List.mem_map.1 ht
    have := hxs x hx
    lc_simp
  rwa [OpenLib.opl_closed hxs, OpenLib.opl_closed hr] at h

set_option linter.unusedVariables false in
theorem C16_foldl_terms (f s : Term) (hf : Closed f) (hs : Closed s) (xs : List Term) (hxs : ∀ t ∈ xs, Closed t) :
    app3 Gen.PList.foldl f s (pairList xs) ↠ xs.foldl (fun acc x => app2 f acc x) s := by
  have h := plist_foldl_open f s xs
  rwa [OpenLib.opl_closed hxs] at h

set_option linter.unusedVariables false in
theorem C16_foldr_terms (f a : Term) (hf : Closed f) (ha : Closed a) (xs : List Term) (hxs : ∀ t ∈ xs, Closed t) :
    app3 Gen.PList.foldr f a (pairList xs) ↠ xs.foldr (fun x acc => app2 f x acc) a := by
  have h := plist_foldr_open f a xs
  rwa [OpenLib.opl_closed hxs] at h

set_option linter.unusedVariables false in
theorem C16_filter_terms (p : Term) (hp : Closed p) (xs : List Term) (hxs : ∀ t ∈ xs, Closed t)
    (keep : Term → Bool) (hkeep : ∀ x ∈ xs, app p x ↠ fromBool (keep x)) :
    app2 Gen.PList.filter p (pairList xs) ↠ pairList (xs.filter keep) := by
  have h := plist_filter_open p xs keep hkeep
  rwa [OpenLib.opl_closed hxs, OpenLib.opl_closed fun t ht => hxs t (List.mem_filter.1 ht).1] at h

theorem C16_take_terms (k : Nat) (xs : List Term) (hxs : ∀ t ∈ xs, Closed t) :
    app2 Gen.PList.take (intoChurch k) (pairList xs) ↠ pairList (xs.take k) := by
  have h := plist_take_open k xs
  rwa [OpenLib.opl_closed hxs, OpenLib.opl_closed fun t ht => hxs t (List.mem_of_mem_take ht)] at h

theorem C16_drop_terms (k : Nat) (xs : List Term) (hxs : ∀ t ∈ xs, Closed t) :
    app2 Gen.PList.drop (intoChurch k) (pairList xs) ↠ pairList (xs.drop k) := by
  have h := plist_drop_open k xs
  rwa [OpenLib.opl_closed hxs, OpenLib.opl_closed fun t ht => hxs t (List.mem_of_mem_drop ht)] at h

theorem C16_replicate_terms (k : Nat) (y : Term) (hy : Closed y) :
    app2 Gen.PList.replicate (intoChurch k) y ↠ pairList (List.replicate k y) := by
  have h := plist_replicate_open k y
  rwa [OpenLib.opl_closed fun t ht => List.eq_of_mem_replicate ht ▸ hy] at h

theorem C16_last_terms (xs : List Term) (hxs : ∀ t ∈ xs, Closed t) (hne : xs ≠ []) :
    app Gen.PList.last (pairList xs) ↠ xs.getLast hne := by
  have h := plist_last_open xs hne
  rwa [OpenLib.opl_closed hxs] at h

-- the hypothesis `hne` is not needed (`plist_init_open` has none)
set_option linter.unusedVariables false in
theorem C16_init_terms (xs : List Term) (hxs : ∀ t ∈ xs, Closed t) (hne : xs ≠ []) :
    app Gen.PList.init (pairList xs) ↠ pairList xs.dropLast := by
  have h := plist_init_open xs
  rwa [OpenLib.opl_closed hxs, OpenLib.opl_closed fun t ht => hxs t ((List.dropLast_sublist xs).subset ht)] at h

theorem C16_zip_terms (xs ys : List Term) (hxs : ∀ t ∈ xs, Closed t) (hys : ∀ t ∈ ys, Closed t) :
    app2 Gen.PList.zip (pairList xs) (pairList ys) ↠ pairList ((xs.zip ys).map (fun p => tuple2 p.1 p.2)) := by
  have h := plist_zip_open xs ys
  have e : (xs.zip ys).map (fun p => OpenLib.ocell p.1 p.2) = (xs.zip ys).map (fun p => tuple2 p.1 p.2) :=
    List.map_congr_left fun p hp => OpenLib.ocell_closed (hxs _ (List.of_mem_zip hp).1) (hys _ (List.of_mem_zip hp).2)
  have hr : ∀ t ∈ (xs.zip ys).map (fun p => tuple2 p.1 p.2), Closed t := by
    intro t ht
    obtain ⟨p, hp, rfl⟩ := List.mem_map.1 ht
    exact closed_tuple2 (hxs _ (List.of_mem_zip hp).1) (hys _ (List.of_mem_zip hp).2)
  rwa [OpenLib.opl_closed hxs, OpenLib.opl_closed hys, e, OpenLib.opl_closed hr] at h

theorem C16_zip_with_terms (f : Term) (hf : Closed f) (xs ys : List Term) (hxs : ∀ t ∈ xs, Closed t)
    (hys : ∀ t ∈ ys, Closed t) :
    app3 Gen.PList.zip_with f (pairList xs) (pairList ys) ↠ pairList ((xs.zip ys).map (fun p => app2 f p.1 p.2)) := by
  have h := plist_zip_with_open f xs ys
  have hr : ∀ t ∈ (xs.zip ys).map (fun p => app2 f p.1 p.2), Closed t := by
    intro t ht
    obtain ⟨p, hp, rfl⟩ := List.mem_map.1 ht
    have h1 := hxs _ (List.of_mem_zip hp).1
    have h2 := hys _ (List.of_mem_zip hp).2
    lc_simp
  rwa [OpenLib.opl_closed hxs, OpenLib.opl_closed hys, OpenLib.opl_closed hr] at h

/-! ### first-order functions on lists of Church numerals -/

theorem C16_length (ns : List Nat) : Computes (app Gen.PList.length (cl ns)) (intoChurch ns.length) := by
  have h := plist_length_any (ns.map intoChurch)
  rw [List.length_map] at h
  exact computes_of_star h (normal_intoChurch _)

theorem C16_index (ns : List Nat) (i : Nat) (h : i < ns.length) :
    Computes (app2 Gen.PList.index (intoChurch i) (cl ns)) (intoChurch ns[i]) := by
  have h' := C16_index_terms _ (closed_nums ns) i (by simpa using h)
  rw [List.getElem_map] at h'
  exact computes_of_star h' (normal_intoChurch _)

theorem C16_reverse (ns : List Nat) : Computes (app Gen.PList.reverse (cl ns)) (cl ns.reverse) := by
  have h := C16_reverse_terms _ (closed_nums ns)
  rw [← List.map_reverse] at h
  exact computes_of_star h (normal_cl _)

/-- `LIST n x₁ … xₙ` (the count `n` first, then the `n` elements as further arguments) builds the list -/
theorem C16_list (ns : List Nat) :
    Computes ((ns.map intoChurch).foldl (fun acc x => app acc x) (app Gen.PList.list (intoChurch ns.length)))
      (cl ns) := by
  have h := plist_list_open (ns.map intoChurch)
  rw [List.length_map, OpenLib.opl_closed (closed_nums ns)] at h
  exact computes_of_star h (normal_cl _)

theorem C16_append (ms ns : List Nat) :
    Computes (app2 Gen.PList.append (cl ms) (cl ns)) (cl (ms ++ ns)) := by
  have h := C16_append_terms _ _ (closed_nums ms) (closed_nums ns)
  rw [← List.map_append] at h
  exact computes_of_star h (normal_cl _)

theorem C16_last (ns : List Nat) (h : ns ≠ []) :
    Computes (app Gen.PList.last (cl ns)) (intoChurch (ns.getLast h)) := by
  have h' := C16_last_terms _ (closed_nums ns) (by simpa using h)
  rw [List.getLast_map] at h'
  exact computes_of_star h' (normal_intoChurch _)

theorem C16_init (ns : List Nat) (h : ns ≠ []) : Computes (app Gen.PList.init (cl ns)) (cl ns.dropLast) := by
  have h' := C16_init_terms _ (closed_nums ns) (by simpa using h)
  rw [← List.map_dropLast] at h'
  exact computes_of_star h' (normal_cl _)

/-- `init` is also defined on the empty list (and gives the empty list, like `Vec`-`dropLast`); `last` of the empty
list gives `NIL`, which is not a numeral — hence the premise of `C16_last` -/
theorem C16_init_nil : Computes (app Gen.PList.init (cl [])) (cl []) :=
  computes_of_star (plist_init_open []) (normal_cl _)
theorem C16_last_nil : Computes (app Gen.PList.last (cl [])) (cl []) :=
  computes_of_star (by rw [PairLib.last_eq]; lc_head (Z_unfold PairLib.closed_lastF); exact OpenLib.last_nil) (normal_cl _)

theorem C16_zip (ms ns : List Nat) :
    Computes (app2 Gen.PList.zip (cl ms) (cl ns))
      (pairList ((ms.zip ns).map (fun p => tuple2 (intoChurch p.1) (intoChurch p.2)))) := by
  have h := C16_zip_terms _ _ (closed_nums ms) (closed_nums ns)
  rw [List.zip_map, List.map_map] at h
  exact computes_of_star h (normal_tuple2_nums _)

theorem C16_take (k : Nat) (ns : List Nat) :
    Computes (app2 Gen.PList.take (intoChurch k) (cl ns)) (cl (ns.take k)) := by
  have h := C16_take_terms k _ (closed_nums ns)
  rw [← List.map_take] at h
  exact computes_of_star h (normal_cl _)

theorem C16_drop (k : Nat) (ns : List Nat) :
    Computes (app2 Gen.PList.drop (intoChurch k) (cl ns)) (cl (ns.drop k)) := by
  have h := C16_drop_terms k _ (closed_nums ns)
  rw [← List.map_drop] at h
  exact computes_of_star h (normal_cl _)

theorem C16_replicate (k y : Nat) :
    Computes (app2 Gen.PList.replicate (intoChurch k) (intoChurch y)) (cl (List.replicate k y)) := by
  have h := C16_replicate_terms k _ (closed_intoChurch y)
  rw [← List.map_replicate] at h
  exact computes_of_star h (normal_cl _)

/-! ### higher-order functions, for ANY closed function term whose action on numerals is known -/

theorem C16_map (f : Term) (hf : Closed f) (g : Nat → Nat) (hg : ∀ n, app f (intoChurch n) ↠ intoChurch (g n))
    (ns : List Nat) : Computes (app2 Gen.PList.map f (cl ns)) (cl (ns.map g)) := by
  have h := C16_map_terms f hf _ (closed_nums ns)
  rw [List.map_map] at h
  have h2 := pairList_congr (app f ∘ intoChurch) (intoChurch ∘ g) ns (fun n _ => hg n)
  rw [← List.map_map (g := intoChurch) (f := g)] at h2
  exact computes_of_star (h.trans h2) (normal_cl _)

theorem C16_foldl (f : Term) (hf : Closed f) (op : Nat → Nat → Nat)
    (hop : ∀ a b, app2 f (intoChurch a) (intoChurch b) ↠ intoChurch (op a b)) (s : Nat) (ns : List Nat) :
    Computes (app3 Gen.PList.foldl f (intoChurch s) (cl ns)) (intoChurch (ns.foldl op s)) :=
  computes_of_star
    ((C16_foldl_terms f _ hf (closed_intoChurch s) _ (closed_nums ns)).trans (foldl_nums f op hop s ns))
    (normal_intoChurch _)

theorem C16_foldr (f : Term) (hf : Closed f) (op : Nat → Nat → Nat)
    (hop : ∀ a b, app2 f (intoChurch a) (intoChurch b) ↠ intoChurch (op a b)) (a : Nat) (ns : List Nat) :
    Computes (app3 Gen.PList.foldr f (intoChurch a) (cl ns)) (intoChurch (ns.foldr op a)) :=
  computes_of_star
    ((C16_foldr_terms f _ hf (closed_intoChurch a) _ (closed_nums ns)).trans (foldr_nums f op hop a ns))
    (normal_intoChurch _)

theorem C16_filter (p : Term) (hp : Closed p) (keep : Nat → Bool)
    (hk : ∀ n, app p (intoChurch n) ↠ fromBool (keep n)) (ns : List Nat) :
    Computes (app2 Gen.PList.filter p (cl ns)) (cl (ns.filter keep)) := by
  have h := C16_filter_terms p hp _ (closed_nums ns) (keepT keep) (keepT_spec p keep hk ns)
  rw [List.filter_map, keepT_num] at h
  exact computes_of_star h (normal_cl _)

set_option linter.unusedVariables false in
theorem C16_take_while (p : Term) (hp : Closed p) (keep : Nat → Bool)
    (hk : ∀ n, app p (intoChurch n) ↠ fromBool (keep n)) (ns : List Nat) :
    Computes (app2 Gen.PList.take_while p (cl ns)) (cl (ns.takeWhile keep)) := by
  have h := plist_take_while_open p _ (keepT keep) (keepT_spec p keep hk ns)
  rw [OpenLib.opl_closed (closed_nums ns), List.takeWhile_map, keepT_num, OpenLib.opl_closed (closed_nums _)] at h
  exact computes_of_star h (normal_cl _)

set_option linter.unusedVariables false in
theorem C16_drop_while (p : Term) (hp : Closed p) (keep : Nat → Bool)
    (hk : ∀ n, app p (intoChurch n) ↠ fromBool (keep n)) (ns : List Nat) :
    Computes (app2 Gen.PList.drop_while p (cl ns)) (cl (ns.dropWhile keep)) := by
  have h := plist_drop_while_open p _ (keepT keep) (keepT_spec p keep hk ns)
  rw [OpenLib.opl_closed (closed_nums ns), List.dropWhile_map, keepT_num, OpenLib.opl_closed (closed_nums _)] at h
  exact computes_of_star h (normal_cl _)

theorem C16_zip_with (f : Term) (hf : Closed f) (op : Nat → Nat → Nat)
    (hop : ∀ a b, app2 f (intoChurch a) (intoChurch b) ↠ intoChurch (op a b)) (ms ns : List Nat) :
    Computes (app3 Gen.PList.zip_with f (cl ms) (cl ns)) (cl ((ms.zip ns).map (fun p => op p.1 p.2))) := by
  have h := C16_zip_with_terms f hf _ _ (closed_nums ms) (closed_nums ns)
  rw [List.zip_map, List.map_map] at h
  have h2 := pairList_congr ((fun p : Term × Term => app2 f p.1 p.2) ∘ Prod.map intoChurch intoChurch)
    (intoChurch ∘ (fun p : Nat × Nat => op p.1 p.2)) (ms.zip ns) (fun p _ => hop p.1 p.2)
  rw [← List.map_map (g := intoChurch)] at h2
  exact computes_of_star (h.trans h2) (normal_cl _)

/-! ### the premises are satisfiable: concrete instances with the Church operations `SUCC`, `ADD`, `SUB`, `IS_ZERO`
(their laws: `church_*_hap`, `LC/Proofs/Eager/Church.lean`) -/

theorem C16_map_succ (ns : List Nat) :
    Computes (app2 Gen.PList.map Gen.Church.succ (cl ns)) (cl (ns.map (· + 1))) :=
  C16_map Gen.Church.succ (by decide) (· + 1) (fun n => (church_succ_hap n).star) ns

theorem C16_foldl_add (s : Nat) (ns : List Nat) :
    Computes (app3 Gen.PList.foldl Gen.Church.add (intoChurch s) (cl ns)) (intoChurch (ns.foldl (· + ·) s)) :=
  C16_foldl Gen.Church.add (by decide) (· + ·) (fun m n => (church_add_hap m n).star) s ns

theorem C16_foldr_add (a : Nat) (ns : List Nat) :
    Computes (app3 Gen.PList.foldr Gen.Church.add (intoChurch a) (cl ns)) (intoChurch (ns.foldr (· + ·) a)) :=
  C16_foldr Gen.Church.add (by decide) (· + ·) (fun m n => (church_add_hap m n).star) a ns

/-- a non-commutative, non-associative operation distinguishes the two folds: `((s - n₁) - n₂) - …` -/
theorem C16_foldl_sub (s : Nat) (ns : List Nat) :
    Computes (app3 Gen.PList.foldl Gen.Church.sub (intoChurch s) (cl ns)) (intoChurch (ns.foldl (· - ·) s)) :=
  C16_foldl Gen.Church.sub (by decide) (· - ·) (fun m n => (church_sub_hap m n).star) s ns

/-- the right fold of the same operation: `n₁ - (n₂ - (… - a))` -/
theorem C16_foldr_sub (a : Nat) (ns : List Nat) :
    Computes (app3 Gen.PList.foldr Gen.Church.sub (intoChurch a) (cl ns)) (intoChurch (ns.foldr (· - ·) a)) :=
  C16_foldr Gen.Church.sub (by decide) (· - ·) (fun m n => (church_sub_hap m n).star) a ns

theorem C16_filter_is_zero (ns : List Nat) :
    Computes (app2 Gen.PList.filter Gen.Church.is_zero (cl ns)) (cl (ns.filter (· == 0))) :=
  C16_filter Gen.Church.is_zero (by decide) (· == 0) (fun n => (church_is_zero_hap n).star) ns

theorem C16_take_while_is_zero (ns : List Nat) :
    Computes (app2 Gen.PList.take_while Gen.Church.is_zero (cl ns)) (cl (ns.takeWhile (· == 0))) :=
  C16_take_while Gen.Church.is_zero (by decide) (· == 0) (fun n => (church_is_zero_hap n).star) ns

theorem C16_drop_while_is_zero (ns : List Nat) :
    Computes (app2 Gen.PList.drop_while Gen.Church.is_zero (cl ns)) (cl (ns.dropWhile (· == 0))) :=
  C16_drop_while Gen.Church.is_zero (by decide) (· == 0) (fun n => (church_is_zero_hap n).star) ns

theorem C16_zip_with_sub (ms ns : List Nat) :
    Computes (app3 Gen.PList.zip_with Gen.Church.sub (cl ms) (cl ns))
      (cl ((ms.zip ns).map (fun p => p.1 - p.2))) :=
  C16_zip_with Gen.Church.sub (by decide) (· - ·) (fun m n => (church_sub_hap m n).star) ms ns

/-! ## non-vacuity: the premises are met by concrete lists -/

example : ∃ fuel c, reduce .NOR 0 fuel (app Gen.PList.reverse (cl [1, 2, 3])) = some (cl [3, 2, 1], c) :=
  (C16_reverse [1, 2, 3]).nor

example : ∃ fuel c, reduce .HNO 0 fuel (app3 Gen.PList.zip_with Gen.Church.sub (cl [2, 5, 3, 9]) (cl [1, 7, 0]))
    = some (cl [1, 0, 3], c) := (C16_zip_with_sub [2, 5, 3, 9] [1, 7, 0]).hno

/-- the two folds differ on a non-associative operation: `(10 - 3) - 2 = 5`, `3 - (2 - 10) = 3` -/
example : (∃ fuel c, reduce .NOR 0 fuel (app3 Gen.PList.foldl Gen.Church.sub (intoChurch 10) (cl [3, 2]))
      = some (intoChurch 5, c)) ∧
    (∃ fuel c, reduce .HNO 0 fuel (app3 Gen.PList.foldr Gen.Church.sub (intoChurch 10) (cl [3, 2]))
      = some (intoChurch 3, c)) :=
  ⟨(C16_foldl_sub 10 [3, 2]).nor, (C16_foldr_sub 10 [3, 2]).hno⟩

/-- the observers of the Scott and Parigot lists on lists of numerals of the same encoding (`vec![4, 0].into_scott()`) -/
example : ∃ fuel c, reduce .HNO 0 fuel (app Gen.SList.tail (scottList [intoScott 4, intoScott 0]))
    = some (scottList [intoScott 0], c) :=
  (C16_observers_scott.tail (intoScott 4) [intoScott 0] (by decide) (by decide)).hno

example : ∃ fuel c, reduce .NOR 0 fuel (app Gen.GList.head (parigotList [intoParigot 2, intoParigot 1]))
    = some (intoParigot 2, c) :=
  (C16_observers_parigot.head (intoParigot 2) [intoParigot 1] (by decide) (by decide)).nor

example : ∃ fuel c, reduce .NOR 0 fuel
    (app2 Gen.CList.cons (intoChurch 1) (app2 Gen.CList.cons (intoChurch 2) Gen.CList.nil))
    = some (churchList [intoChurch 1, intoChurch 2], c) :=
  (C16_conv_computes_church [intoChurch 1, intoChurch 2] (by decide) (by decide)).nor

end LC
