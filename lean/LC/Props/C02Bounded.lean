/-
C01 / C02 / C08 at the representation boundary of indices (DESIGN §9, repair F7)

In the crate De Bruijn indices are `usize`; the model's are unbounded naturals.  Since F7 a substitution whose correct
result needs an index above `usize::MAX` panics ("De Bruijn index overflow", `checked_add` in `update_free_variables`)
instead of wrapping.  The driver answers the boundary operations `applyb` / `reduceb` (`Drv.resApplyB`, `Drv.resReduceB`,
dispatched by `execToks` in `LC/Drv/Ops1.lean`) with `PANIC` exactly when the (unbounded) model result contains an index
above `usize::MAX` (`maxIndex`).  The theorems below show that this rule is right, for an arbitrary bound `M`
(`M = 2^64 - 1` for the crate on a 64-bit target):

* `applyChk`, `contractChk`, `stepOrdChk`, `runChk` (defined in `Proofs/Bounded*.lean` by mirroring the Rust text, `none`
  = panic) refuse EXACTLY when the mathematically correct result is not representable, and otherwise return it;
* the decision procedures of the driver, with the strings replaced by constructors (`driverApplyb`, `driverReduceb`),
  are equal to these checked functions on every input whose indices are representable;
* C08 at the boundary: a checked call that returns invents no variable and no UD (no free variable wraps into UD or
  into a bound one), and an argument without free variables is never refused.

Which occurrence panics FIRST (the traversal is pre-order, operator before operand; inside a substituted copy the same)
is described by `applyAuxPanic`; it has no influence on WHETHER the call panics (`C02_checked_first_panic`).

The checked run is stated here at the level of strategy steps, of which the traversals are the iteration
(`reduce_sound`, `reduce_complete`, `C04_single_step`).  The seven traversals with the checked `eval` themselves
(`reduceChk`) are in `Proofs/BoundedTraversal*.lean`; `Props/C01BoundedTraversal.lean` states `reduceb` against them.
-/
import LC.Proofs.BoundedRun
import LC.Proofs.UDParamInj
import LC.Props.C02
import LC.Props.C04
import LC.Drv.Ops1

namespace LC
open Term Spec

/-- C02, checked `update_free_variables`: refuses exactly when the unbounded result has an index above `M`; every leaf
the Rust code adds to is a leaf of the result -/
theorem C02_checked_shift_iff (M k own : Nat) (t : Term) (ht : maxIndex t ≤ M) :
    (∀ r, shiftFVChk M k own t = some r ↔ (r = shiftFV k own t ∧ maxIndex r ≤ M)) ∧
    (shiftFVChk M k own t = none ↔ M < maxIndex (shiftFV k own t)) := by
  rw [shiftFVChk_eq M k t own ht]
  exact guardIdx_spec M _

example : shiftFVChk 5 2 1 (app (var 1) (abs (app (var 2) (var 3)))) = some (app (var 1) (abs (app (var 2) (var 5)))) ∧
    shiftFVChk 5 3 1 (app (var 1) (abs (app (var 2) (var 3)))) = none := by decide

/-- C02, checked `_apply` at any depth: refuses exactly when the unbounded result has an index above `M` (an overflowing
shifted copy always survives into the result: `_apply` never discards what it has substituted) -/
theorem C02_checked_applyAux_iff (M : Nat) (a b : Term) (d : Nat) (ha : maxIndex a ≤ M) (hb : maxIndex b ≤ M) :
    (∀ r, applyAuxChk M a d b = some r ↔ (r = applyAux a d b ∧ maxIndex r ≤ M)) ∧
    (applyAuxChk M a d b = none ↔ M < maxIndex (applyAux a d b)) := by
  rw [applyAuxChk_eq M a ha b d hb]
  exact guardIdx_spec M _

/-- C02: the crate's `apply` on an abstraction RETURNS `r` exactly when the unbounded `apply` returns `r` and `r` is
representable -/
theorem C02_checked_apply_iff (M : Nat) (b a r : Term) (hb : maxIndex (abs b) ≤ M) (ha : maxIndex a ≤ M) :
    applyChk M (abs b) a = some (.ok r) ↔ (Term.apply (abs b) a = .ok r ∧ maxIndex r ≤ M) := by
  simp only [maxIndex] at hb
  simp only [applyChk, Term.apply, applyAuxChk_eq M a ha b 1 hb, Option.map_eq_some_iff, Except.ok.injEq]
  constructor
  · rintro ⟨x, hx, rfl⟩
    obtain ⟨rfl, h⟩ := guardIdx_eq_some.1 hx
    exact ⟨rfl, h⟩
  · rintro ⟨rfl, h⟩
    exact ⟨_, guardIdx_of_le h, rfl⟩

/-- C02: the crate's `apply` on an abstraction REFUSES (panics) exactly when the mathematically correct result is not
representable -/
theorem C02_checked_apply_none_iff (M : Nat) (b a : Term) (hb : maxIndex (abs b) ≤ M) (ha : maxIndex a ≤ M) :
    applyChk M (abs b) a = none ↔ ∃ r, Term.apply (abs b) a = .ok r ∧ M < maxIndex r := by
  simp only [maxIndex] at hb
  simp only [applyChk, Term.apply, applyAuxChk_eq M a ha b 1 hb, Option.map_eq_none_iff, Except.ok.injEq]
  rw [guardIdx_eq_none]
  constructor
  · intro h; exact ⟨_, rfl, h⟩
  · rintro ⟨r, rfl, h⟩; exact h

/-- C02, the same against the textbook substitution `Spec.substTop` of `C02_apply_abs` -/
theorem C02_checked_apply_substTop (M : Nat) (b a : Term) (hb : maxIndex (abs b) ≤ M) (ha : maxIndex a ≤ M) :
    (∀ r, applyChk M (abs b) a = some (.ok r) ↔ (r = substTop b a ∧ maxIndex (substTop b a) ≤ M)) ∧
    (applyChk M (abs b) a = none ↔ M < maxIndex (substTop b a)) := by
  refine ⟨fun r => ?_, ?_⟩
  · rw [C02_checked_apply_iff M b a r hb ha, C02_apply_abs]
    constructor
    · rintro ⟨h, hm⟩; cases h; exact ⟨rfl, hm⟩
    · rintro ⟨rfl, hm⟩; exact ⟨rfl, hm⟩
  · rw [C02_checked_apply_none_iff M b a hb ha, C02_apply_abs]
    constructor
    · rintro ⟨r, h, hm⟩; cases h; exact hm
    · intro hm; exact ⟨_, rfl, hm⟩

/-- C02: on a non-abstraction the checked `apply` answers `Err(NotAbs)` for every `M` — `unabs_ref()?` comes before any
arithmetic, nothing can panic -/
theorem C02_checked_apply_err (M : Nat) (t a : Term) (h : ∀ b, t ≠ abs b) :
    applyChk M t a = some (.error .NotAbs) := by
  cases t with
  | var i => rfl
  | abs b => exact absurd rfl (h b)
  | app l r => rfl

/-- C02, all receivers at once: the checked `apply` is the unbounded `apply` followed by the representability test -/
theorem C02_checked_apply_eq (M : Nat) (t a : Term) (ht : maxIndex t ≤ M) (ha : maxIndex a ≤ M) :
    applyChk M t a =
      match Term.apply t a with
      | .ok r => if maxIndex r ≤ M then some (.ok r) else none
      | .error e => some (.error e) := by
  cases t with
  | var i => rfl
  | app l r => rfl
  | abs b =>
    simp only [maxIndex] at ht
    simp only [applyChk, Term.apply, applyAuxChk_eq M a ha b 1 ht, guardIdx]
    by_cases h : maxIndex (applyAux a 1 b) ≤ M <;> simp [h]

-- non-vacuity, `M = 5`: the copy under one binder needs 5 + 1
example : applyChk 5 (abs (app (var 1) (var 3))) (var 5) = some (.ok (app (var 5) (var 2))) ∧
    applyChk 5 (abs (abs (var 2))) (var 5) = none ∧
    Term.apply (abs (abs (var 2))) (var 5) = .ok (abs (var 6)) ∧
    applyChk 5 (var 5) (var 5) = some (.error .NotAbs) := by decide

-- non-vacuity, `M = usize::MAX`: the witnesses of F7 (`abs(abs(Var(2))).apply(&Var(usize::MAX))`) and of DESIGN §9
example : applyChk (2^64 - 1) (abs (abs (var 2))) (var (2^64 - 1)) = none ∧
    applyChk (2^64 - 1) (abs (app (var 1) (abs (var 2)))) (var (2^64 - 1)) = none ∧
    applyChk (2^64 - 1) (abs (abs (var 2))) (var (2^64 - 2)) = some (.ok (abs (var (2^64 - 1)))) ∧
    applyChk (2^64 - 1) (abs (var 1)) (var (2^64 - 1)) = some (.ok (var (2^64 - 1))) ∧
    applyChk (2^64 - 1) (abs (abs (var 3))) (var (2^64 - 1)) = some (.ok (abs (var 2))) := by decide +kernel

/-- C02, which occurrence panics first: the checked `_apply` refuses exactly when `applyAuxPanic` finds a failing
addition (leftmost substituted occurrence in the body, then leftmost free leaf of the copy); the site it reports is an
occurrence of the bound variable at binder depth `e ≥ d` and a free index `j` of the argument with `j + (e - 1) > M` -/
theorem C02_checked_first_panic (M : Nat) (a b : Term) (d : Nat) :
    (applyAuxChk M a d b = none ↔ (applyAuxPanic M a d b).isSome = true) ∧
    (∀ e j, applyAuxPanic M a d b = some (e, j) → d ≤ e ∧ 0 < j ∧ M < j + (e - 1)) :=
  ⟨applyAuxChk_none_iff_panic M a b d, fun _ _ => applyAuxPanic_eq_some⟩

-- both copies overflow; the one in the operator (depth 2, index 5) is met first, the one at depth 3 never
example : applyAuxPanic 5 (app (var 1) (var 5)) 1 (app (abs (var 2)) (abs (abs (var 3)))) = some (2, 5) ∧
    applyAuxChk 5 (app (var 1) (var 5)) 1 (app (abs (var 2)) (abs (abs (var 3)))) = none := by decide

/-- C02: the binder counters `depth + 1`, `own_depth + 1` (plain `usize` additions in the crate) never overflow on terms
whose binder nesting stays within `M`: the variants that check them too are the same functions.  For `M = usize::MAX`
the hypothesis holds for every term that fits into memory. -/
theorem C02_checked_depth_counter (M : Nat) (b a : Term) (hb : 1 + maxDepth b ≤ M) (ha : maxDepth a ≤ M) :
    applyAuxStrict M a 1 b = contractChk M b a :=
  applyAuxStrict_eq M a ha b 1 hb

example : applyAuxStrict 5 (var 5) 1 (abs (var 2)) = none ∧ applyAuxStrict 5 (var 4) 1 (abs (var 2)) = some (abs (var 5)) ∧
    -- six nested binders: the counter itself overflows a 5-bounded `usize`, although no index is created
    applyAuxStrict 5 (var 1) 1 (abs (abs (abs (abs (abs (var 0)))))) = none ∧
    contractChk 5 (abs (abs (abs (abs (abs (var 0)))))) (var 1) = some (abs (abs (abs (abs (abs (var 0)))))) := by decide

/-- the decision of `Drv.exec` for the operation `applyb` (`Drv.resApplyB` in `LC/Drv/Ops1.lean`), with the strings
replaced by constructors: `none` is the line `PANIC`, `some (.ok t')` the line `ok <t'>`, `some (.error e)` the line
`err <e>` -/
def driverApplyb (M : Nat) (t a : Term) : Option (Except TermError Term) :=
  match Term.apply t a with
  | .ok t' => if maxIndex t' > M then none else some (.ok t')
  | .error e => some (.error e)

/-- C02, the driver's rule for `applyb` is the checked model: on every operation whose indices are representable the
line the driver prints is the answer of the checked `apply` -/
theorem C02_driver_applyb (M : Nat) (t a : Term) (ht : maxIndex t ≤ M) (ha : maxIndex a ≤ M) :
    driverApplyb M t a = applyChk M t a := by
  rw [C02_checked_apply_eq M t a ht ha]
  unfold driverApplyb
  cases Term.apply t a with
  | error e => rfl
  | ok r =>
    by_cases h : maxIndex r ≤ M
    · have : ¬ maxIndex r > M := by omega
      simp [h, this]
    · have : maxIndex r > M := by omega
      simp [h, this]

theorem C02_driver_applyb_panic_iff (M : Nat) (t a : Term) (ht : maxIndex t ≤ M) (ha : maxIndex a ≤ M) :
    driverApplyb M t a = none ↔ applyChk M t a = none := by
  rw [C02_driver_applyb M t a ht ha]

example : driverApplyb (2^64 - 1) (abs (abs (var 2))) (var (2^64 - 1)) = none ∧
    driverApplyb (2^64 - 1) (abs (abs (var 2))) (var 7) = some (.ok (abs (var 8))) := by decide +kernel

/-- C01: the checked contraction (what `eval` does) refuses exactly when the contractum is not representable -/
theorem C01_checked_contract_iff (M : Nat) (b a : Term) (hb : maxIndex b ≤ M) (ha : maxIndex a ≤ M) :
    (∀ r, contractChk M b a = some r ↔ (r = contract b a ∧ maxIndex r ≤ M)) ∧
    (contractChk M b a = none ↔ M < maxIndex (contract b a)) :=
  C02_checked_applyAux_iff M a b 1 ha hb

/-- C01: one checked step of any order RETURNS `u` exactly when the unbounded strategy steps to `u` and `u` is
representable -/
theorem C01_checked_step_iff (M : Nat) (o : Order) (t u : Term) (ht : maxIndex t ≤ M) :
    stepOrdChk M o t = some (some u) ↔ (stepOrd o t = some u ∧ maxIndex u ≤ M) := by
  rw [stepOrdChk_eq M o t ht]
  exact guardStep_eq_some_some

/-- C01: one checked step REFUSES exactly when the term the strategy steps to is not representable -/
theorem C01_checked_step_none_iff (M : Nat) (o : Order) (t : Term) (ht : maxIndex t ≤ M) :
    stepOrdChk M o t = none ↔ ∃ u, stepOrd o t = some u ∧ M < maxIndex u := by
  rw [stepOrdChk_eq M o t ht]
  exact guardStep_eq_none

/-- C01: the checked step selects nothing exactly when the unbounded strategy selects nothing (no arithmetic is done) -/
theorem C01_checked_step_stuck_iff (M : Nat) (o : Order) (t : Term) (ht : maxIndex t ≤ M) :
    stepOrdChk M o t = some none ↔ stepOrd o t = none := by
  rw [stepOrdChk_eq M o t ht]
  exact guardStep_eq_some_none

/-- C01: a checked step that returns is a genuine β-contraction (so every theorem about `Spec.Beta` applies to it) and
leaves a representable term -/
theorem C01_checked_step_beta (M : Nat) (o : Order) (t u : Term) (ht : maxIndex t ≤ M)
    (h : stepOrdChk M o t = some (some u)) : Beta t u ∧ maxIndex u ≤ M := by
  obtain ⟨hs, hu⟩ := (C01_checked_step_iff M o t u ht).1 h
  exact ⟨stepOrd_beta o hs, hu⟩

-- non-vacuity with `M = 5`: the same term steps under NOR (the outer redex discards the argument) and is refused under
-- APP (the argument `(λλ2) 5 → λ6` is contracted first)
example :
    stepOrdChk 5 .NOR (app (abs (var 2)) (app (abs (abs (var 2))) (var 5))) = some (some (var 1)) ∧
    stepOrdChk 5 .APP (app (abs (var 2)) (app (abs (abs (var 2))) (var 5))) = none ∧
    stepOrd .APP (app (abs (var 2)) (app (abs (abs (var 2))) (var 5))) = some (app (abs (var 2)) (abs (var 6))) ∧
    stepOrdChk 5 .APP (var 3) = some none := by decide

-- non-vacuity with `M = usize::MAX`, all seven orders on the F7 witness `(λλ2) Var(usize::MAX)`
example : ∀ o : Order, stepOrdChk (2^64 - 1) o (app (abs (abs (var 2))) (var (2^64 - 1))) = none := by
  intro o; cases o <;> decide +kernel

/-- C01, multi-step runs: if every term of the unbounded run (the input, the intermediate terms, the result) is
representable, the checked run of at most `L ≠ 0` steps is the unbounded one -/
theorem C01_checked_run_eq (M : Nat) (o : Order) (L fuel : Nat) (t t' : Term) (c : Nat) (hL : L ≠ 0)
    (h : reduce o L fuel t = some (t', c))
    (hall : ∀ j u, j ≤ c → Iter (stepOrd o) j t u → maxIndex u ≤ M) :
    runChk M o L t 0 = some (t', c) := by
  have ht : maxIndex t ≤ M := hall 0 t (Nat.zero_le _) (Iter.zero t)
  rw [runChk_eq_some_iff M o L t 0 ht]
  exact ⟨c, by omega, RL.reduce_brun hL h, hall⟩

/-- C01, the same for the unlimited call `reduce(o, 0)`: any number `n ≥ count` of checked steps gives its result -/
theorem C01_checked_run_eq_unlimited (M : Nat) (o : Order) (fuel : Nat) (t t' : Term) (c n : Nat)
    (h : reduce o 0 fuel t = some (t', c)) (hn : c ≤ n)
    (hall : ∀ j u, j ≤ c → Iter (stepOrd o) j t u → maxIndex u ≤ M) :
    runChk M o n t 0 = some (t', c) := by
  have ht : maxIndex t ≤ M := hall 0 t (Nat.zero_le _) (Iter.zero t)
  rw [runChk_eq_some_iff M o n t 0 ht]
  exact ⟨c, by omega, (RL.reduce_urun h).brun hn, hall⟩

/-- C01, the exact statement for runs: the checked run of at most `n` steps returns `(t', c)` iff the unbounded
strategy run of at most `n` steps ends in `t'` after `c` steps and all its terms are representable; it refuses iff
some term reached within `n` steps is not representable -/
theorem C01_checked_run_iff (M : Nat) (o : Order) (n : Nat) (t : Term) (ht : maxIndex t ≤ M) :
    (∀ t' c, runChk M o n t 0 = some (t', c) ↔
      (Iter (stepOrd o) c t t' ∧ c ≤ n ∧ (c < n → stepOrd o t' = none) ∧
        ∀ j u, j ≤ c → Iter (stepOrd o) j t u → maxIndex u ≤ M)) ∧
    (runChk M o n t 0 = none ↔ ∃ j u, j ≤ n ∧ Iter (stepOrd o) j t u ∧ M < maxIndex u) := by
  refine ⟨fun t' c => ?_, runChk_eq_none_iff M o n t 0 ht⟩
  rw [runChk_eq_some_iff M o n t 0 ht]
  constructor
  · rintro ⟨k, hk, ⟨it, hle, hn⟩, hall⟩
    have : c = k := by omega
    subst this
    exact ⟨it, hle, hn, hall⟩
  · rintro ⟨it, hle, hn, hall⟩
    exact ⟨c, by omega, ⟨it, hle, hn⟩, hall⟩

/-- C01: a checked run that returns agrees with `reduce` (same term, same count) -/
theorem C01_checked_run_sound (M : Nat) (o : Order) (L fuel : Nat) (t t' u : Term) (c c' : Nat) (hL : L ≠ 0)
    (ht : maxIndex t ≤ M) (hr : runChk M o L t 0 = some (t', c)) (h : reduce o L fuel t = some (u, c')) :
    u = t' ∧ c' = c := by
  obtain ⟨k, hk, hb, _⟩ := (runChk_eq_some_iff M o L t 0 ht t' c).1 hr
  have : c = k := by omega
  subst this
  exact hb.unique (RL.reduce_brun hL h)

-- a run whose FINAL result is small but which the checked run refuses (`M = 5`): NOR on `((λλ2) 5) 1` passes through
-- `(λ6) 1` on its way to `5`
example :
    reduce .NOR 0 10 (app (app (abs (abs (var 2))) (var 5)) (var 1)) = some (var 5, 2) ∧
    reduce .NOR 1 10 (app (app (abs (abs (var 2))) (var 5)) (var 1)) = some (app (abs (var 6)) (var 1), 1) ∧
    runChk 5 .NOR 2 (app (app (abs (abs (var 2))) (var 5)) (var 1)) 0 = none ∧
    runChk 6 .NOR 2 (app (app (abs (abs (var 2))) (var 5)) (var 1)) 0 = some (var 5, 2) := by decide

-- the order matters: APP is refused where NOR returns (`M = 5`); with `M = 6` both return the same term
example :
    runChk 5 .NOR 9 (app (abs (var 2)) (app (abs (abs (var 2))) (var 5))) 0 = some (var 1, 1) ∧
    runChk 5 .APP 9 (app (abs (var 2)) (app (abs (abs (var 2))) (var 5))) 0 = none ∧
    runChk 6 .APP 9 (app (abs (var 2)) (app (abs (abs (var 2))) (var 5))) 0 = some (var 1, 2) := by decide

-- non-vacuity of `C01_checked_run_eq`: all three terms of the run have indices ≤ 5
example : runChk 5 .CBV 7 (app (abs (var 1)) (app (abs (var 1)) (var 5))) 0 = some (var 5, 2) ∧
    reduce .CBV 7 10 (app (abs (var 1)) (app (abs (var 1)) (var 5))) = some (var 5, 2) := by decide

/-- the decision of `Drv.exec` for the operation `reduceb <o>` (`Drv.resReduceB` in `LC/Drv/Ops1.lean`), strings
replaced by constructors: outer `none` is the line `fuel`, `some none` the line `PANIC`, `some (some (t', c))` the line
`<c> <t'>`; the driver calls it with `M = USIZE_MAX`, `fuel = FUEL` -/
def driverReduceb (M : Nat) (o : Order) (fuel : Nat) (t : Term) : Option (Option (Term × Nat)) :=
  match reduce o 1 fuel t with
  | some (t', c) => some (if maxIndex t' > M then none else some (t', c))
  | none => none

/-- C01, the driver's rule for `reduceb` is the checked model: whenever the model's traversal returns (some fuel
always suffices, `C04_total`), the line the driver prints is the answer of the checked run with limit 1 -/
theorem C01_driver_reduceb (M : Nat) (o : Order) (fuel : Nat) (t : Term) (ht : maxIndex t ≤ M)
    (hf : reduce o 1 fuel t ≠ none) : driverReduceb M o fuel t = some (runChk M o 1 t 0) := by
  unfold driverReduceb
  cases h : reduce o 1 fuel t with
  | none => exact absurd h hf
  | some p =>
    obtain ⟨t', c⟩ := p
    simp only [runChk, Option.some.injEq]
    rw [stepOrdChk_eq M o t ht]
    rcases C04_single_step o fuel t t' c h with ⟨hs, rfl⟩ | ⟨hs, rfl, rfl⟩
    · rw [hs]
      by_cases hm : maxIndex t' ≤ M
      · have : ¬ maxIndex t' > M := by omega
        rw [guardStep_some_le hm]; simp [this]
      · have : maxIndex t' > M := by omega
        rw [guardStep_some_gt this]; simp [this]
    · rw [hs]
      have : ¬ maxIndex t' > M := by omega
      simp [guardStep, this]

/-- C01: "driver prints PANIC ↔ checked model returns none", for `reduceb`: with `(t', c)` the model's answer to
`reduce(o, 1)`, the test `maxIndex t' > M` of the driver holds exactly when the checked step of order `o` panics -/
theorem C01_driver_reduceb_panic_iff (M : Nat) (o : Order) (fuel : Nat) (t t' : Term) (c : Nat)
    (ht : maxIndex t ≤ M) (h : reduce o 1 fuel t = some (t', c)) :
    maxIndex t' > M ↔ stepOrdChk M o t = none := by
  rw [C01_checked_step_none_iff M o t ht]
  rcases C04_single_step o fuel t t' c h with ⟨hs, rfl⟩ | ⟨hs, rfl, rfl⟩
  · constructor
    · intro hm; exact ⟨t', hs, hm⟩
    · rintro ⟨u, hu, hm⟩; rw [hs] at hu; cases hu; exact hm
  · constructor
    · intro hm; omega
    · rintro ⟨u, hu, _⟩; rw [hs] at hu; cases hu

/-- C01: when the driver does not print PANIC it prints the result of the checked step -/
theorem C01_driver_reduceb_returned (M : Nat) (o : Order) (fuel : Nat) (t t' : Term) (c : Nat)
    (ht : maxIndex t ≤ M) (h : reduce o 1 fuel t = some (t', c)) (hm : ¬ maxIndex t' > M) :
    (c = 1 ∧ stepOrdChk M o t = some (some t')) ∨ (c = 0 ∧ t' = t ∧ stepOrdChk M o t = some none) := by
  rcases C04_single_step o fuel t t' c h with ⟨hs, rfl⟩ | ⟨hs, rfl, rfl⟩
  · exact Or.inl ⟨rfl, (C01_checked_step_iff M o t t' ht).2 ⟨hs, by omega⟩⟩
  · exact Or.inr ⟨rfl, rfl, (C01_checked_step_stuck_iff M o t' ht).2 hs⟩

example : driverReduceb (2^64 - 1) .HAP 10 (app (abs (abs (var 2))) (var (2^64 - 1))) = some none ∧
    driverReduceb (2^64 - 1) .HAP 10 (app (abs (abs (var 2))) (var (2^64 - 2)))
      = some (some (abs (var (2^64 - 1)), 1)) ∧
    runChk (2^64 - 1) .HAP 1 (app (abs (abs (var 2))) (var (2^64 - 1))) 0 = none := by decide +kernel

/-- C08: a checked `apply` that returns invents no free variable and no UD: a wrapped index turning a free variable
into UD or into a bound variable (what F7 repaired) cannot be the answer of the checked operation -/
theorem C08_checked_apply (M : Nat) (b a r : Term) (hb : maxIndex (abs b) ≤ M) (ha : maxIndex a ≤ M)
    (h : applyChk M (abs b) a = some (.ok r)) :
    (∀ j, FreeIn j r → FreeIn j (abs b) ∨ FreeIn j a) ∧ (hasUD r = true → hasUD b = true ∨ hasUD a = true) := by
  obtain ⟨h1, _⟩ := (C02_checked_apply_iff M b a r hb ha).1 h
  rw [C02_apply_abs] at h1
  cases h1
  refine ⟨fun j hf => ?_, fun hu => hasUD_substTop hu⟩
  rcases freeIn_substTop hf with h | h
  · left
    obtain ⟨h1, h2⟩ := h
    exact ⟨by omega, by simpa [freeInAux] using h2⟩
  · exact Or.inr h

-- non-vacuity: free index 4 of the argument is still 4, the outer reference 2 of the body is renumbered to 1
example : applyChk 5 (abs (app (var 1) (app (var 2) (var 0)))) (var 4)
    = some (.ok (app (var 4) (app (var 1) (var 0)))) := by decide

/-- C08: a checked step that returns invents no free variable, no UD, and keeps closed terms closed -/
theorem C08_checked_step (M : Nat) (o : Order) (t u : Term) (ht : maxIndex t ≤ M)
    (h : stepOrdChk M o t = some (some u)) :
    (∀ j, FreeIn j u → FreeIn j t) ∧ (hasUD u = true → hasUD t = true) ∧
    (hasFreeVariables t = false → hasFreeVariables u = false) := by
  obtain ⟨hb, _⟩ := C01_checked_step_beta M o t u ht h
  exact ⟨fun _ hf => freeIn_beta hb hf, fun hu => hasUD_beta hb hu,
    fun hc => closed_star (Star.head hb (Star.refl _)) hc⟩

-- non-vacuity: a returning checked step keeps UD and the free variable 3
example : stepOrdChk 5 .HNO (abs (app (abs (app (var 1) (var 0))) (var 3)))
    = some (some (abs (app (var 3) (var 0)))) := by decide

theorem Term.maxIndex_applyAux_closed (a : Term) (hc : Spec.closedAt 0 a = true) (b : Term) (d : Nat) :
    maxIndex (applyAux a d b) ≤ max (maxIndex b) (maxIndex a) := by
  induction b generalizing d with
  | var i =>
    simp only [applyAux, maxIndex]
    by_cases h1 : i = d
    · simp only [h1, if_true, Spec.shiftFV_closed _ _ hc]; omega
    · by_cases h2 : i > d
      · simp only [h1, h2, if_false, if_true, maxIndex]; omega
      · simp only [h1, h2, if_false, maxIndex]; omega
  | abs b ih => simp only [applyAux, maxIndex]; exact ih (d + 1)
  | app l r ihl ihr =>
    simp only [applyAux, maxIndex]
    have := ihl d
    have := ihr d
    omega

/-- C08: an argument without free variables (UD allowed) is never refused: the only additions are made to FREE indices
of the argument -/
theorem C08_checked_apply_closed_arg (M : Nat) (b a : Term) (hb : maxIndex (abs b) ≤ M) (ha : maxIndex a ≤ M)
    (hc : closedAt 0 a = true) : applyChk M (abs b) a = some (.ok (substTop b a)) := by
  simp only [maxIndex] at hb
  have := maxIndex_applyAux_closed a hc b 1
  rw [C02_checked_apply_iff M b a _ (by simpa [maxIndex] using hb) ha, C02_apply_abs]
  refine ⟨rfl, ?_⟩
  rw [← contract_eq_substTop]
  unfold contract
  omega

-- the bound variable occurs under 3 binders; a closed argument with the largest representable BOUND index passes,
-- an argument with a free index near the bound does not
example : applyChk 5 (abs (abs (abs (abs (var 4))))) (abs (abs (abs (abs (abs (var 5))))))
      = some (.ok (abs (abs (abs (abs (abs (abs (abs (abs (var 5)))))))))) ∧
    closedAt 0 (abs (abs (abs (abs (abs (var 5)))))) = true ∧
    applyChk 5 (abs (abs (abs (abs (var 4))))) (var 3) = none := by decide

/-! ## the driver's line: `PANIC` exactly when the transcriptions say "not representable" -/

section DriverLine
open Drv

theorem ne_PANIC_of_space {s : String} (h : ' ' ∈ s.toList) : s ≠ "PANIC" := by
  rintro rfl
  simp at h

/-- the driver's printed line for `applyb` is `PANIC` exactly when the transcription `driverApplyb` answers `none` -/
theorem C02_driver_applyb_line_panic_iff (t a : Term) :
    resApplyB (Term.apply t a) = "PANIC" ↔ driverApplyb USIZE_MAX t a = none := by
  unfold resApplyB driverApplyb
  cases Term.apply t a with
  | error e => simp [ne_PANIC_of_space]
  | ok r =>
    by_cases h : maxIndex r > USIZE_MAX <;> simp [h, ne_PANIC_of_space]

/-- the same for `reduceb`: the printed line is `PANIC` exactly when the transcription `driverReduceb` of `C02Bounded`
answers `some none` ("the traversal returned and its result is not representable") -/
theorem C01_driver_reduceb_line_panic_iff (o : Order) (fuel : Nat) (t : Term) :
    resReduceB (reduce o 1 fuel t) = "PANIC" ↔ driverReduceb USIZE_MAX o fuel t = some none := by
  unfold resReduceB driverReduceb
  cases reduce o 1 fuel t with
  | none => simp
  | some p =>
    obtain ⟨t', c⟩ := p
    by_cases h : maxIndex t' > USIZE_MAX
    · simp [h]
    · have hne : toString c ++ " " ++ showTerm t' ≠ "PANIC" := ne_PANIC_of_space (by simp)
      simp only [h, if_false]
      constructor
      · intro hp; exact absurd hp hne
      · intro hp; simp at hp

end DriverLine

end LC
