/-
C10, sharpness of the input domain — the restriction "terms WITHOUT UD" of the Display / Classic round trip is
NECESSARY, and what exactly happens outside it.

`Display` prints `UD` as the word `undefined`.  The Classic parser reads that word as an ordinary identifier, a
FREE variable: for EVERY term the Display output parses (`C10_display_parses`), the result never contains `UD`
(`C10_parse_display_noUD`), hence for a term with `UD` it is neither `t` nor `canon t` (`C10_ud_not_roundtrip`):
the round trip `parse (display t) = canon t` holds IFF `t` has no `UD` (`C10_roundtrip_iff`).

More precisely (`C10_ud_reads_as_free_variable`): `undefined` is the bijective base-26 name number
4 499 111 678 181 (`C10_undefined_is_a_name`; `C10S.undefinedOrdinal` in the proofs).  For a term of binder depth ≤ 4 499 111 678 181 (every term that
fits a machine: `max_depth` is a `u32`) the word is the name of the free variable number
`K = 4 499 111 678 182 - max_depth`, so the output of `t` is also the output of the `UD`-free term `fillUD K 0 t`
(each `UD` replaced by that free variable, `C10_ud_display_eq`), and `parse` returns `canon (fillUD K 0 t)`.
So `Display` — injective up to the numbering of free variables on `UD`-free terms (`C10_display_injective`,
`LC/Props/C10.lean`) — is NOT injective on all terms (`C10_display_not_injective_with_ud`).

Hypotheses on the character classification: `C10.ClsOk10`, as in `C10_roundtrip`.
-/
import LC.Props.C10

namespace LC
open Term Parser Display
open Spec (hasUD)
open C10 C10S


/-- `undefined` is the name with ordinal 4 499 111 678 181, i.e. the bijective base-26 numeral of
4 499 111 678 182 — and `Display` prints exactly this word for `UD` -/
theorem C10_undefined_is_a_name :
    base26 4499111678181 = str "undefined" ∧ C10.value26 (str "undefined") = 4499111678182 ∧
      ∀ lam M ctx d, showCla lam M (var 0) ctx d = str "undefined" := by
  refine ⟨?_, ?_, fun _ _ _ _ => by simp [showCla]⟩
  · rw [str_undefined]; exact base26_undefined
  · rw [str_undefined]; decide +kernel


/-- the Display output of ANY term parses in Classic notation: to the standard named → De Bruijn translation
(`Spec.Cl.toDeBruijn`) of the named term that was printed, in which `UD` is the identifier `undefined` -/
theorem C10_display_parses (cls : CharCls) (hc : C10.ClsOk10 cls) (lam : Nat)
    (hl : lam = 955 ∨ lam = 92) (t : Term) :
    parse cls (display lam t) .Classic = .ok (Spec.Cl.toDeBruijn (nameOfU t.maxDepth 0 t)) :=
  parse_display cls hc lam hl t

/-- on `UD`-free terms `nameOfU` is the `C10.nameOf` of the round-trip proof -/
theorem C10_nameOfU_noUD (t : Term) (h : hasUD t = false) :
    nameOfU t.maxDepth 0 t = C10.nameOf t.maxDepth 0 t :=
  nameOfU_eq_nameOf _ t (noUD_of_hasUD_false h) 0

/-- whatever the term, the parse result of its Display output contains no `UD` -/
theorem C10_parse_display_noUD (cls : CharCls) (hc : C10.ClsOk10 cls) (lam : Nat)
    (hl : lam = 955 ∨ lam = 92) (t u : Term) (h : parse cls (display lam t) .Classic = .ok u) :
    hasUD u = false := by
  rw [C10_display_parses cls hc lam hl t] at h
  rw [← Outcome.ok.inj h]
  exact toDeBruijn_noUD _

theorem C10_canon_hasUD (t : Term) : hasUD (canon t) = hasUD t := hasUD_canonAux t 0 []

/-- C10, sharpness: for a term containing `UD`, whatever `parse` returns on the Display output has no `UD`; it is
neither `t` nor `canon t` -/
theorem C10_ud_not_roundtrip' (cls : CharCls) (hc : C10.ClsOk10 cls) (lam : Nat)
    (hl : lam = 955 ∨ lam = 92) (t u : Term) (ht : hasUD t = true)
    (h : parse cls (display lam t) .Classic = .ok u) :
    hasUD u = false ∧ u ≠ t ∧ u ≠ canon t := by
  have hu := C10_parse_display_noUD cls hc lam hl t u h
  refine ⟨hu, fun he => ?_, fun he => ?_⟩
  · rw [he, ht] at hu; cases hu
  · rw [he, C10_canon_hasUD, ht] at hu; cases hu

/-- … and it does return something: the Display output parses -/
theorem C10_ud_not_roundtrip (cls : CharCls) (hc : C10.ClsOk10 cls) (lam : Nat)
    (hl : lam = 955 ∨ lam = 92) (t : Term) (ht : hasUD t = true) :
    ∃ u, parse cls (display lam t) .Classic = .ok u ∧ hasUD u = false ∧ u ≠ t ∧ u ≠ canon t :=
  ⟨_, C10_display_parses cls hc lam hl t,
    C10_ud_not_roundtrip' cls hc lam hl t _ ht (C10_display_parses cls hc lam hl t)⟩

/-- C10, both directions: parsing the Display output yields the canonical renumbering IFF the term has no `UD` -/
theorem C10_roundtrip_iff (cls : CharCls) (hc : C10.ClsOk10 cls) (lam : Nat)
    (hl : lam = 955 ∨ lam = 92) (t : Term) :
    parse cls (display lam t) .Classic = .ok (canon t) ↔ hasUD t = false := by
  constructor
  · intro hp
    cases ht : hasUD t with
    | false => rfl
    | true => exact absurd rfl (C10_ud_not_roundtrip' cls hc lam hl t _ ht hp).2.2
  · intro h
    exact C10_roundtrip cls hc lam hl t (noUD_of_hasUD_false h)

/-- … and yields the term itself only if it has no `UD` (for closed `UD`-free terms it does:
`C10_roundtrip_closed`) -/
theorem C10_roundtrip_exact_only_if (cls : CharCls) (hc : C10.ClsOk10 cls) (lam : Nat)
    (hl : lam = 955 ∨ lam = 92) (t : Term) (hp : parse cls (display lam t) .Classic = .ok t) :
    hasUD t = false :=
  C10_parse_display_noUD cls hc lam hl t t hp


/-- the free-variable number whose Display name is `undefined` in a term of binder depth `M`: free variable `K` is
named `base26 (M + K - 1)`, and the literal is `C10S.undefinedOrdinal + 1` -/
def undefinedFV (M : Nat) : Nat := 4499111678182 - M

/-- replacing every `UD` of a term of binder depth ≤ 4 499 111 678 181 by the free variable number
`undefinedFV (max_depth)` (an occurrence under `d` binders becomes `var (d + that)`) gives a `UD`-free term of
the same binder depth with the SAME Display output -/
theorem C10_ud_display_eq (lam : Nat) (t : Term) (hM : t.maxDepth ≤ 4499111678181) :
    display lam t = display lam (fillUD (undefinedFV t.maxDepth) 0 t) ∧
      hasUD (fillUD (undefinedFV t.maxDepth) 0 t) = false ∧
      (fillUD (undefinedFV t.maxDepth) 0 t).maxDepth = t.maxDepth := by
  have hK : 1 ≤ undefinedFV t.maxDepth := by unfold undefinedFV; omega
  have hMK : t.maxDepth + undefinedFV t.maxDepth - 1 = undefinedOrdinal := by
    unfold undefinedFV undefinedOrdinal; omega
  refine ⟨?_, hasUD_fillUD _ hK t 0, maxDepth_fillUD _ t 0⟩
  unfold display
  rw [maxDepth_fillUD, showCla_fillUD lam _ _ hK hMK t 0 0]

theorem C10_fillUD_cases (K : Nat) :
    (∀ d, fillUD K d (var 0) = var (d + K)) ∧ (∀ d i, fillUD K d (var (i + 1)) = var (i + 1)) ∧
    (∀ d b, fillUD K d (abs b) = abs (fillUD K (d + 1) b)) ∧
    (∀ d l r, fillUD K d (app l r) = app (fillUD K d l) (fillUD K d r)) ∧
    (∀ d t, hasUD t = false → fillUD K d t = t) :=
  ⟨fun _ => rfl, fun _ _ => rfl, fun _ _ => rfl, fun _ _ _ => rfl, fun d t h => fillUD_noUD K t h d⟩

/-- C10, outside the domain: for a term of binder depth ≤ 4 499 111 678 181 (with or without `UD`), parsing the
Display output yields the canonical renumbering of the term with every `UD` replaced by the free variable whose
name is `undefined` -/
theorem C10_ud_reads_as_free_variable (cls : CharCls) (hc : C10.ClsOk10 cls) (lam : Nat)
    (hl : lam = 955 ∨ lam = 92) (t : Term) (hM : t.maxDepth ≤ 4499111678181) :
    parse cls (display lam t) .Classic = .ok (canon (fillUD (undefinedFV t.maxDepth) 0 t)) := by
  obtain ⟨he, hu, _⟩ := C10_ud_display_eq lam t hM
  rw [he]
  exact C10_roundtrip cls hc lam hl _ (noUD_of_hasUD_false hu)


/-- every term with `UD` (of binder depth ≤ 4 499 111 678 181) shares its Display output with a DIFFERENT term
that has no `UD` -/
theorem C10_ud_display_collision (lam : Nat) (t : Term) (ht : hasUD t = true)
    (hM : t.maxDepth ≤ 4499111678181) :
    ∃ u, hasUD u = false ∧ u ≠ t ∧ canon u ≠ canon t ∧ display lam u = display lam t := by
  obtain ⟨he, hu, _⟩ := C10_ud_display_eq lam t hM
  refine ⟨fillUD (undefinedFV t.maxDepth) 0 t, hu, ?_, ?_, he.symm⟩
  · intro e
    rw [e, ht] at hu
    cases hu
  · intro hc
    have h1 := C10_canon_hasUD (fillUD (undefinedFV t.maxDepth) 0 t)
    rw [hc, C10_canon_hasUD, ht, hu] at h1
    exact absurd h1 (by decide)

/-- C10: `Display` is NOT injective on all terms, not even up to the numbering of free variables: `UD` and the
`UD`-free term `var 4499111678182` (the free variable with ordinal 4 499 111 678 181) are both printed
`undefined` -/
theorem C10_display_not_injective_with_ud (lam : Nat) :
    ∃ t u : Term, hasUD t = true ∧ hasUD u = false ∧ t ≠ u ∧ canon t ≠ canon u ∧
      display lam t = display lam u := by
  refine ⟨var 0, var 4499111678182, rfl, rfl, by decide, by decide +kernel, ?_⟩
  have := (C10_ud_display_eq lam (var 0) (by decide)).1
  simpa [fillUD, undefinedFV, maxDepth] using this


namespace C10S.Examples
open C10.Examples C09C.Examples

example : display 955 (var 0) = [117, 110, 100, 101, 102, 105, 110, 101, 100] := by decide +kernel
example : display 955 (var 4499111678182) = [117, 110, 100, 101, 102, 105, 110, 101, 100] := by
  decide +kernel

/-- `λ. UD 1 (λ. 2 UD)` is printed `λa.undefined a (λb.a undefined)`; binder depth 2, so `undefined` is the free
variable number 4 499 111 678 180: the same string is printed for `λ. X+1 1 (λ. 2 X+2)`, X = that number -/
def withUD : Term := abs (app (app (var 0) (var 1)) (abs (app (var 2) (var 0))))

example : hasUD withUD = true := by decide
example : display 92 withUD =
    [92, 97, 46] ++ str "undefined" ++ [32, 97, 32, 40, 92, 98, 46, 97, 32] ++ str "undefined" ++ [41] := by
  decide +kernel

example : fillUD (undefinedFV withUD.maxDepth) 0 withUD =
    abs (app (app (var 4499111678181) (var 1)) (abs (app (var 2) (var 4499111678182)))) := by
  decide +kernel

example : display 92 withUD =
    display 92 (abs (app (app (var 4499111678181) (var 1)) (abs (app (var 2) (var 4499111678182))))) := by
  decide +kernel

/-- it parses back as `λ. 2 1 (λ. 2 3)`: the two `UD`s have become ONE free variable -/
example : parse asciiCls (display 92 withUD) .Classic =
    .ok (abs (app (app (var 2) (var 1)) (abs (app (var 2) (var 3))))) := by
  have h := C10_ud_reads_as_free_variable asciiCls asciiCls_ok10 92 (.inr rfl) withUD (by decide)
  have hc : canon (fillUD (undefinedFV withUD.maxDepth) 0 withUD) =
      abs (app (app (var 2) (var 1)) (abs (app (var 2) (var 3)))) := by decide +kernel
  rwa [hc] at h

example : ∃ u, parse asciiCls (display 955 withUD) .Classic = .ok u ∧ hasUD u = false ∧ u ≠ withUD ∧
    u ≠ canon withUD :=
  C10_ud_not_roundtrip asciiCls asciiCls_ok10 955 (.inl rfl) withUD (by decide)

/-- the equivalence, instantiated in both directions -/
example : parse asciiCls (display 955 withUD) .Classic ≠ .ok (canon withUD) := fun h =>
  absurd ((C10_roundtrip_iff asciiCls asciiCls_ok10 955 (.inl rfl) withUD).1 h) (by decide)

example : parse asciiCls (display 955 (abs (app (var 5) (var 3)))) .Classic =
    .ok (canon (abs (app (var 5) (var 3)))) :=
  (C10_roundtrip_iff asciiCls asciiCls_ok10 955 (.inl rfl) _).2 (by decide)

example : ∃ u, hasUD u = false ∧ u ≠ withUD ∧ canon u ≠ canon withUD ∧
    display 955 u = display 955 withUD :=
  C10_ud_display_collision 955 withUD (by decide) (by decide)

end C10S.Examples

end LC
