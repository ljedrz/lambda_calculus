/-
Model of the two printers of `src/term.rs`: `base26_encode`, `show_precedence_cla`
(`Display`), `show_precedence_dbr` (`Debug`), `parenthesize_if`.  Strings are lists of code
points; `lam` is the `LAMBDA` constant (`'λ'` = 955, or `'\\'` = 92 with feature
`backslash_lambda`).  `u8`/`u32`/`u128`/`usize` arithmetic is `Nat` (DESIGN §5).
-/
import LC.Model.Term
import LC.Model.Reduce
import LC.Model.Parser

namespace LC
namespace Display
open Term

def str (s : String) : List Nat := s.toList.map Char.toNat

/-- the loop of `base26_encode` after `n += 1`; digits are pushed least significant first and
the buffer is reversed at the end, i.e. each new digit goes in front -/
def base26Loop (n : Nat) (acc : List Nat) : List Nat :=
  if _h : n = 0 then acc
  else
    let m := n % 26
    let m := if m == 0 then 26 else m
    base26Loop ((n - 1) / 26) ((m + 96) :: acc)     -- `m + b'a' - 1`
termination_by n
decreasing_by omega

/-- `base26_encode` -/
def base26 (n : Nat) : List Nat := base26Loop (n + 1) []

/-- `parenthesize_if` -/
def parenIf (s : List Nat) (c : Bool) : List Nat := if c then 40 :: (s ++ [41]) else s

/-- `show_precedence_cla(term, context_precedence, max_depth, depth)` -/
def showCla (lam : Nat) (maxDepth : Nat) : Term → Nat → Nat → List Nat
  | var 0, _, _ => str "undefined"
  | var (i+1), _, depth =>
    let i := i + 1
    let ix := if i ≤ depth then depth - i else maxDepth + i - depth - 1
    base26 ix
  | abs t, ctx, depth =>
    parenIf (lam :: (base26 depth ++ (46 :: showCla lam maxDepth t 0 (depth + 1)))) (decide (ctx > 1))
  | app t1 t2, ctx, depth =>
    parenIf (showCla lam maxDepth t1 2 depth ++ (32 :: showCla lam maxDepth t2 3 depth)) (ctx == 3)

/-- `impl Display for Term` -/
def display (lam : Nat) (t : Term) : List Nat := showCla lam t.maxDepth t 0 0

def hexDigit (d : Nat) : Nat := if d < 10 then 48 + d else 55 + d   -- '0'.. / 'A'..

/-- `format!("{:X}", i)`: upper-case hexadecimal, most significant digit first -/
def hexLoop (n : Nat) (acc : List Nat) : List Nat :=
  if _h : n = 0 then acc else hexLoop (n / 16) (hexDigit (n % 16) :: acc)
termination_by n
decreasing_by omega

def hexUpper (n : Nat) : List Nat := if n = 0 then [48] else hexLoop n []

/-- `show_precedence_dbr(term, context_precedence)` -/
def showDbr (lam : Nat) : Term → Nat → List Nat
  | var 0, _ => str "undefined"
  | var (i+1), _ => hexUpper (i + 1)
  | abs t, ctx => parenIf (lam :: showDbr lam t 0) (decide (ctx > 1))
  | app t1 t2, ctx => parenIf (showDbr lam t1 2 ++ showDbr lam t2 3) (ctx == 3)

/-- `impl Debug for Term` -/
def debug (lam : Nat) (t : Term) : List Nat := showDbr lam t 0

/-! ### the string tables of the crate: `Display` of `TermError`, `ParseError`, `Order` -/

/-- `impl fmt::Display for TermError` -/
def termErrorMsg : TermError → List Nat
  | .NotVar => str "the term is not a variable"
  | .NotAbs => str "the term is not an abstraction"
  | .NotApp => str "the term is not an application"

/-- `impl fmt::Display for Order` -/
def orderName : Order → List Nat
  | .NOR => str "normal"
  | .CBN => str "call-by-name"
  | .HSP => str "head spine"
  | .HNO => str "hybrid normal"
  | .APP => str "applicative"
  | .CBV => str "call-by-value"
  | .HAP => str "hybrid applicative"

/-- decimal digits of a `usize` (`{}` formatting), most significant first -/
def decLoop (n : Nat) (acc : List Nat) : List Nat :=
  if _h : n = 0 then acc else decLoop (n / 10) ((48 + n % 10) :: acc)
termination_by n
decreasing_by omega

def natDec (n : Nat) : List Nat := if n = 0 then [48] else decLoop n []

/-- `impl fmt::Display for ParseError` -/
def parseErrorMsg : Parser.ParseError → List Nat
  | .InvalidCharacter idx c =>
    str "lexical error; invalid character '" ++ (c :: (str "' at " ++ natDec idx))
  | .InvalidExpression => str "syntax error; the expression is invalid"
  | .EmptyExpression => str "syntax error; the expression is empty"

end Display
end LC
