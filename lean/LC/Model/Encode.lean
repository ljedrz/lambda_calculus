/-
Model of the Rust-side constructors of encoded data:
`src/data/num/convert.rs` (into_church/scott/parigot/stumpfu/binary, into_signed, pairs,
options, results), `src/data/list/convert.rs` (four Vec conversions), the `From` impls in
`boolean.rs`, `pair.rs`, `option.rs`, `result.rs`, and the `tuple!` / `pi!` macros.

Each function mirrors the loop of the Rust code; the loop counter becomes structural recursion.
-/
import LC.Model.Term

namespace LC
namespace Enc
open Term

/-- `enum Encoding { Church, Scott, Parigot, StumpFu, Binary }` -/
inductive Encoding where
  | Church | Scott | Parigot | StumpFu | Binary
deriving DecidableEq, Repr, Inhabited

/-- `let mut ret = Var(1); for _ in 0..n { ret = app(Var(2), ret) }` -/
def churchBody : Nat → Term
  | 0 => var 1
  | n+1 => app (var 2) (churchBody n)

/-- `into_church`: `abs!(2, ret)` -/
def intoChurch (n : Nat) : Term := abs (abs (churchBody n))

/-- `into_scott`: `ret = abs!(2, Var(2)); for _ in 0..n { ret = abs!(2, app(Var(1), ret)) }` -/
def intoScott : Nat → Term
  | 0 => abs (abs (var 2))
  | n+1 => abs (abs (app (var 1) (intoScott n)))

/-- `ret.unabs().and_then(|r| r.unabs()).unwrap()` — the body under two abstractions.
The `unwrap` cannot fail on the loop's values (`C12_parigot_unabs`); the fall-through
returns the term itself and is unreachable there. -/
def unabs2 : Term → Term
  | abs (abs b) => b
  | t => t

/-- `into_parigot`: `ret = λλ1; loop: ret = abs!(2, app!(Var(2), ret.clone(), ret.unabs().unabs()))` -/
def intoParigot : Nat → Term
  | 0 => abs (abs (var 1))
  | n+1 => abs (abs (app (app (var 2) (intoParigot n)) (unabs2 (intoParigot n))))

/-- `into_stumpfu`: `ret = λλ1; for n in 1..=self { ret = abs!(2, app!(Var(2), n.into_church(), ret)) }` -/
def intoStumpFu : Nat → Term
  | 0 => abs (abs (var 1))
  | n+1 => abs (abs (app (app (var 2) (intoChurch (n+1))) (intoStumpFu n)))

/-- binary digits of `n > 0`, most significant first, no leading zero — what `format!("{:b}", n)`
produces (as booleans); `[]` for 0, which the Rust code special-cases -/
def bitsMSB (n : Nat) : List Bool :=
  if _h : n = 0 then [] else bitsMSB (n / 2) ++ [n % 2 == 1]
termination_by n
decreasing_by omega

/-- `into_binary`: `ret = Var(3); for bit in binstr { ret = app(if bit == '0' {Var(2)} else {Var(1)}, ret) }; abs!(3, ret)` -/
def intoBinary (n : Nat) : Term :=
  abs (abs (abs ((bitsMSB n).foldl (fun ret bit => app (if bit then var 1 else var 2) ret) (var 3))))

/-- numeral of the selected encoding -/
def intoNum : Encoding → Nat → Term
  | .Church => intoChurch
  | .Scott => intoScott
  | .Parigot => intoParigot
  | .StumpFu => intoStumpFu
  | .Binary => intoBinary

/-- `tuple!(a, b)` with two components: `abs(app(app(Var(1), a), b))` -/
def tuple2 (a b : Term) : Term := abs (app (app (var 1) a) b)

/-- `tuple!(first, next…)`: `ret = app(Var(1), first); ret = app(ret, next)…; abs(ret)` -/
def tuple (first : Term) (rest : List Term) : Term := abs (rest.foldl app (app (var 1) first))

/-- `pi!(i, n)`: `ret = Var(n + 1 - i); for _ in 0..n { ret = abs(ret) }; abs(app(Var(1), ret))` -/
def pi (i n : Nat) : Term := abs (app (var 1) (absN n (var (n + 1 - i))))

/-- `into_signed` (after the repair recorded as F3 in DESIGN §8; `Binary` panics in Rust and is
excluded by the callers of this model function) -/
def intoSigned (e : Encoding) (i : Int) : Term :=
  let numeral := intoNum e i.natAbs
  let zero := intoNum e 0
  if i > 0 then tuple2 numeral zero else tuple2 zero numeral

/-- `into_signed` with the refusal the crate has: `Binary => panic!("signed binary numbers are not supported")`
(`none` = panic).  The driver answers `signed` operations with this function. -/
def intoSignedChecked (e : Encoding) (i : Int) : Option Term :=
  match e with
  | .Binary => none
  | _ => some (intoSigned e i)

/-! ### containers of numerals (`impl_pair!`, `impl_option!`, `impl_result!`) and `From` impls -/

/-- `(a, b).into_E()` and `From<(Term, Term)>` -/
def fromPair (a b : Term) : Term := abs (app (app (var 1) a) b)

/-- `From<Option<Term>>` / `Option<T>::into_E()`: `None => λλ2`, `Some(v) => λλ(1 v)` -/
def fromOption : Option Term → Term
  | none => abs (abs (var 2))
  | some v => abs (abs (app (var 1) v))

/-- `From<Result<Term, Term>>` / `Result<T,U>::into_E()`: `Ok(v) => λλ(2 v)`, `Err(e) => λλ(1 e)` -/
def fromResult : Except Term Term → Term
  | .ok v => abs (abs (app (var 2) v))
  | .error e => abs (abs (app (var 1) e))

/-- `From<bool>`: `tru()` = λλ2, `fls()` = λλ1 (tied to the generated constants in Props/C17) -/
def fromBool (b : Bool) : Term := if b then abs (abs (var 2)) else abs (abs (var 1))

/-! ### list conversions (`Vec<Term>`; vectors of numbers map the numeral conversion first) -/

/-- `into_pair_list`: `ret = λλ1; for t in rev { ret = abs(app!(Var(1), t, ret)) }` -/
def pairList : List Term → Term
  | [] => abs (abs (var 1))
  | t :: ts => abs (app (app (var 1) t) (pairList ts))

/-- Church (fold) list body: `ret = Var(2); for t in rev { ret = app!(Var(1), t, ret) }` -/
def churchListBody : List Term → Term
  | [] => var 2
  | t :: ts => app (app (var 1) t) (churchListBody ts)

def churchList (ts : List Term) : Term := abs (abs (churchListBody ts))

/-- Scott list: `ret = λλ2; for t in rev { ret = abs!(2, app!(Var(1), t, ret)) }` -/
def scottList : List Term → Term
  | [] => abs (abs (var 2))
  | t :: ts => abs (abs (app (app (var 1) t) (scottList ts)))

/-- Parigot list: `ret = λλ2; for t in rev { ret = abs!(2, app!(Var(1), t, ret.clone(), ret.unabs().unabs())) }` -/
def parigotList : List Term → Term
  | [] => abs (abs (var 2))
  | t :: ts => abs (abs (app (app (app (var 1) t) (parigotList ts)) (unabs2 (parigotList ts))))

end Enc
end LC
