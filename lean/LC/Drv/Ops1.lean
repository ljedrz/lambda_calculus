/-
First half of the driver protocol: term, substitution and reduction operations (and the dispatch to `Drv2.exec2`).
`exec` maps one protocol line to one result line; it is a library module (not the executable's root) so that
`LC/Props/TieCodecExec.lean` can state theorems about `exec` itself.
-/
import LC.Model.Term
import LC.Model.Subst
import LC.Model.Reduce
import LC.Model.Encode
import LC.Model.Parser
import LC.Model.Display
import LC.Drv.Codec
import LC.Drv.Ops2

open LC LC.Term

namespace Drv

/-- fuel for the traversals: bounds the depth of the call tree; a `none` is reported as
`fuel` and counted inconclusive by the checker, never as a result -/
def FUEL : Nat := 200000

/-- `usize::MAX` on the 64-bit targets the harness runs on -/
def USIZE_MAX : Nat := 18446744073709551615

/-- does the term contain `var 0` (UD)? -/
def hasUD01 : Term → Bool
  | .var i => i == 0
  | .abs b => hasUD01 b
  | .app l r => hasUD01 l || hasUD01 r

/-- run a history of reduce calls -/
def runHist : List (Order × Nat) → Term → String → Option String
  | [], t, acc => some (acc ++ showTerm t)
  | (o, l) :: rest, t, acc =>
    match reduce o l FUEL t with
    | some (t', c) => runHist rest t' (acc ++ toString c ++ " ")
    | none => none

/-! ## result lines of the operations of this file (the other printers are in `Codec.lean`) -/

/-- `apply`: the receiver after the call is part of the answer: on Err it must be the receiver before the call -/
def resApply (t : Term) : Term × Except TermError Unit → String
  | (t', .ok ()) => "ok " ++ showTerm t'
  | (t', .error e) => if t' == t then "err " ++ errName e else "err " ++ errName e ++ " CHANGED " ++ showTerm t'

/-- `applyb` -/
def resApplyB : Except TermError Term → String
  | .ok t' => if Term.maxIndex t' > USIZE_MAX then "PANIC" else "ok " ++ showTerm t'
  | .error e => "err " ++ errName e

/-- `reduceb` -/
def resReduceB : Option (Term × Nat) → String
  | some (t', c) => if Term.maxIndex t' > USIZE_MAX then "PANIC" else toString c ++ " " ++ showTerm t'
  | none => "fuel"

/-- `pred`: the supercombinator bit is only part of the answer for terms without UD (C18's quantifier) -/
def resPred (t : Term) : String :=
  let sc := if hasUD01 t then "-" else b01 t.isSupercombinator
  b01 t.hasFreeVariables ++ " " ++ sc ++ " " ++ toString t.maxDepth

/-- `acc`: the fifteen accessors -/
def resAcc (t : Term) : String :=
  let fam (uv : Except TermError Nat) (ua : Except TermError Term) (up : Except TermError (Term × Term))
      (lh rh : Except TermError Term) : String :=
    resNat uv ++ " | " ++ resTerm ua ++ " | " ++ resPair up ++ " | " ++ resTerm lh ++ " | " ++ resTerm rh
  fam t.unvar t.unabs t.unapp t.lhs t.rhs ++ " | " ++
    fam t.unvarRef t.unabsRef t.unappRef t.lhsRef t.rhsRef ++ " | " ++
    fam t.unvarMutGet t.unabsMutGet t.unappMutGet t.lhsMutGet t.rhsMutGet ++ " | unchanged 1"

/-- one operation, given as the words of its line -/
def execToks (toks : List String) : String :=
  match toks with
  | "apply" :: rest =>
    (do
      let (t, r1) ← decTerm rest
      let (a, _) ← decTerm r1
      pure (resApply t (Term.applyMut t a))).getD "bad-op"
  -- boundary operations: indices close to usize::MAX.  The crate refuses (panics) to create an index above usize::MAX;
  -- for a single substitution that happens exactly when the model's (unbounded) result contains such an index
  | "applyb" :: rest =>
    (do
      let (t, r1) ← decTerm rest
      let (a, _) ← decTerm r1
      pure (resApplyB (Term.apply t a))).getD "bad-op"
  | "reduceb" :: o :: rest =>
    (do
      let o' ← orderOf o
      let (t, _) ← decTerm rest
      pure (resReduceB (reduce o' 1 FUEL t))).getD "bad-op"
  | "reduce" :: o :: l :: rest =>
    (do
      let o' ← orderOf o
      let l' ← l.toNat?
      let (t, _) ← decTerm rest
      pure (resReduce (reduce o' l' FUEL t))).getD "bad-op"
  | "beta" :: o :: l :: rest =>
    (do
      let o' ← orderOf o
      let l' ← l.toNat?
      let (t, _) ← decTerm rest
      pure (resBeta (beta t o' l' FUEL))).getD "bad-op"
  | "hist" :: n :: rest =>
    (do
      let n' ← n.toNat?
      let (calls, r1) ← parseCalls n' rest
      let (t, _) ← decTerm r1
      pure ((runHist calls t "").getD "fuel")).getD "bad-op"
  | "pred" :: rest =>
    (do
      let (t, _) ← decTerm rest
      pure (resPred t)).getD "bad-op"
  | "iso" :: rest =>
    (do
      let (t, r1) ← decTerm rest
      let (u, _) ← decTerm r1
      pure (b01 (t.isIsomorphicTo u))).getD "bad-op"
  | "acc" :: rest =>
    (do
      let (t, _) ← decTerm rest
      pure (resAcc t)).getD "bad-op"
  | "put" :: which :: rest =>
    (do
      let (t, r1) ← decTerm rest
      match which with
      | "unvar" => do
        let v ← (← r1.head?).toNat?
        pure (resTerm (t.unvarMutPut v))
      | "unabs" => do
        let (v, _) ← decTerm r1
        pure (resTerm (t.unabsMutPut v))
      | "lhs" => do
        let (v, _) ← decTerm r1
        pure (resTerm (t.lhsMutPut v))
      | "rhs" => do
        let (v, _) ← decTerm r1
        pure (resTerm (t.rhsMutPut v))
      | "unapp" => do
        let (v1, r2) ← decTerm r1
        let (v2, _) ← decTerm r2
        pure (resTerm (t.unappMutPut (v1, v2)))
      | _ => none).getD "bad-op"
  | "mapp" :: k :: rest =>
    (do
      let k' ← k.toNat?
      let (ts, _) ← decTerms (k' + 1) rest
      match ts with
      | t0 :: more => pure (showTerm (appMany t0 more))
      | [] => none).getD "bad-op"
  | "mabs" :: n :: rest =>
    (do
      let n' ← n.toNat?
      let (t, _) ← decTerm rest
      pure (showTerm (absN n' t))).getD "bad-op"
  | ["udconst"] => showTerm Term.UD
  | _ => Drv2.exec2 toks

/-- one protocol line to one result line -/
def exec (line : String) : String := execToks (tokenize line)

end Drv
