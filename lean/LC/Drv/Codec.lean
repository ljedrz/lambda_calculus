/-
The pure codec of the line protocol (DESIGN §3.2): the functions that turn protocol words into model values
(terms, numbers, orders, encodings, tokens, expressions, characters) and model values into the printed result
line.  Shared by `LC/Drv/Ops1.lean` and `LC/Drv/Ops2.lean` (the two halves of `Drv.exec`); total (every function is checked for termination), so that
`LC/Proofs/DriverCodec.lean` and `LC/Props/TieCodec.lean` can state and prove that the codec carries values
faithfully.  Imports only `LC.Model.*`, so the executable still links natively.

The recursive decoders are written with an explicit fuel argument (structural recursion); the fuel supplied by the
wrappers is large enough for every input (every recursive call consumes at least one word), which is proved:
`Drv.decTerm_nil/_L/_A/_num`, `Drv.decExpr_cons`, ... in `LC/Proofs/DriverCodec*.lean` are exactly the defining
equations of the former recursive definitions (which were not checked for termination).
-/
import LC.Model.Term
import LC.Model.Reduce
import LC.Model.Encode
import LC.Model.Parser

open LC LC.Term LC.Parser

namespace Drv

/-! ## lines to words -/

/-- the pieces of `s` between the occurrences of the character `c` (`s.splitOn c` for a one-character separator,
written with `String.split`, for which core has lemmas: `String.toList_split_char`) -/
def splitChar (c : Char) (s : String) : List String := (s.split c).toList.map (·.copy)

/-- the words of a protocol line: the maximal runs of characters other than the space -/
def tokenize (line : String) : List String :=
  (splitChar ' ' line).filter (· ≠ "")

/-! ## terms -/

def encTerm (t : Term) (acc : String) : String :=
  match t with
  | .var n => acc ++ toString n
  | .abs b => encTerm b (acc ++ "L ")
  | .app l r => encTerm r (encTerm l (acc ++ "A ") ++ " ")

def showTerm (t : Term) : String := encTerm t ""

/-- parse one term from a token list (prefix words); `fuel` bounds the number of nested calls -/
def decTermF : Nat → List String → Option (Term × List String)
  | 0, _ => none
  | _+1, [] => none
  | f+1, "L" :: rest => do
    let (b, rest') ← decTermF f rest
    pure (.abs b, rest')
  | f+1, "A" :: rest => do
    let (l, r1) ← decTermF f rest
    let (r, r2) ← decTermF f r1
    pure (.app l r, r2)
  | _+1, n :: rest => do
    let k ← n.toNat?
    pure (.var k, rest)

/-- parse one term from a token list (prefix words) -/
def decTerm (ws : List String) : Option (Term × List String) := decTermF ws.length ws

def decTerms : Nat → List String → Option (List Term × List String)
  | 0, ts => some ([], ts)
  | n+1, ts => do
    let (t, r) ← decTerm ts
    let (more, r') ← decTerms n r
    pure (t :: more, r')

/-! ## orders, errors, results -/

def orderOf : String → Option Order
  | "NOR" => some .NOR | "CBN" => some .CBN | "HSP" => some .HSP | "HNO" => some .HNO
  | "APP" => some .APP | "CBV" => some .CBV | "HAP" => some .HAP | _ => none

def errName : TermError → String
  | .NotVar => "NotVar" | .NotAbs => "NotAbs" | .NotApp => "NotApp"

def resTerm : Except TermError Term → String
  | .ok t => "ok " ++ showTerm t
  | .error e => "err " ++ errName e

def resNat : Except TermError Nat → String
  | .ok n => "ok " ++ toString n
  | .error e => "err " ++ errName e

def resPair : Except TermError (Term × Term) → String
  | .ok (l, r) => "ok " ++ showTerm l ++ " , " ++ showTerm r
  | .error e => "err " ++ errName e

def b01 (b : Bool) : String := if b then "1" else "0"

def parseCalls : Nat → List String → Option (List (Order × Nat) × List String)
  | 0, ts => some ([], ts)
  | n+1, o :: l :: ts => do
    let o' ← orderOf o
    let l' ← l.toNat?
    let (cs, rest) ← parseCalls n ts
    pure ((o', l') :: cs, rest)
  | _, _ => none

/-! ## characters, tokens, names -/

/-- a character on the wire: `cp:flags:dig`, flags = 1 ws | 2 alpha | 4 alnum, dig = 16 for none -/
def decChar (s : String) : Option (Nat × Nat × Nat) :=
  match splitChar ':' s with
  | [a, b, c] => do pure (← a.toNat?, ← b.toNat?, ← c.toNat?)
  | _ => none

def decChars (n : Nat) (ts : List String) : Option (List (Nat × Nat × Nat)) :=
  (ts.take n).mapM decChar

def showErr : ParseError → String
  | .InvalidCharacter i c => "err IC " ++ toString i ++ " " ++ toString c
  | .InvalidExpression => "err IE"
  | .EmptyExpression => "err EE"

def showTok : Token → String
  | .Lambda => "L" | .Lparen => "(" | .Rparen => ")" | .Number n => "N" ++ toString n

def showName (n : List Nat) : String := ".".intercalate (n.map toString)

def showCTok : CToken → String
  | .CLambda n => "CL:" ++ showName n
  | .CLparen => "(" | .CRparen => ")"
  | .CName n => "CN:" ++ showName n

def decName (s : String) : Option (List Nat) :=
  if s.isEmpty then some [] else (splitChar '.' s).mapM (·.toNat?)

def decCTok (s : String) : Option CToken :=
  if s == "(" then some .CLparen
  else if s == ")" then some .CRparen
  else if s.startsWith "CL:" then CToken.CLambda <$> decName (s.drop 3).toString
  else if s.startsWith "CN:" then CToken.CName <$> decName (s.drop 3).toString
  else none

def decTok (s : String) : Option Token :=
  if s == "L" then some .Lambda
  else if s == "(" then some .Lparen
  else if s == ")" then some .Rparen
  else if s.startsWith "N" then Token.Number <$> (s.drop 1).toString.toNat?
  else none

/-! ## expression trees -/

/-- expressions on the wire, prefix form: `A` (Abstraction), `V<i>` (Variable), `S<n>` followed by n expressions -/
def showExpr : Expression → String
  | .Abstraction => "A"
  | .Variable i => "V" ++ toString i
  | .Sequence es => " ".intercalate (("S" ++ toString es.length) :: es.map showExpr)

mutual
def decExprF : Nat → List String → Option (Expression × List String)
  | 0, _ => none
  | _+1, [] => none
  | f+1, w :: rest =>
    if w == "A" then some (.Abstraction, rest)
    else if w.startsWith "V" then do
      let i ← (w.drop 1).toString.toNat?
      pure (.Variable i, rest)
    else if w.startsWith "S" then do
      let n ← (w.drop 1).toString.toNat?
      let (es, rest') ← decExprsF f n rest
      pure (.Sequence es, rest')
    else none
def decExprsF : Nat → Nat → List String → Option (List Expression × List String)
  | _, 0, ts => some ([], ts)
  | 0, _+1, _ => none
  | f+1, n+1, ts => do
    let (e, r) ← decExprF f ts
    let (more, r') ← decExprsF f n r
    pure (e :: more, r')
end

/-- fuel `2·|ws|` is enough for one expression: every call of `decExprF` consumes a word -/
def decExpr (ws : List String) : Option (Expression × List String) := decExprF (2 * ws.length) ws

/-- fuel `2·|ws| + 1` is enough for a sequence of expressions -/
def decExprs (n : Nat) (ws : List String) : Option (List Expression × List String) :=
  decExprsF (2 * ws.length + 1) n ws

/-! ## code-point strings, encodings, number lists -/

def showCps (s : List Nat) : String :=
  toString s.length ++ s.foldl (fun acc c => acc ++ " " ++ toString c) ""

def encOf : String → Option Enc.Encoding
  | "church" => some .Church | "scott" => some .Scott | "parigot" => some .Parigot
  | "stumpfu" => some .StumpFu | "binary" => some .Binary | _ => none

def decNats (n : Nat) (ts : List String) : Option (List Nat) := (ts.take n).mapM (·.toNat?)

/-! ## result lines of the lexer / parser / reducer operations -/

/-- `lexd`, and the token list of `conv` -/
def resToks : Except ParseError (List Token) → String
  | .ok ts => " ".intercalate ("ok" :: ts.map showTok)
  | .error e => showErr e

/-- `lexc` -/
def resCToks : Except ParseError (List CToken) → String
  | .ok ts => " ".intercalate ("ok" :: ts.map showCTok)
  | .error e => showErr e

/-- `conv` (`none`: the crate panics) -/
def resConv : Option (List Token) → String
  | some ts => " ".intercalate ("ok" :: ts.map showTok)
  | none => "PANIC"

/-- `ast` -/
def resAst : Except ParseError Expression → String
  | .ok e => "ok " ++ showExpr e
  | .error e => showErr e

/-- `fold` -/
def resFold : Except ParseError Term → String
  | .ok t => "ok " ++ showTerm t
  | .error e => showErr e

/-- `parse` -/
def resParse : Outcome → String
  | .ok t => "ok " ++ showTerm t
  | .err e => showErr e
  | .panic => "PANIC"

/-- `reduce` (`none`: the model ran out of fuel) -/
def resReduce : Option (Term × Nat) → String
  | some (t', c) => toString c ++ " " ++ showTerm t'
  | none => "fuel"

/-- `beta` -/
def resBeta : Option Term → String
  | some t' => showTerm t'
  | none => "fuel"

end Drv
